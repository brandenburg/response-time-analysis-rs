import RTA.Model.Basic
/-! Model of `arrival::Curve` (delta-min vectors) and `arrival::ArrivalCurvePrefix`
on plain lists.  `d[i]` = minimum length of an interval containing `i + 2` arrivals. -/

namespace RTA

/-- `Curve::lookup_arrivals`: first index `i` with `delta ≤ d[i]` gives `i + 1`
(`njobs - 1` with `njobs = i + 2`).  `none` = the `panic!()` after the loop. -/
def curveLookup : List Nat → Nat → Option Nat
  | [], _ => none
  | x :: xs, delta =>
    if delta ≤ x then some 1
    else (curveLookup xs delta).map (· + 1)

/-- `<Curve as ArrivalBound>::number_arrivals` -/
def curveN (d : List Nat) (delta : Nat) : Nat :=
  if delta = 0 then 0 else
  let last := d.getLastD 0
  -- `delta` = `pre` full multiples of the largest known distance + a remainder in `1 ..= last`
  let pre := (delta - 1) / last
  let prefixJobs := pre * d.length
  let tail := delta - last * pre
  if tail > d.headD 0 then prefixJobs + (curveLookup d tail).getD 0
  else prefixJobs + 1

/-- well-formed delta-min vector: non-empty, non-decreasing, last entry positive
(`Curve::new` asserts non-emptiness; `steps_iter` subtracts neighbours; `number_arrivals`
divides by the last entry) -/
def curveWF (d : List Nat) : Prop :=
  d ≠ [] ∧ d.Pairwise (· ≤ ·) ∧ 1 ≤ d.getLastD 0

instance (d : List Nat) : Decidable (curveWF d) := by unfold curveWF; infer_instance

/-- the non-zero differences `d[0] - 0, d[1] - d[0], …` (`step_sizes` in `steps_iter`) -/
def curveDiffs (d : List Nat) : List Nat :=
  (List.zipWith (fun a b => b - a) (0 :: d) d).filter (· ≠ 0)

/-- `StepsIter` of `Curve::steps_iter`: emit `sum`, add `diffs[idx]`, advance cyclically;
cut at `H` (models `take_while(|x| x ≤ H)`). -/
def curveStepsAux (diffs : List Nat) (H : Nat) : Nat → Nat → Nat → List Nat
  | 0, _, _ => []
  | fuel + 1, sum, idx =>
    if sum ≤ H then
      sum :: curveStepsAux diffs H fuel (sum + diffs.getD idx 0) ((idx + 1) % diffs.length)
    else []

def curveSteps (d : List Nat) (H : Nat) : List Nat :=
  curveStepsAux (curveDiffs d) H (H + 1) 1 0

/-- `Curve::extrapolate_next`: `max_{k ∈ 0..=n/2} d[k] + d[n-k-1]` -/
def extrapolateNext (d : List Nat) : Nat :=
  let n := d.length
  maxList ((List.range (n / 2 + 1)).map fun k => d.getD k 0 + d.getD (n - k - 1) 0)

/-- `Curve::extrapolate(horizon)`: push `extrapolate_next` while the last entry is below
the horizon (only if the vector has at least two entries).  `fuel` bounds the number of
pushes. -/
def extrapolate (d : List Nat) (horizon : Nat) : Nat → List Nat
  | 0 => d
  | fuel + 1 =>
    if d.length ≥ 2 ∧ d.getLastD 0 < horizon then
      extrapolate (d ++ [extrapolateNext d]) horizon fuel
    else d

/-- enough fuel for `extrapolate` on a well-formed vector: every `len + 1` pushes raise the
last entry (see `extrapolate_reaches`). -/
def extrapolateFuel (d : List Nat) (horizon : Nat) : Nat := (horizon + 1) * (d.length + 2)

/-- `Curve::extrapolate_steps(n)`: extend to at least `n` entries -/
def extrapolateSteps (d : List Nat) (n : Nat) : Nat → List Nat
  | 0 => d
  | fuel + 1 =>
    if d.length ≥ 2 ∧ d.length < n then extrapolateSteps (d ++ [extrapolateNext d]) n fuel
    else d

/-- `Curve::extrapolate_with_bound((delta, njobs))`; the `delta - 1` is a guard -/
def extrapolateWithBound (d : List Nat) (delta njobs : Nat) : List Nat :=
  let dmin := delta - 1
  if d.length + 2 = njobs then
    if d.length ≥ 2 then d ++ [max dmin (extrapolateNext d)] else d ++ [dmin]
  else d

/-- `Curve::min_distance(n)` -/
def minDistance (d : List Nat) (n : Nat) : Nat :=
  if n > 1 then d.getD (min (n - 2) (d.length - 1)) 0 else 0

/-- `FromIterator<Duration> for Curve`: running maximum -/
def curveFromIter : List Nat → List Nat
  | [] => []
  | x :: xs => go x xs
where go (m : Nat) : List Nat → List Nat
  | [] => [m]
  | y :: ys => m :: go (max m y) ys

/-- one arrival `t` of `Curve::from_trace`: update `d` against the sliding window
(most recent first). -/
def traceUpdate (d : List Nat) (windowRev : List Nat) (t : Nat) : List Nat :=
  go d windowRev
where go : List Nat → List Nat → List Nat
  | d, [] => d
  | [], v :: vs => (t - v) :: go [] vs
  | x :: xs, v :: vs => min x (t - v) :: go xs vs

/-- `Curve::from_trace(arrival_times, prefix_jobs)`; `windowRev` = sliding window, most
recent first, at most `p` entries. -/
def curveFromTraceAux (p : Nat) : List Nat → List Nat → List Nat → List Nat
  | [], d, _ => d
  | t :: ts, d, windowRev =>
    curveFromTraceAux p ts (traceUpdate d windowRev t) ((t :: windowRev).take p)

def curveFromTrace (trace : List Nat) (p : Nat) : List Nat :=
  curveFromTraceAux p trace [] []

/-! ### ArrivalCurvePrefix -/

/-- `ArrivalCurvePrefix::lookup` for `0 < delta`: the job count of the last step whose
delta is `≤ delta` (list order), `none` = index underflow (no such step). -/
def prefixLookup (steps : List (Nat × Nat)) (delta : Nat) : Option Nat :=
  go steps none
where go : List (Nat × Nat) → Option Nat → Option Nat
  | [], acc => acc
  | (dm, n) :: rest, acc => if dm ≤ delta then go rest (some n) else acc

/-- `<ArrivalCurvePrefix as ArrivalBound>::number_arrivals` -/
def prefixN (h : Nat) (steps : List (Nat × Nat)) (delta : Nat) : Nat :=
  let maxN := (steps.getLast?.map (·.2)).getD 0
  let part := delta % h
  maxN * (delta / h) + (if part = 0 then 0 else (prefixLookup steps part).getD 0)

/-- `ArrivalCurvePrefix::new` assertions plus realisability: first step at `delta = 1`,
deltas and job counts strictly increasing, everything inside the horizon. -/
def prefixWF (h : Nat) (steps : List (Nat × Nat)) : Prop :=
  1 ≤ h ∧ steps ≠ [] ∧ (steps.headD (0, 0)).1 = 1 ∧ 1 ≤ (steps.headD (0, 0)).2 ∧
  steps.Pairwise (fun a b => a.1 < b.1 ∧ a.2 < b.2) ∧ ∀ s ∈ steps, s.1 ≤ h

instance (h : Nat) (steps : List (Nat × Nat)) : Decidable (prefixWF h steps) := by
  unfold prefixWF; infer_instance

/-- `ArrivalCurvePrefix::steps_iter`, cut at `H`: `0` first (sic), then every step delta
shifted by whole horizons. -/
def prefixStepsAux (h : Nat) (steps : List (Nat × Nat)) (H : Nat) : Nat → Nat → List Nat
  | 0, _ => []
  | fuel + 1, cycle =>
    let cur := (steps.map fun s => s.1 + h * cycle).takeWhile (· ≤ H)
    if cur.length = steps.length then cur ++ prefixStepsAux h steps H fuel (cycle + 1) else cur

def prefixSteps (h : Nat) (steps : List (Nat × Nat)) (H : Nat) : List Nat :=
  0 :: prefixStepsAux h steps H (H + 1) 0

end RTA
