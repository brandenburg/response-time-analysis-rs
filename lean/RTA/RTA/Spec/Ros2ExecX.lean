import RTA.Spec.Ros2Exec
/-! Spec: the ROS 2 executor transition system of `RTA/Spec/Ros2Exec.lean` with ARBITRARY
execution times: `ex i t` is the execution time of the instance of callback `i` that starts in
slot `t` (an instance starts in exactly one slot and no two instances start in the same slot, so
every assignment of execution times to instances is of this form).  Everything else — timers
first, ready set refreshed only when empty, one instance per callback and polling window,
non-preemptive, service only in supplied slots — is unchanged and shared with `RTA.Exec`.
`Exec.run` is the special case `ex i _ = WCET of i` (`ExecX.run_wcet`, `Lemmas/ExecRefine.lean`). -/

namespace RTA.ExecX
open RTA.Exec

/-- the decision taken when the executor is idle in the supplied slot `t` -/
def pick (cbs : List Cb) (ex : Nat → Nat → Nat) (t : Nat) (s : State) : State :=
  match bestOf cbs (pendingTimers cbs s.queue) with
  | some i =>
    let (rel, q) := popInstance s.queue i
    { s with queue := q, running := some (i, ex i t, rel) }
  | none =>
    let ready := if s.ready.isEmpty then pendingPolled cbs s.queue else s.ready
    match bestOf cbs ready with
    | some i =>
      let (rel, q) := popInstance s.queue i
      { queue := q, ready := ready.erase i, running := some (i, ex i t, rel) }
    | none => { s with ready := ready }

/-- one slot (as `Exec.step`, execution times from `ex`) -/
def step (cbs : List Cb) (ex : Nat → Nat → Nat) (chain : Nat → Option Nat) (t : Nat) (sup : Bool)
    (rel : List Nat) (s : State) : State × Option (Nat × Nat × Nat) :=
  let s1 := { s with queue := addReleases s.queue rel t }
  if !sup then (s1, none) else
  let s2 := match s1.running with
    | some _ => s1
    | none => pick cbs ex t s1
  match s2.running with
  | none => (s2, none)
  | some (i, rem, r) =>
    if rem ≤ 1 then
      let q := match chain i with
        | some j => addReleases s2.queue [j] (t + 1)
        | none => s2.queue
      ({ s2 with queue := q, running := none }, some (i, r, t + 1))
    else ({ s2 with running := some (i, rem - 1, r) }, none)

/-- run over a finite horizon; collects the completed instances `(callback, release, completion)` -/
def run (cbs : List Cb) (ex : Nat → Nat → Nat) (chain : Nat → Option Nat) (sigma : List Bool)
    (rels : Nat → List Nat) : List (Nat × Nat × Nat) :=
  let rec go : List Bool → Nat → State → List (Nat × Nat × Nat)
    | [], _, _ => []
    | b :: bs, t, s =>
      let (s', out) := step cbs ex chain t b (rels t) s
      match out with
      | some o => o :: go bs (t + 1) s'
      | none => go bs (t + 1) s'
  go sigma 0 (State.init cbs.length)

end RTA.ExecX
