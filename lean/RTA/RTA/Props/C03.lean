import RTA.Lemmas.FifoSound
/-! # C03 — the FIFO RTA is safe for every task and every legal schedule

Spec: `RTA/Spec/Sched.lean` (discrete-time schedule on a dedicated unit-speed processor,
`FifoLegal`: valid, work conserving, always serves a pending job with the earliest release,
ties arbitrary; `TaskCompliant`, and over it `Compliant` of `Lemmas/FifoSound.lean`: every
task's release sequence is admissible for its arrival model and every run of consecutive jobs
respects its cost model).  Model: `fifoRta` = `fifo::dedicated_uniproc_rta`. -/

namespace RTA.C03
open RTA RTA.Sched

/-- C03: if the FIFO analysis returns `Ok(R)` for the task set, then under FIFO scheduling
every job of every task completes within `R` of its release — for all compliant release
sequences (jitter, bursts), all execution times allowed by the cost models, all
tie-breaks among simultaneous releases, every divergence limit -/
theorem fifo_rta_safe (s : Sys) (hl : FifoLegal s) (ts : List (Arr × Cost))
    (hwf : ∀ p ∈ ts, p.1.WF ∧ p.2.WF) (hex : ∀ p ∈ ts, p.1.Exact ∧ p.2.StrictPos)
    (hc : Compliant s ts) (limit R : ℕ) (hR : fifoRta (taskSetRB ts) limit = .ok R) :
    ∀ j, j < s.n → MeetsBound s j R := fifo_sound_taskset s hl ts hwf hex hc limit R hR

/-- the same for any request bound that bounds the workload of every window (covers
user-defined demand models) -/
theorem fifo_rta_safe_of_workload_bound (s : Sys) (hl : FifoLegal s) (tasks : RB)
    (hwf : tasks.ArrWF) (hex : tasks.Exact)
    (hwork : ∀ t d, work s t (t + d) ≤ tasks.need d) (limit R : ℕ)
    (hR : fifoRta tasks limit = .ok R) : ∀ j, j < s.n → MeetsBound s j R :=
  fifo_rta_sound s hl tasks hwf hex hwork limit R hR

/-- curve compliance of the releases and cost compliance of the execution times imply the
workload bound used above -/
theorem compliant_workload_bound (s : Sys) (ts : List (Arr × Cost)) (hwf : ∀ p ∈ ts, p.1.WF ∧ p.2.WF)
    (h : Compliant s ts) (t d : ℕ) : work s t (t + d) ≤ (taskSetRB ts).need d :=
  work_le_need s ts hwf h t d

/-- non-vacuity: a concrete system with a legal FIFO schedule -/
def exSys : Sys :=
  { n := 1, task := fun _ => 0, arr := fun _ => 2, cost := fun _ => 3, np := fun _ _ => False,
    sched := fun t => if 2 ≤ t ∧ t < 5 then some 0 else none }

theorem exSys_svc (t : ℕ) : svc exSys 0 t = min (t - 2) 3 := by
  induction t with
  | zero => rfl
  | succ t ih =>
    have hs : exSys.sched t = if 2 ≤ t ∧ t < 5 then some 0 else none := rfl
    simp only [svc, ih, hs]
    by_cases h : 2 ≤ t ∧ t < 5
    · simp only [h, and_self, if_true]; omega
    · simp only [h, if_false]
      have : (if (none : Option ℕ) = some 0 then 1 else 0) = 0 := by simp
      rw [this]; omega

example : FifoLegal exSys := by
  refine { valid := ?_, wc := ?_, fifo := ?_ }
  · intro t j h
    simp only [exSys] at h
    split at h
    · injection h with h; subst h
      refine ⟨by simp [exSys], ?_⟩
      simp only [Pending, exSys_svc]
      simp only [exSys]; omega
    · cases h
  · rintro t ⟨k, hk, hp⟩
    have hk0 : k = 0 := by simp only [exSys] at hk; omega
    subst hk0
    simp only [Pending, exSys_svc] at hp
    simp only [exSys] at hp
    refine ⟨0, ?_⟩
    simp only [exSys]
    have : 2 ≤ t ∧ t < 5 := by omega
    simp [this]
  · intro t j _ k _ _
    simp [exSys]

end RTA.C03
