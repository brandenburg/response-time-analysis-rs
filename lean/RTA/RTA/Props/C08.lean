import RTA.Lemmas.FixedPoint
import RTA.Lemmas.Supply
/-! # C08 — the fixed-point search returns the least solution or reports divergence

Model: `RTA/Model/FixedPoint.lean`
(`searchWithOffset`, `search`, `bruteForceSearch`, `maxResponseTime`) over the supplies of
`RTA/Model/Supply.lean`, which include `viaDefault` = a user-defined supply served by the
trait's default `service_time`. -/

namespace RTA.C08

open RTA

/-- `searchWithOffset` returns `ok r` exactly for the least `r` with
`w (max r 1) ≤ sbf (offset + r)`, provided that `r` does not exceed the limit and the limit is
at least 1 (the last conjunct; cf. `limit_zero_diverges`). -/
theorem search_ok_iff (s : Supply) (hs : s.WF) (w : Nat → Nat) (hw : Mono w)
    (offset limit : Nat) (hoff : InBusyWindow s.stClosed w offset) (r : Nat) :
    searchWithOffset s offset limit w = .ok r ↔
      (r ≤ limit ∧ Sol s.sbf w offset r ∧ ∀ r', Sol s.sbf w offset r' → r ≤ r') ∧ 1 ≤ limit := by
  rcases s.search_spec hs w hw offset limit hoff with ⟨r0, h0, hsol, hleast, hle⟩ | ⟨hdiv, hnone⟩
  · rw [h0]
    constructor
    · intro h
      injection h with h
      subst h
      refine ⟨⟨hle, hsol, hleast⟩, ?_⟩
      -- the loop body ran, so limit ≥ 1
      rcases Nat.eq_zero_or_pos limit with hl0 | hl
      · subst hl0
        rw [searchWithOffset_limit_zero] at h0
        cases h0
      · exact hl
    · rintro ⟨⟨_, hsol', hleast'⟩, _⟩
      have h1 := hleast r hsol'
      have h2 := hleast' r0 hsol
      have : r0 = r := by omega
      rw [this]
  · rw [hdiv]
    constructor
    · intro h; cases h
    · rintro ⟨⟨hle, hsol, _⟩, h1⟩
      have := hnone r hsol
      exfalso
      omega

/-- the divergence error (carrying the offset and the limit) is returned exactly when no
solution `r ≤ limit` exists (for `limit ≥ 1`; see `limit_zero_diverges` for the corner) -/
theorem search_div_iff (s : Supply) (hs : s.WF) (w : Nat → Nat) (hw : Mono w)
    (offset limit : Nat) (hoff : InBusyWindow s.stClosed w offset) (hl : 1 ≤ limit) :
    searchWithOffset s offset limit w = .div offset limit ↔
      ∀ r, r ≤ limit → ¬ Sol s.sbf w offset r := by
  rcases s.search_spec hs w hw offset limit hoff with ⟨r0, h0, hsol, hleast, hle⟩ | ⟨hdiv, hnone⟩
  · rw [h0]
    constructor
    · intro h; cases h
    · intro h
      exact absurd hsol (h r0 hle)
  · rw [hdiv]
    constructor
    · intro _ r hr hsol
      have := hnone r hsol
      omega
    · intro _; rfl

/-- the search never fails a guard on well-formed input -/
theorem search_total (s : Supply) (hs : s.WF) (w : Nat → Nat) (hw : Mono w)
    (offset limit : Nat) (hoff : InBusyWindow s.stClosed w offset) :
    searchWithOffset s offset limit w ≠ .panic :=
  s.search_ne_panic hs w hw offset limit hoff

/-- no demand: `Ok(0)` -/
theorem search_zero_demand (s : Supply) (hs : s.WF) (w : Nat → Nat) (hw : Mono w)
    (offset limit : Nat) (hoff : InBusyWindow s.stClosed w offset) (hl : 1 ≤ limit)
    (h0 : w 1 = 0) : searchWithOffset s offset limit w = .ok 0 := by
  rw [search_ok_iff s hs w hw offset limit hoff]
  refine ⟨⟨by omega, ?_, by intros; omega⟩, hl⟩
  unfold Sol
  simp [h0]

/-- an `Ok` result never changes when the limit is raised -/
theorem search_limit_stable (s : Supply) (hs : s.WF) (w : Nat → Nat) (hw : Mono w)
    (offset limit limit' : Nat) (hoff : InBusyWindow s.stClosed w offset)
    (hll : limit ≤ limit') (r : Nat)
    (h : searchWithOffset s offset limit w = .ok r) :
    searchWithOffset s offset limit' w = .ok r := by
  rw [search_ok_iff s hs w hw offset limit hoff] at h
  rw [search_ok_iff s hs w hw offset limit' hoff]
  obtain ⟨⟨h1, h2, h3⟩, h4⟩ := h
  exact ⟨⟨by omega, h2, h3⟩, by omega⟩

/-- Known finding K4 (the reason for `1 ≤ limit` above): with `limit = 0` the loop body
never runs and the search reports divergence even if `r = 0` is a solution. -/
theorem limit_zero_diverges (s : Supply) (w : Nat → Nat) (offset : Nat) :
    searchWithOffset s offset 0 w = .div offset 0 :=
  searchWithOffset_limit_zero s w offset

/-- `max_response_time`: zero for an empty sequence -/
theorem maxResponseTime_nil : maxResponseTime [] = .ok 0 := rfl

/-- `max_response_time` of results (without guard failures): the first error if there is
one, otherwise the maximum (`firstErr`, `maxOk`: the obvious recursive definitions in
`RTA/Lemmas/FixedPoint.lean`). -/
theorem maxResponseTime_spec (rs : List Res) (hnp : ∀ x ∈ rs, x ≠ .panic) :
    maxResponseTime rs =
      match firstErr rs with
      | some e => e
      | none => .ok (maxOk rs) :=
  _root_.RTA.maxResponseTime_spec rs hnp

/-- the trait's default `service_time` (jump-ahead loop) returns the exact inverse of
`provided_service` for every well-formed supply, and terminates -/
theorem defaultServiceTime_spec (s : Supply) (hs : s.WF) (d : Nat) :
    (Supply.viaDefault s).st? d = some (s.stClosed d) ∧
      ∀ t, s.stClosed d ≤ t ↔ d ≤ s.sbf t := by
  refine ⟨Supply.st?_eq (.viaDefault s) hs d, fun t => ?_⟩
  exact Supply.galois s hs d t

/-- the debug-only brute-force scan agrees with the search (so the `debug_assert_eq!` in
`fixed_point::search` cannot fire) -/
theorem bruteForce_eq_search (s : Supply) (hs : s.WF) (w : Nat → Nat) (hw : Mono w)
    (limit : Nat) (hoff : InBusyWindow s.stClosed w 0) :
    bruteForceSearch s 0 limit w = search s limit w := by
  have h0 := Supply.sbf_zero s hs
  have hl := Supply.sbf_lipschitz s hs
  unfold search bruteForceSearch
  rcases Nat.eq_zero_or_pos limit with hl0 | hlim
  · subst hl0
    rw [limit_zero_diverges]
    rfl
  rcases Nat.eq_zero_or_pos (w 1) with hw1 | hw1
  · rw [search_zero_demand s hs w hw 0 limit hoff hlim hw1]
    obtain ⟨k, rfl⟩ : ∃ k, limit = k + 1 := ⟨limit - 1, by omega⟩
    unfold bruteLoop
    simp [hw1]
  · obtain ⟨hb1, hb2⟩ := bruteLoop_spec s.sbf w limit hl hw limit 1 (Nat.le_refl _)
      (by rw [h0]; exact hw1)
    rcases s.search_spec hs w hw 0 limit hoff with ⟨r0, hr0, hsol, hleast, hle⟩ | ⟨hdiv, hnone⟩
    · rw [hr0]
      have h1 : 1 ≤ r0 := by
        rcases Nat.eq_zero_or_pos r0 with h | h
        · subst h
          unfold Sol at hsol
          simp at hsol
          omega
        · exact h
      exact hb1 r0 h1 (by omega) hsol (fun r' _ hlt hs' => by have := hleast r' hs'; omega)
    · rw [hdiv]
      exact hb2 (fun r0 a b hs' => by have := hnone r0 hs'; omega)

/-- non-vacuity: a concrete well-formed supply and monotone workload on which the search at
offset 0 returns `Ok(21)` -/
example : (Supply.constrained 2 3 5).WF ∧ Mono (fun x => 3 + x / 4) ∧
    searchWithOffset (.constrained 2 3 5) 0 100 (fun x => 3 + x / 4) = .ok 21 := by
  refine ⟨by decide, ?_, by decide⟩
  intro a b h
  show 3 + a / 4 ≤ 3 + b / 4
  omega

end RTA.C08
