import RTA.Lemmas.Agree
import RTA.Lemmas.FifoLeEs
import RTA.Props.C09
/-! # C19 — analyses agree with each other on their common special cases

FP and EDF: the limited-preemptive analysis with last segment 1 (and no blocking / all other
segments at most 1) is the fully preemptive one, with last segment = WCET the non-preemptive one;
the floating analysis is the limited one with last segment 1.  Non-preemptive EDF with equal
deadlines against FIFO (`max_np_edf_eq_fifo`); full-budget reservations against the dedicated
processor (`ros_full_supplies_agree`); event source against FIFO (`event_source_eq_fifo_partial`;
K3: `fifo_le_event_source`, `counterexample_K3`). -/

namespace RTA.C19
open RTA RTA.Spec

theorem fp_limited_last1_noblocking_eq_preemptive (a : Arr) (C : Nat) (others : List RB) (limit : Nat) :
    fpLimited a C 1 0 others limit = fpPreemptive (.rbf a (.scalar C)) others limit := by
  simp [fpLimited, fpPreemptive]

theorem fp_limited_lastC_eq_nonpreemptive (a : Arr) (C B : Nat) (others : List RB) (limit : Nat) (hC : 1 ≤ C) :
    fpLimited a C C B others limit = fpNonpreemptive a C B others limit := by
  have h1 : C - (C - (C - 1)) = C - 1 := by omega
  have h2 : decide (C < 1 ∨ C < C - 1) = decide (C < 1) := by
    apply decide_eq_decide.2; omega
  simp only [fpLimited, fpNonpreemptive, h1, h2]

theorem fp_floating_eq_limited_last1 (a : Arr) (C B : Nat) (others : List RB) (limit : Nat) :
    fpFloating (.rbf a (.scalar C)) B others limit = fpLimited a C 1 B others limit := by
  simp [fpLimited, fpFloating]

open AgreeLemmas in
theorem edf_limited_seg1_eq_preemptive (a : Arr) (C D : Nat) (others : List EdfTask) (limit : Nat)
    (h : ∀ o ∈ others, o.seg ≤ 1) :
    edfLimited a C D 1 others limit = edfPreemptive (.rbf a (.scalar C)) D others limit := by
  unfold edfLimited edfPreemptive
  rw [edfCore_wb_irrelevant _ _ _ _ _ _ (edfBlocking_zero others h D)]
  simp

theorem edf_limited_segC_eq_nonpreemptive (a : Arr) (C D : Nat) (others : List EdfTask) (limit : Nat)
    (hC : 1 ≤ C) : edfLimited a C D C others limit = edfNonpreemptive a C D others limit := by
  have h1 : C - (C - (C - 1)) = C - 1 := by omega
  have h2 : decide (C < 1 ∨ C < C - 1) = decide (C < 1) := by
    apply decide_eq_decide.2; omega
  simp only [edfLimited, edfNonpreemptive, h1, h2]

theorem edf_floating_eq_limited_last1 (a : Arr) (C D : Nat) (others : List EdfTask) (limit : Nat) :
    edfFloating (.rbf a (.scalar C)) D others limit = edfLimited a C D 1 others limit := by
  simp [edfLimited, edfFloating]

open AgreeLemmas PruneCoreLemmas PruneFPLemmas in
/-- with equal relative deadlines the largest non-preemptive-EDF bound over all tasks
equals the FIFO bound -/
theorem max_np_edf_eq_fifo (ts : List (Arr × Nat)) (D limit R : Nat)
    (hwf : ∀ p ∈ ts, p.1.WF ∧ p.1.Exact ∧ 1 ≤ p.2 ∧ 0 < p.1.N 1) (hl : 1 ≤ limit)
    (hR : fifoRta (fifoOfTasks ts) limit = .ok R) :
    (∀ i, i < ts.length → ∃ Ri, edfNonpreemptive (ts.getD i default).1 (ts.getD i default).2 D
        (npEdfOthers ts D i) limit = .ok Ri ∧ Ri ≤ R) ∧
    (ts ≠ [] → ∃ i, i < ts.length ∧ edfNonpreemptive (ts.getD i default).1 (ts.getD i default).2 D
        (npEdfOthers ts D i) limit = .ok R) := by
  obtain ⟨hwfT, hexT⟩ := fifoOfTasks_ok ts hwf
  have hRn := hR
  rw [fifo_eq_naive _ hwfT hexT limit hl] at hRn
  unfold naiveFifo at hRn
  rcases naiveSolve_cases (fun L => (fifoOfTasks ts).need L) limit with ⟨L, hL⟩ | hd
  · rw [hL] at hRn
    injection hRn with hRn
    have hRall : ∀ A, A < L → (fifoOfTasks ts).need (A + 1) - A ≤ R := by
      intro A hA
      rw [← hRn]
      exact le_maxList_of_mem _ _ (List.mem_map.2 ⟨A, List.mem_range.2 hA, rfl⟩)
    refine ⟨?_, ?_⟩
    · intro i hi
      obtain ⟨Ri, h1, h2, _⟩ := npEdf_task ts D limit L R hwf hl hL hRall i hi
      exact ⟨Ri, h1, h2⟩
    · intro hne
      obtain ⟨A, i, hA, hi, hinc, hAR⟩ := fifo_attained_at_step ts hwf limit L R hl hne hL hR
      obtain ⟨Ri, h1, h2, h3⟩ := npEdf_task ts D limit L R hwf hl hL hRall i hi
      have := h3 A hA hinc
      exact ⟨i, hi, (show Ri = R by omega) ▸ h1⟩
  · rw [hd] at hRn
    cases hRn

/-- every ROS 2 analysis gives the same result for a dedicated processor, a periodic
reservation with budget = period and a constrained reservation with budget = deadline =
period -/
theorem ros_full_supplies_agree (P : Nat) (hP : 1 ≤ P) :
    (∀ demand limit, rosEventSource (.periodic P P) demand limit = rosEventSource .dedicated demand limit ∧
      rosEventSource (.constrained P P P) demand limit = rosEventSource .dedicated demand limit) ∧
    (∀ own interf B limit, rosTimer (.periodic P P) own interf B limit = rosTimer .dedicated own interf B limit ∧
      rosTimer (.constrained P P P) own interf B limit = rosTimer .dedicated own interf B limit) ∧
    (∀ own interf limit, rosPollingPoint (.periodic P P) own interf limit = rosPollingPoint .dedicated own interf limit ∧
      rosPollingPoint (.constrained P P P) own interf limit = rosPollingPoint .dedicated own interf limit) ∧
    (∀ last pfx full others limit,
      rosChain (.periodic P P) last pfx full others limit = rosChain .dedicated last pfx full others limit ∧
      rosChain (.constrained P P P) last pfx full others limit = rosChain .dedicated last pfx full others limit) ∧
    (∀ wl sub limit, rrSubchain (.periodic P P) wl sub limit = rrSubchain .dedicated wl sub limit ∧
      rrSubchain (.constrained P P P) wl sub limit = rrSubchain .dedicated wl sub limit) ∧
    (∀ wl sub limit dbg, bwSubchain (.periodic P P) wl sub limit dbg = bwSubchain .dedicated wl sub limit dbg ∧
      bwSubchain (.constrained P P P) wl sub limit dbg = bwSubchain .dedicated wl sub limit dbg) := by
  have hf := RTA.C09.full_budget_eq_dedicated P hP
  have hp := ros_congr (.periodic P P) .dedicated (funext fun x => (hf x).1)
    (funext fun x => (hf x).2.1)
  have hc := ros_congr (.constrained P P P) .dedicated (funext fun x => (hf x).2.2.1)
    (funext fun x => (hf x).2.2.2)
  exact ⟨fun d l => ⟨hp.1 d l, hc.1 d l⟩, fun o i b l => ⟨hp.2.1 o i b l, hc.2.1 o i b l⟩,
    fun o i l => ⟨hp.2.2.1 o i l, hc.2.2.1 o i l⟩,
    fun a b c d l => ⟨hp.2.2.2.1 a b c d l, hc.2.2.2.1 a b c d l⟩,
    fun w s l => ⟨hp.2.2.2.2.1 w s l, hc.2.2.2.2.1 w s l⟩,
    fun w s l d => ⟨hp.2.2.2.2.2 w s l d, hc.2.2.2.2.2 w s l d⟩⟩

/-- the event-source analysis equals the FIFO analysis on a dedicated processor (partial:
when the demand does not jump by more than the bound right after the busy window) -/
theorem event_source_eq_fifo_partial (r : RB) (hwf : r.ArrWF) (hex : r.Exact) (limit L R : Nat)
    (hl : 1 ≤ limit) (hL : naiveSolve (fun x => r.need x) limit = .ok L) (hR : fifoRta r limit = .ok R)
    (hjump : r.need (L + 1) ≤ L + R) :
    rosEventSource .dedicated r limit = .ok R := by
  rw [fifo_eq_naive r hwf hex limit hl] at hR
  rw [eventSource_eq_naive .dedicated trivial r hwf hex limit hl]
  exact naiveEventSource_eq_fifo r (RB.need_mono r hwf hex) limit L R hL hR hjump

/-- finding K3, the direction that always holds: the event-source bound on a dedicated processor
is never smaller than the FIFO bound (it examines the additional offset `A = L`), and a FIFO
error is an event-source error -/
theorem fifo_le_event_source (r : RB) (hwf : r.ArrWF) (hex : r.Exact) (limit : Nat) (hl : 1 ≤ limit) :
    Res.leD (fifoRta r limit) (rosEventSource .dedicated r limit) :=
  RTA.fifo_le_event_source r hwf hex limit hl

/-- finding K3: without the side condition they differ (`Curve [4,4,9]`, WCET 4: 8 vs 4),
because `bound_response_time` also examines the offset `A = L` -/
theorem counterexample_K3 :
    rosEventSource .dedicated (.rbf (.curve [4, 4, 9]) (.scalar 4)) 100 ≠
      fifoRta (.rbf (.curve [4, 4, 9]) (.scalar 4)) 100 := by
  decide

end RTA.C19
