import RTA.Lemmas.Demand
/-! # C16 — request-bound functions compose arrival and cost models additively

Model: `RTA/Model/Demand.lean`: `RB.rbf a c` = `demand::RBF`, `RB.agg rs` =
`demand::Aggregate` / `demand::Slice`, nested arbitrarily (`Box`, `&`, `Rc` wrappers are
delegation). -/

namespace RTA.C16

/-- an RBF's `service_needed(delta)` is the cost of `number_arrivals(delta)` jobs -/
theorem rbf_service_needed (a : Arr) (c : Cost) (d : Nat) :
    (RB.rbf a c).need d = c.ofJobs (a.N d) := by rw [RB.need]

/-- `job_cost_iter(delta)` sums to `service_needed(delta)` -/
theorem job_costs_sum (r : RB) (hwf : r.WF) (d : Nat) : sumList (r.jobCosts d) = r.need d :=
  RB.jobCosts_sum r hwf d

/-- for `Aggregate` and `Slice`, `service_needed` is the sum over the components -/
theorem aggregate_service_needed (rs : List RB) (d : Nat) :
    (RB.agg rs).need d = sumList (rs.map (·.need d)) := RB.need_agg rs d

/-- `least_wcet_in_interval` is no larger than the smallest job cost of any component in
the interval -/
theorem least_wcet_le_every_job (r : RB) (hwf : r.WF) (d : Nat) :
    ∀ x ∈ r.jobCosts d, r.leastWcet d ≤ x := DemandLemmas.leastWcet_le_jobCost_joint.1 r hwf d

/-- the aggregate's `least_wcet_in_interval` is no larger than that of any component -/
theorem aggregate_least_wcet_le_component (rs : List RB) (d : Nat) (r : RB) (hr : r ∈ rs) :
    (RB.agg rs).leastWcet d ≤ r.leastWcet d := RB.leastWcet_agg_le rs d r hr

/-- `service_needed_by_n_jobs` is non-decreasing in `n`, never exceeds `service_needed`,
equals it once `n` reaches the number of jobs -/
theorem by_n_jobs_laws (r : RB) (hwf : r.WF) (d : Nat) :
    (∀ n m, n ≤ m → r.needByN d n ≤ r.needByN d m) ∧
    (∀ n, r.needByN d n ≤ r.need d) ∧
    (∀ n, (r.jobCosts d).length ≤ n → r.needByN d n = r.need d) :=
  ⟨fun n m h => RB.needByN_mono r d n m h, fun n => RB.needByN_le_need r hwf d n,
    fun n h => RB.needByN_eq_need r hwf d n h⟩

/-- … and equals the sum of the `n` largest job costs -/
theorem by_n_jobs_is_n_largest (r : RB) (d n : Nat) :
    (∀ s : List Nat, s.Sublist (r.jobCosts d) → s.length ≤ n → sumList s ≤ r.needByN d n) ∧
    (∃ s : List Nat, s.Perm ((sortDesc (r.jobCosts d)).take n) ∧ s.length ≤ n ∧
        sumList s = r.needByN d n) :=
  ⟨fun s hs hn => take_sortDesc_max _ s n hs hn, (sortDesc (r.jobCosts d)).take n, List.Perm.refl _,
    by rw [List.length_take]; exact Nat.min_le_left _ _, rfl⟩

/-- the per-component variant equals the sum of the components' restricted demands -/
theorem per_component (rs : List RB) (d n : Nat) :
    (RB.agg rs).needByNPerComponent d n = sumList (rs.map fun r => r.needByN d n) := by
  rw [RB.needByNPerComponent]

example : (RB.agg [.rbf (.sporadic 5 2) (.multiframe [3, 1]), .agg [.rbf (.curve [2, 9]) (.scalar 4)]]).WF := by
  decide

end RTA.C16
