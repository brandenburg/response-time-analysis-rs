import RTA.Spec.PoissonReal
import RTA.Lemmas.PoissonLemmas
/-! # C15 — the approximated Poisson bound is the (1-ε) quantile

Theorems about the real-valued algorithm (`RTA/Spec/PoissonReal.lean`): it terminates for
every mean and every `ε > 0`, returns the smallest `n` with `P[N ≤ n] ≥ 1 - ε`, is 0
at `Δ = 0` and non-decreasing in `Δ`; `pmf` is the Poisson probability mass function.
The `f64` implementation is NOT covered by these theorems: it is tied to an IEEE-double
model (`RTA/Model/Poisson.lean`) by bit-exact correspondence and compared with a
high-precision oracle by the falsifier (finding F4: for means in the hundreds the `f64`
code returns wrong, non-monotone values, and does not terminate when `exp(-mean)`
underflows). -/

open Finset

namespace RTA.C15
open RTA.PoissonReal

/-- `pmf` is non-negative … -/
theorem pmf_nonneg (m : ℝ) (hm : 0 ≤ m) (k : ℕ) : 0 ≤ pmf m k :=
  PoissonLemmas.pmf_nonneg m hm k

/-- … and sums to 1: it is the Poisson probability mass function -/
theorem pmf_hasSum (m : ℝ) : HasSum (pmf m) 1 :=
  PoissonLemmas.pmf_hasSum m

/-- the cumulative probability is non-decreasing in `n`, at most 1, and comes within every
`ε > 0` of 1 (next two theorems) -/
theorem cdf_mono (m : ℝ) (hm : 0 ≤ m) (n n' : ℕ) (h : n ≤ n') : cdf m n ≤ cdf m n' :=
  Finset.sum_le_sum_of_subset_of_nonneg (range_mono (Nat.succ_le_succ h))
    fun k _ _ => PoissonLemmas.pmf_nonneg m hm k

theorem cdf_le_one (m : ℝ) (hm : 0 ≤ m) (n : ℕ) : cdf m n ≤ 1 :=
  sum_le_hasSum _ (fun k _ => PoissonLemmas.pmf_nonneg m hm k) (PoissonLemmas.pmf_hasSum m)

theorem cdf_eventually (m ε : ℝ) (hm : 0 ≤ m) (hε : 0 < ε) : ∃ n, 1 ≤ cdf m n + ε :=
  PoissonLemmas.cdf_eventually m ε hm hε

/-- started at `(cum, njobs) = (0, 0)` with fuel `n + 1`, the loop returns the least `n` with
`cdf m n + ε ≥ 1` -/
theorem loop_spec (m ε : ℝ) (n : ℕ) (hn : 1 ≤ cdf m n + ε) (hleast : ∀ k, k < n → cdf m k + ε < 1) :
    loop m ε (n + 1) 0 0 = some n :=
  PoissonLemmas.loop_spec m ε n hn hleast

/-- C15 (real-valued algorithm): for every rate `r ≥ 0`, every `ε > 0` and every interval
length the algorithm terminates and returns the smallest `n` whose cumulative Poisson
probability for mean `r * Δ` is at least `1 - ε` -/
theorem number_arrivals_is_quantile (r ε : ℝ) (hr : 0 ≤ r) (hε : 0 < ε) (delta : ℕ) (hd : 1 ≤ delta) :
    ∃ n fuel, numberArrivals r ε delta fuel = some n ∧
      1 - ε ≤ cdf ((delta : ℝ) * r) n ∧ ∀ k, k < n → cdf ((delta : ℝ) * r) k < 1 - ε :=
  PoissonLemmas.number_arrivals_is_quantile r ε hr hε delta hd

/-- it is 0 for `Δ = 0` -/
theorem number_arrivals_zero (r ε : ℝ) (fuel : ℕ) : numberArrivals r ε 0 fuel = some 0 :=
  PoissonLemmas.number_arrivals_zero r ε fuel

/-- the cumulative probability `P[N ≤ n]` is non-increasing in the mean -/
theorem cdf_antitone_mean (n : ℕ) (m m' : ℝ) (hm : 0 ≤ m) (h : m ≤ m') : cdf m' n ≤ cdf m n :=
  PoissonLemmas.cdf_antitone_mean n m m' hm h

/-- hence the quantile is non-decreasing in the interval length -/
theorem quantile_mono (r ε : ℝ) (hr : 0 ≤ r) (hε : 0 < ε) (d d' : ℕ) (h : d ≤ d') (n n' : ℕ)
    (hq : 1 - ε ≤ cdf ((d : ℝ) * r) n ∧ ∀ k, k < n → cdf ((d : ℝ) * r) k < 1 - ε)
    (hq' : 1 - ε ≤ cdf ((d' : ℝ) * r) n' ∧ ∀ k, k < n' → cdf ((d' : ℝ) * r) k < 1 - ε) :
    n ≤ n' :=
  PoissonLemmas.quantile_mono r ε hr hε d d' h n n' hq hq'

end RTA.C15
