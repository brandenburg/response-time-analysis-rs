import RTA.Lemmas.Extrapolate
import RTA.Lemmas.XCurveLTS
/-! # C13 — curve extrapolation is conservative, only tightens, and is invisible as a cache

Model: `extrapolate`, `extrapolateSteps`, `extrapolateWithBound` (`RTA/Model/Curve.lean`),
`xcurveN`/`xcurveSteps` (the pure semantics of `ExtrapolatingCurve`, `RTA/Model/Arrival.lean`)
and the cache state machine `RTA/Model/XCurve.lean`.  `iterExt d n` = the prefix `d` extended
`n` times (`RTA/Lemmas/Extrapolate.lean`). -/

namespace RTA.C13
open RTA RTA.Spec

/-- `extrapolate` / `extrapolate_steps` only append: all values inside the original prefix
are unchanged -/
theorem prefix_unchanged (d : List Nat) (h fuel : Nat) :
    (extrapolate d h fuel).take d.length = d ∧ (extrapolateSteps d h fuel).take d.length = d := by
  obtain ⟨n, hn⟩ := extrapolate_is_iterExt d h fuel
  obtain ⟨m, hm⟩ := extrapolateSteps_is_iterExt d h fuel
  rw [hn, hm]
  exact ⟨iterExt_take d n, iterExt_take d m⟩

/-- `extrapolate_with_bound` (which appends at most one entry) leaves the prefix unchanged -/
theorem with_bound_prefix_unchanged (d : List Nat) (delta njobs : Nat) :
    (extrapolateWithBound d delta njobs).take d.length = d := by
  unfold extrapolateWithBound
  simp only []
  split
  · split <;> simp
  · simp

/-- conservative: every event sequence that respects the original prefix respects every
extrapolation of it, hence is still bounded by the extrapolated curve -/
theorem still_bounds (d : List Nat) (hwf : curveWF d) (h2 : 2 ≤ d.length) (h fuel : Nat)
    (rels : List Nat) (hr : Respects d rels) (t x : Nat) :
    cnt rels t x ≤ curveN (extrapolate d h fuel) x := by
  obtain ⟨n, hn⟩ := extrapolate_is_iterExt d h fuel
  rw [hn]
  exact curve_bounds _ (iterExt_wf d hwf n) rels (respects_iterExt d rels h2 hr n) t x

/-- only tightens (partial: window lengths below the largest extrapolated distance):
never more arrivals than the un-extrapolated curve claims -/
theorem only_tightens_partial (d : List Nat) (hwf : curveWF d) (h2 : 2 ≤ d.length) (h fuel x : Nat)
    (hx : x < (extrapolate d h fuel).getLastD 0) :
    curveN (extrapolate d h fuel) x ≤ curveN d x := by
  obtain ⟨n, hn⟩ := extrapolate_is_iterExt d h fuel
  rw [hn] at hx ⊢
  exact curveN_iterExt_le d hwf h2 n x hx

/-- the full claim "never yields more arrivals than the un-extrapolated curve" -/
def OnlyTightensEverywhere : Prop :=
  ∀ d, curveWF d → ∀ h x, curveN (extrapolate d h (extrapolateFuel d h)) x ≤ curveN d x

/-- finding F6: beyond the extrapolated horizon the full claim is false
(`Curve [1, 10]` extrapolated to horizon 11 claims 5 arrivals in a window of 13, the
original 4) -/
theorem counterexample_F6 : ¬ OnlyTightensEverywhere := by
  intro h
  have := h [1, 10] (by decide) 11 13
  have h2 := extrapolate_loosens_beyond_horizon
  omega

/-- extrapolation terminates: the model's fuel always suffices to reach the horizon -/
theorem extrapolate_terminates (d : List Nat) (hwf : curveWF d) (h2 : 2 ≤ d.length) (h : Nat) :
    h ≤ (extrapolate d h (extrapolateFuel d h)).getLastD 0 := extrapolate_reaches d hwf h2 h

/-- `ExtrapolatingCurve`: never more than the plain curve (for EVERY window length), still
a bound for every sequence respecting the original prefix, zero at zero, monotone -/
theorem extrapolating_curve_sound (d : List Nat) (hwf : curveWF d) :
    xcurveN d 0 = 0 ∧ MonoN (xcurveN d) ∧ (∀ x, xcurveN d x ≤ curveN d x) ∧
    (∀ rels, Respects d rels → ∀ t x, cnt rels t x ≤ xcurveN d x) :=
  ⟨xcurveN_zero d, xcurveN_mono d hwf, xcurveN_le_curveN d hwf,
    fun rels hr t x => xcurve_bounds d hwf rels hr t x⟩

/-- `number_arrivals` only depends on the entries below the query, so a longer cache gives
the same answers as a shorter one: both are `xcurveN d x` (`hx` is not used) -/
theorem cache_invisible_to_number_arrivals (d : List Nat) (hwf : curveWF d) (h2 : 2 ≤ d.length)
    (x n m : Nat) (hx : 1 ≤ x) (hn : x < (iterExt d n).getLastD 0) (hm : x < (iterExt d m).getLastD 0) :
    curveN (iterExt d n) x = curveN (iterExt d m) x := by
  have _ := hx
  exact (curveN_iterExt_eq_xcurveN d hwf h2 n x hn).trans
    (curveN_iterExt_eq_xcurveN d hwf h2 m x hm).symm

/-- invisible as a cache: ANY interleaving of `number_arrivals` and `steps_iter`/`next`
operations on ANY clones sharing the cache returns exactly what fresh objects return
(`xPure`: `number_arrivals` answers `xcurveN d0`, the `k`-th `next()` of an iterator answers
what the `k`-th `next()` of an iterator over a fresh curve answers) — independent of which
queries were issued before and in which order -/
theorem cache_invisible (d0 : List Nat) (hwf : curveWF d0) (ops : List XOp) :
    (XState.init d0).run ops = xPure d0 ops [] := xcurve_transparent d0 hwf ops

/-- a fresh iterator never ends, never fails, and enumerates the eagerly computed step
list (`xcurveSteps`, which by C11 is exactly the set of increase points) -/
theorem iterator_eq_eager_steps (d0 : List Nat) (hwf : curveWF d0) (k : Nat) :
    (freshNext d0 k).isSome = true ∧
    ∀ v H, freshNext d0 k = some v → v ≤ H → (xcurveSteps d0 H)[k]? = some v :=
  ⟨freshNext_isSome d0 hwf k, fun v H h hv => freshNext_eq_steps d0 hwf k v H h hv⟩

example : curveWF [0, 0, 5, 8] ∧ 2 ≤ [0, 0, 5, 8].length := by decide

end RTA.C13
