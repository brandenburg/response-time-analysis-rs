import RTA.Lemmas.TightExistsNP
import RTA.Lemmas.TightExistsMixed
/-! # C18 — fully preemptive FP, non-preemptive FP and FIFO bounds are attained

Two forms.  `*_is_tight`: in EVERY legal schedule of a job set that realises the arrival curves
from a common instant `t₀` (one release sequence per task attaining the curve in every window
from `t₀`, jobs at their WCET; for the non-preemptive analysis with a positive blocking bound, a
lower-priority job of cost `B + 1` started one slot before `t₀`) some job — of the analysed
task; for FIFO of some task — has a response time exactly equal to the bound.
`*_is_attained_mixed`, the existential statement of the property itself: for every task set
that MIXES the curve families the property names (`RealisableKind`: periodic, sporadic with
release jitter, auto-extrapolating super-additive delta-min curves) there IS such a job set and
a legal schedule of it (`Lemmas/TightExists*.lean`, generic in a realisability witness
`RealisableAt`); `*_by_some_schedule` are the instances for sporadic task sets given by their
parameters. -/

namespace RTA.C18
open RTA RTA.Sched RTA.Spec

/-- every job set has a legal FIFO schedule -/
theorem legal_fifo_schedule_exists (js : JobSet) (hpos : ∀ k, k < js.n → 1 ≤ js.cost k) :
    ∃ sched, FifoLegal (js.withSched sched) := exists_fifo_schedule js  -- `hpos` is not needed

/-- C18 for FIFO: the bound is attained -/
theorem fifo_bound_is_tight (s : Sys) (hl : FifoLegal s) (ts : List (Arr × ℕ))
    (hwf : ∀ p ∈ ts, p.1.WF ∧ p.1.Exact ∧ 1 ≤ p.2)
    (hc : Compliant s (ts.map fun p => (p.1, Cost.scalar p.2)))
    (hcost : ∀ k, k < s.n → s.cost k = (ts.getD (s.task k) default).2)
    (limit R L t₀ : ℕ)
    (hR : fifoRta (taskSetRB (ts.map fun p => (p.1, Cost.scalar p.2))) limit = .ok R)
    (hL : naiveSolve (fun x => (taskSetRB (ts.map fun p => (p.1, Cost.scalar p.2))).need x) limit = .ok L)
    (hreal : ∀ i, i < ts.length → RealisesFrom (ts.getD i default).1 (relsOf s i) t₀ L) (hRpos : 0 < R) :
    ∃ j, j < s.n ∧ MeetsBound s j R ∧ ∀ R', R' < R → ¬ MeetsBound s j R' :=
  TightLemmas.attained_core s hl ts hwf hc hcost limit R L t₀ hR hL (fun i hi => (hreal i hi).2) hRpos

/-- **C18, full statement, FIFO**: for EVERY task set mixing the arrival models named by the
property — periodic tasks, sporadic tasks with release jitter (`J ≤ t₀`), auto-extrapolating
super-additive delta-min curves (`RealisableKind`) — there IS a job set complying with the
task models and a legal FIFO schedule of it in which some job has a response time exactly
equal to the returned bound -/
theorem fifo_bound_is_attained_mixed (ts : List (Arr × ℕ)) (t₀ : ℕ)
    (hk : ∀ p ∈ ts, RealisableKind p.1 t₀ ∧ 1 ≤ p.2) (limit R : ℕ)
    (hR : fifoRta (taskSetRB (ts.map fun p => (p.1, Cost.scalar p.2))) limit = .ok R) (hRpos : 0 < R) :
    ∃ s : Sys, FifoLegal s ∧ Compliant s (ts.map fun p => (p.1, Cost.scalar p.2)) ∧
      ∃ j, j < s.n ∧ MeetsBound s j R ∧ ∀ R', R' < R → ¬ MeetsBound s j R' :=
  fifo_tight_realisable ts (realisableKind_set ts t₀ hk).1 t₀ (realisableKind_set ts t₀ hk).2 limit R hR hRpos

/-- **C18, full statement, fully preemptive FP** (priorities = task indices, task `i` analysed) -/
theorem fp_preemptive_bound_is_attained_mixed (ts : List (Arr × ℕ)) (i : ℕ) (hi : i < ts.length) (t₀ : ℕ)
    (hk : ∀ p ∈ ts, RealisableKind p.1 t₀ ∧ 1 ≤ p.2) (limit R : ℕ)
    (hR : fpPreemptive (.rbf (ts.getD i default).1 (.scalar (ts.getD i default).2))
      ((ts.take i).map fun p => RB.rbf p.1 (.scalar p.2)) limit = .ok R)
    (hRpos : 0 < R) :
    ∃ s : Sys, JlfpLegal s (hepFP s id) ∧ (∀ l x, ¬ s.np l x) ∧
      Compliant s ((ts.take (i + 1)).map fun p => (p.1, Cost.scalar p.2)) ∧
      ∃ j, j < s.n ∧ s.task j = i ∧ MeetsBound s j R ∧ ∀ R', R' < R → ¬ MeetsBound s j R' :=
  fp_preemptive_tight_realisable ts i hi (realisableKind_set ts t₀ hk).1 t₀ (realisableKind_set ts t₀ hk).2
    limit R hR hRpos

/-- **C18, full statement, fully non-preemptive FP** (blocking bound `B`: lower-priority jobs
cost at most `B + 1`; common instant `t₀ ≥ 1`) -/
theorem fp_nonpreemptive_bound_is_attained_mixed (ts : List (Arr × ℕ)) (i : ℕ) (hi : i < ts.length) (B t₀ : ℕ) (ht₀ : 1 ≤ t₀)
    (hk : ∀ p ∈ ts, RealisableKind p.1 t₀ ∧ 1 ≤ p.2) (limit R : ℕ)
    (hR : fpNonpreemptive (ts.getD i default).1 (ts.getD i default).2 B
      ((ts.take i).map fun p => RB.rbf p.1 (.scalar p.2)) limit = .ok R)
    (hRpos : 0 < R) :
    ∃ s : Sys, JlfpLegal s (hepFP s id) ∧
      (∀ l, l < s.n → ∀ x, 1 ≤ x → x < s.cost l → s.np l x) ∧
      (∀ k, k ≤ i → TaskCompliant s k (ts.getD k default).1 (.scalar (ts.getD k default).2)) ∧
      (∀ l, l < s.n → i < s.task l → s.cost l ≤ B + 1) ∧
      ∃ j, j < s.n ∧ s.task j = i ∧ MeetsBound s j R ∧ ∀ R', R' < R → ¬ MeetsBound s j R' :=
  fp_nonpreemptive_tight_realisable ts i hi B (realisableKind_set ts t₀ hk).1 t₀ ht₀
    (realisableKind_set ts t₀ hk).2 limit R hR hRpos

/-- C18 for FIFO in its existential form (sporadic tasks with release jitter): there IS a job
set complying with the task models and a legal FIFO schedule of it in which some job has a
response time exactly equal to the returned bound -/
theorem fifo_bound_is_attained_by_some_schedule (ts : List (ℕ × ℕ × ℕ))
    (hwf : ∀ p ∈ ts, 1 ≤ p.1 ∧ 1 ≤ p.2.2) (limit R : ℕ)
    (hR : fifoRta (taskSetRB (sporadicSet ts)) limit = .ok R) (hRpos : 0 < R) :
    ∃ s : Sys, FifoLegal s ∧ Compliant s (sporadicSet ts) ∧
      ∃ j, j < s.n ∧ MeetsBound s j R ∧ ∀ R', R' < R → ¬ MeetsBound s j R' := by
  rw [TightExistsMixedLemmas.sporadicSet_eq] at hR ⊢
  exact fifo_bound_is_attained_mixed (TightExistsMixedLemmas.arrSet ts) _ (TightExistsMixedLemmas.arrSet_kinds ts hwf) limit R hR hRpos

/-- C18 for fully preemptive FP in its existential form (sporadic tasks with release jitter;
priorities = task indices; task `i` analysed): there IS a job set complying with the task
models and a legal fully preemptive FP schedule of it in which some job of task `i` has a
response time exactly equal to the returned bound -/
theorem fp_preemptive_bound_is_attained_by_some_schedule (ts : List (ℕ × ℕ × ℕ)) (i : ℕ) (hi : i < ts.length)
    (hwf : ∀ p ∈ ts, 1 ≤ p.1 ∧ 1 ≤ p.2.2) (limit R : ℕ)
    (hR : fpPreemptive (.rbf (.sporadic (ts.getD i default).1 (ts.getD i default).2.1) (.scalar (ts.getD i default).2.2))
      ((ts.take i).map fun p => RB.rbf (.sporadic p.1 p.2.1) (.scalar p.2.2)) limit = .ok R)
    (hRpos : 0 < R) :
    ∃ s : Sys, JlfpLegal s (hepFP s id) ∧ (∀ l x, ¬ s.np l x) ∧
      Compliant s (sporadicSet (ts.take (i + 1))) ∧
      ∃ j, j < s.n ∧ s.task j = i ∧ MeetsBound s j R ∧ ∀ R', R' < R → ¬ MeetsBound s j R' := by
  obtain ⟨s, h1, h2, h3, h4⟩ := fp_preemptive_bound_is_attained_mixed (TightExistsMixedLemmas.arrSet ts) i
    (by rw [TightExistsMixedLemmas.arrSet, List.length_map]; exact hi) _ (TightExistsMixedLemmas.arrSet_kinds ts hwf) limit R
    (by rw [TightExistsMixedLemmas.arrSet_getD ts i hi, ← TightExistsMixedLemmas.arrSet_take,
      ← TightExistsMixedLemmas.arrSet_rbf]; exact hR) hRpos
  exact ⟨s, h1, h2, by rw [TightExistsMixedLemmas.sporadicSet_eq, TightExistsMixedLemmas.arrSet_take]; exact h3, h4⟩

/-- C18 for fully non-preemptive FP in its existential form (blocking bound `B`): there is a
job set complying with the models of the tasks `0 … i`, whose lower-priority jobs cost at most
`B + 1`, and a legal non-preemptive FP schedule of it in which some job of task `i` has a
response time exactly equal to the returned bound -/
theorem fp_nonpreemptive_bound_is_attained_by_some_schedule (ts : List (ℕ × ℕ × ℕ)) (i : ℕ)
    (hi : i < ts.length) (B : ℕ) (hwf : ∀ p ∈ ts, 1 ≤ p.1 ∧ 1 ≤ p.2.2) (limit R : ℕ)
    (hR : fpNonpreemptive (.sporadic (ts.getD i default).1 (ts.getD i default).2.1) (ts.getD i default).2.2 B
      ((ts.take i).map fun p => RB.rbf (.sporadic p.1 p.2.1) (.scalar p.2.2)) limit = .ok R)
    (hRpos : 0 < R) :
    ∃ s : Sys, JlfpLegal s (hepFP s id) ∧
      (∀ l, l < s.n → ∀ x, 1 ≤ x → x < s.cost l → s.np l x) ∧
      (∀ k, k ≤ i → TaskCompliant s k (.sporadic (ts.getD k default).1 (ts.getD k default).2.1)
          (.scalar (ts.getD k default).2.2)) ∧
      (∀ l, l < s.n → i < s.task l → s.cost l ≤ B + 1) ∧
      ∃ j, j < s.n ∧ s.task j = i ∧ MeetsBound s j R ∧ ∀ R', R' < R → ¬ MeetsBound s j R' := by
  obtain ⟨s, h1, h2, h3, h4⟩ := fp_nonpreemptive_bound_is_attained_mixed (TightExistsMixedLemmas.arrSet ts) i
    (by rw [TightExistsMixedLemmas.arrSet, List.length_map]; exact hi) B _ (Nat.le_add_left 1 _) (TightExistsMixedLemmas.arrSet_kinds ts hwf) limit R
    (by rw [TightExistsMixedLemmas.arrSet_getD ts i hi, ← TightExistsMixedLemmas.arrSet_take,
      ← TightExistsMixedLemmas.arrSet_rbf]; exact hR) hRpos
  refine ⟨s, h1, h2, fun k hk => ?_, h4⟩
  have := h3 k hk
  rw [TightExistsMixedLemmas.arrSet_getD ts k (by omega)] at this
  exact this

/-- the three named kinds are well-formed, exact and realisable from `t₀` (an admissible sorted
release sequence attaining the curve in every window from `t₀`, up to every horizon) -/
theorem named_kinds_realisable (a : Arr) (t₀ : ℕ) (h : RealisableKind a t₀) :
    a.WF ∧ a.Exact ∧ RealisableAt a t₀ := realisableKind_spec a t₀ h

/-- non-vacuity: a sporadic task with jitter, a periodic task and a bursty extrapolating curve -/
theorem named_kinds_nonvacuous : RealisableKind (.sporadic 10 3) 3 ∧ RealisableKind (.periodic 7) 3 ∧
    RealisableKind (.xcurve [1, 10, 11]) 3 := by
  refine ⟨Or.inl ⟨10, 3, rfl, by decide, by decide⟩, Or.inr (Or.inl ⟨7, rfl, by decide⟩),
    Or.inr (Or.inr ⟨[1, 10, 11], rfl, by decide, by decide, ?_⟩)⟩
  intro n k hn hk
  have hn' : n < 3 := hn
  have : (n = 1 ∧ k = 0) ∨ (n = 2 ∧ k = 0) ∨ (n = 2 ∧ k = 1) := by omega
  rcases this with ⟨rfl, rfl⟩ | ⟨rfl, rfl⟩ | ⟨rfl, rfl⟩ <;> decide

/-- sporadic tasks with release jitter are realisable: the critical-instant sequence aligned
at any `t₀ ≥ J` is admissible and has exactly `number_arrivals(Δ)` releases in `[t₀, t₀ + Δ)` -/
theorem sporadic_realisable (T J n H t₀ : ℕ) (hT : 1 ≤ T) (hJ : J ≤ t₀)
    (hn : (Arr.sporadic T J).N H ≤ n) :
    Admissible (.sporadic T J) (criticalInstantAt T J n t₀) ∧
    RealisesFrom (.sporadic T J) (criticalInstantAt T J n t₀) t₀ H :=
  ⟨criticalInstantAt_admissible T J n t₀ hT, criticalInstantAt_realisesFrom T J n H t₀ hT hJ hn⟩

/-- lower bound valid in every legal FIFO schedule: some job released at `t₀ + A` cannot
complete before all work released in `[t₀, t₀ + A]` is done -/
theorem fifo_lower_bound (s : Sys) (hl : FifoLegal s) (t₀ A : ℕ)
    (hex : ∃ j, j < s.n ∧ s.arr j = t₀ + A) (hpos : ∀ k, k < s.n → 1 ≤ s.cost k) :
    ∃ j, j < s.n ∧ s.arr j = t₀ + A ∧ ∀ R, MeetsBound s j R → work s t₀ (t₀ + A + 1) ≤ A + R :=
  TightLemmas.lower_from s hl t₀ A hex hpos

/-- C18 for fully preemptive FP (priorities = task indices): the bound is attained in every
legal schedule of a job set that realises the curves from `t₀` (`hown`: the analysed task
releases exactly `number_arrivals(Δ)` jobs in `[t₀, t₀+Δ)`; `hhp`: the higher-priority tasks
release exactly their maximal workload; `hcost`: jobs of the analysed task run for the WCET) -/
theorem fp_preemptive_bound_is_tight (s : Sys) (i : ℕ) (a : Arr) (C : ℕ) (hp : List (Arr × ℕ))
    (hS : FpSetting s id i (.rbf a (.scalar C)) (hp.map fun p => RB.rbf p.1 (.scalar p.2)) 0)
    (hnp : ∀ l x, ¬ s.np l x)
    (hwf : a.WF) (hex : a.Exact) (hC : 1 ≤ C)
    (hwfo : ∀ p ∈ hp, p.1.WF ∧ p.1.Exact ∧ 1 ≤ p.2)
    (limit R L t₀ : ℕ)
    (hR : fpPreemptive (.rbf a (.scalar C)) (hp.map fun p => RB.rbf p.1 (.scalar p.2)) limit = .ok R)
    (hL : naiveSolve (fun x => 0 + sumNeed (hp.map fun p => RB.rbf p.1 (.scalar p.2)) x +
        (RB.rbf a (.scalar C)).need x) limit = .ok L)
    (hown : ∀ Δ, Δ ≤ L → cntOf s (fun x => x = i) t₀ (t₀ + Δ) = a.N Δ)
    (hcost : ∀ k, k < s.n → s.task k = i → s.cost k = C)
    (hhp : ∀ Δ, Δ ≤ L → workOf s (fun x => x < i) t₀ (t₀ + Δ) =
        sumNeed (hp.map fun p => RB.rbf p.1 (.scalar p.2)) Δ)
    (hRpos : 0 < R) :
    ∃ j, j < s.n ∧ s.task j = i ∧ MeetsBound s j R ∧ ∀ R', R' < R → ¬ MeetsBound s j R' :=
  fp_preemptive_bound_attained s i a C hp hS hnp hwf hex hC hwfo limit R L t₀ hR hL hown hcost hhp hRpos

/-- C18 for fully non-preemptive FP -/
theorem fp_nonpreemptive_bound_is_tight (s : Sys) (i : ℕ) (a : Arr) (C B : ℕ) (hp : List (Arr × ℕ))
    (hS : FpSetting s id i (.rbf a (.scalar C)) (hp.map fun p => RB.rbf p.1 (.scalar p.2)) B)
    (hnpall : ∀ l, l < s.n → ∀ x, 1 ≤ x → x < s.cost l → s.np l x)
    (hwf : a.WF) (hex : a.Exact) (hC : 1 ≤ C)
    (hwfo : ∀ p ∈ hp, p.1.WF ∧ p.1.Exact ∧ 1 ≤ p.2)
    (limit R L t₀ : ℕ)
    (hR : fpNonpreemptive a C B (hp.map fun p => RB.rbf p.1 (.scalar p.2)) limit = .ok R)
    (hL : naiveSolve (fun x => B + sumNeed (hp.map fun p => RB.rbf p.1 (.scalar p.2)) x +
        (RB.rbf a (.scalar C)).need x) limit = .ok L)
    (hcnt : ∀ t d, cntOf s (fun x => x = i) t (t + d) ≤ a.N d)
    (hown : ∀ Δ, Δ ≤ L → cntOf s (fun x => x = i) t₀ (t₀ + Δ) = a.N Δ)
    (hcost : ∀ k, k < s.n → s.task k = i → s.cost k = C)
    (hhp : ∀ Δ, Δ ≤ L → workOf s (fun x => x < i) t₀ (t₀ + Δ) =
        sumNeed (hp.map fun p => RB.rbf p.1 (.scalar p.2)) Δ)
    (hblock : B = 0 ∨ ∃ b, b < s.n ∧ i < s.task b ∧ s.cost b = B + 1 ∧ 1 ≤ t₀ ∧
        s.sched (t₀ - 1) = some b ∧ svc s b (t₀ - 1) = 0)
    (hRpos : 0 < R) :
    ∃ j, j < s.n ∧ s.task j = i ∧ MeetsBound s j R ∧ ∀ R', R' < R → ¬ MeetsBound s j R' :=
  fp_nonpreemptive_bound_attained s i a C B hp hS hnpall hwf hex hC hwfo limit R L t₀ hR hL hcnt hown hcost
    hhp hblock hRpos

/-- auto-extrapolating super-additive delta-min curves are realisable: the densest event
sequence from `t₀` is admissible for the curve and realises it up to every horizon that the
extrapolated entries cover (and enough entries exist for every horizon) -/
theorem extrapolating_curve_realisable (d : List ℕ) (hwf : curveWF d) (h2 : 2 ≤ d.length)
    (hsa : SuperAdditive d) (t₀ H : ℕ) :
    ∃ n, Admissible (.xcurve d) (densest d n t₀) ∧ RealisesFrom (.xcurve d) (densest d n t₀) t₀ H := by
  obtain ⟨n, hn⟩ := densest_covers d hwf h2 H
  exact ⟨n, densest_admissible d hwf h2 hsa n t₀, densest_realises d hwf h2 hsa n t₀ H hn⟩

/-- every job set has a legal fully preemptive fixed-priority schedule -/
theorem legal_fp_schedule_exists (js : JobSet) (hpos : ∀ k, k < js.n → 1 ≤ js.cost k) :
    ∃ sched, JlfpLegal (js.withSched sched) (hepFP (js.withSched sched) id) :=
  exists_fp_preemptive_schedule js  -- `hpos` is not needed

end RTA.C18
