import RTA.Lemmas.RosNaive
import RTA.Lemmas.RrSound
import RTA.Lemmas.BwSound
import RTA.Lemmas.ExecEndToEndExample2
import RTA.Spec.Ros2Exec
/-! # C05 — the RTSS'21 round-robin-aware (rr) and busy-window-aware (bw) analyses are safe

Proved here, for the **rr** and the **bw** analysis with singleton subchains (every callback
analysed on its own, the setting of the property): if the vector of assumed response-time
bounds reproduces itself — every callback's analysis returns `Ok(R)` with `R` at most its
assumed bound — then EVERY instance of EVERY callback completes within its bound (`rr_safe`,
`bw_safe`): for every supply process that delivers at least the supply-bound function in
every window (every compliant budget placement of a reservation, `rr_safe_reservation`), every
release pattern within the arrival curves, every execution time up to the (scalar) WCET, mixed
timer / polled workloads, known and unknown priorities.

The executor is specified at the schedule level with polling points (`PollingExecLegal`,
`RTA/Lemmas/PollingExec.lean`) and as an executable transition system (`RTA/Spec/Ros2Exec.lean`);
`executor_runs_are_legal` proves that EVERY run of the transition system satisfies the
schedule-level Spec, so the theorems hold for the transition system itself (`rr_safe_lts`,
`bw_safe_lts`), for the completions `Exec.run` reports (`*_safe_run`), with every hypothesis on
the inputs of the run (`*_safe_end_to_end`, concrete runs `*_end_to_end_nonvacuous`) and for
execution times between 1 and the WCET (`*_safe_all_execution_times`).  Analysis side:
`rr_is_naive`, `bw_is_naive`, `relevant_steps_exact`.  The falsifier executes the Python twin of
the transition system (cross-checked against the Lean definition by the driver op `exec`)
against the real analyses.

Outside the property (it speaks of singleton subchains of timers and polled callbacks) and
not proved: multi-callback subchains and workloads containing event-source callbacks; the model
of rr/bw covers them and the correspondence streams exercise them, no soundness theorem. -/

namespace RTA.C05
open RTA RTA.Spec

/-- the assumed-bound vector is self-consistent for the rr analysis: analysing every
callback as a singleton subchain reproduces exactly the assumed bounds.  Used only in `RrSafe`;
the theorems take the weaker `hself` (`Ok(R)` with `R` at most the assumed bound) -/
def SelfConsistentRr (s : Supply) (wl : List Callback) (limit : Nat) : Prop :=
  ∀ i, i < wl.length → rrSubchain s wl [i] limit = .ok (wl.getD i default).rtb

/-- the same for the bw analysis; used by no theorem (`bw_safe*` take `hself`) -/
def SelfConsistentBw (s : Supply) (wl : List Callback) (limit : Nat) : Prop :=
  ∀ i, i < wl.length → bwSubchain s wl [i] limit = .ok (wl.getD i default).rtb

/-- the executor's table entry of a workload callback (its cost: that of one job, possibly 0).
Used only in `RrSafe`; the theorems relate `wl` to the table `cbs` by `hlen`, `hscalar`, `hkinds` -/
def execCb (cb : Callback) : Exec.Cb :=
  { isTimer := cb.kind = .timer,
    prio := match cb.kind with | .polled p => p | _ => 0,
    cost := cb.cost.ofJobs 1 }

/-- the claim for rr in terms of the completions reported by `Exec.run`, with a finite supply
prefix `sigma : List Bool` and releases counted by membership.  NOT proved in this form and used
by no theorem: `rr_safe_end_to_end` proves it (supply as a process `ℕ → Bool`, releases counted by
`Exec.relCount`) under the additional hypotheses it states: `hidx`, `hfin`, `hcb`, `hscalar`,
`hwf`, `hkinds`, `hprio`. -/
def RrSafe : Prop :=
  ∀ (s : Supply) (wl : List Callback) (limit : Nat) (sigma : List Bool) (rels : Nat → List Nat),
    s.WF → SelfConsistentRr s wl limit →
    (∀ t d, s.sbf d ≤ ((List.range d).filter fun u => sigma.getD (t + u) true).length) →
    (∀ k, k < wl.length → ∀ t d,
      ((List.range d).filter fun u => k ∈ rels (t + u)).length ≤ (wl.getD k default).arr.N d) →
    ∀ o ∈ Exec.run (wl.map execCb) (fun _ => none) sigma rels,
      o.2.2 ≤ o.2.1 + (wl.getD o.1 default).rtb

/-- C05, rr (singleton subchains): a self-reproducing vector of assumed bounds bounds every
response time of every callback -/
theorem rr_safe (s : Sched.Sys) (σ : Nat → Bool) (E : Sched.ExecInfo) (hl : Sched.PollingExecLegal s σ E)
    (sup : Supply) (hs : sup.WF) (hsbf : ∀ t d, sup.sbf d ≤ service σ t d)
    (wl : List Callback) (C : Nat → Nat)
    (hscalar : ∀ i, i < wl.length → (wl.getD i default).cost = .scalar (C i))
    (hwf : ∀ cb ∈ wl, cb.arr.WF)
    (htask : ∀ k, k < s.n → s.task k < wl.length)
    (hkinds : Sched.KindsAgree wl E)
    (hprio : ∀ i j, i < wl.length → j < wl.length → E.isTimer i = false → E.isTimer j = false →
      E.prio i = E.prio j → i = j)
    (hN : ∀ i t d, Sched.countOf s i t (t + d) ≤ (wl.getD i default).arr.N d)
    (hcost : ∀ k, k < s.n → 1 ≤ s.cost k ∧ s.cost k ≤ C (s.task k))
    (limit : Nat)
    (hself : ∀ i, i < wl.length → ∃ R, rrSubchain sup wl [i] limit = .ok R ∧ R ≤ (wl.getD i default).rtb) :
    ∀ j, j < s.n → Sched.MeetsBound s j (wl.getD (s.task j) default).rtb :=
  Sched.rr_singleton_sound s σ E hl sup hs hsbf wl C hscalar hwf htask hkinds hprio hN hcost limit hself

/-- the same on a periodic / deadline-constrained reservation, every compliant budget placement -/
theorem rr_safe_reservation (s : Sched.Sys) (Q D P : Nat) (hQ : 1 ≤ Q) (hQD : Q ≤ D) (hDP : D ≤ P)
    (σ : Nat → Bool) (hσ : Compliant Q D P σ) (E : Sched.ExecInfo) (hl : Sched.PollingExecLegal s σ E)
    (wl : List Callback) (C : Nat → Nat)
    (hscalar : ∀ i, i < wl.length → (wl.getD i default).cost = .scalar (C i))
    (hwf : ∀ cb ∈ wl, cb.arr.WF)
    (htask : ∀ k, k < s.n → s.task k < wl.length)
    (hkinds : Sched.KindsAgree wl E)
    (hprio : ∀ i j, i < wl.length → j < wl.length → E.isTimer i = false → E.isTimer j = false →
      E.prio i = E.prio j → i = j)
    (hN : ∀ i t d, Sched.countOf s i t (t + d) ≤ (wl.getD i default).arr.N d)
    (hcost : ∀ k, k < s.n → 1 ≤ s.cost k ∧ s.cost k ≤ C (s.task k))
    (limit : Nat)
    (hself : ∀ i, i < wl.length → ∃ R, rrSubchain (.constrained Q D P) wl [i] limit = .ok R ∧
      R ≤ (wl.getD i default).rtb) :
    ∀ j, j < s.n → Sched.MeetsBound s j (wl.getD (s.task j) default).rtb :=
  Sched.rr_singleton_sound s σ E hl (.constrained Q D P) ⟨hQ, hQD, hDP⟩
    (fun t d => cSbf_sound Q D P hQ hQD hDP σ hσ t d) wl C hscalar hwf htask hkinds hprio hN hcost limit hself

/-- C05, bw (singleton subchains): the same for the busy-window-aware analysis (arrival models
with exact steps) -/
theorem bw_safe (s : Sched.Sys) (σ : Nat → Bool) (E : Sched.ExecInfo) (hl : Sched.PollingExecLegal s σ E)
    (sup : Supply) (hs : sup.WF) (hsbf : ∀ t d, sup.sbf d ≤ service σ t d)
    (wl : List Callback) (C : Nat → Nat)
    (hscalar : ∀ i, i < wl.length → (wl.getD i default).cost = .scalar (C i))
    (hwf : ∀ cb ∈ wl, cb.arr.WF ∧ cb.arr.Exact)
    (htask : ∀ k, k < s.n → s.task k < wl.length)
    (hkinds : Sched.KindsAgree wl E)
    (hprio : ∀ i j, i < wl.length → j < wl.length → E.isTimer i = false → E.isTimer j = false →
      E.prio i = E.prio j → i = j)
    (hN : ∀ i t d, Sched.countOf s i t (t + d) ≤ (wl.getD i default).arr.N d)
    (hcost : ∀ k, k < s.n → 1 ≤ s.cost k ∧ s.cost k ≤ C (s.task k))
    (limit : Nat) (dbg : Bool)
    (hself : ∀ i, i < wl.length → ∃ R, bwSubchain sup wl [i] limit dbg = .ok R ∧ R ≤ (wl.getD i default).rtb) :
    ∀ j, j < s.n → Sched.MeetsBound s j (wl.getD (s.task j) default).rtb :=
  Sched.bw_singleton_sound s σ E hl sup hs hsbf wl C hscalar hwf htask hkinds hprio hN hcost limit dbg hself

/-- refinement: EVERY run of the executor transition system (`RTA/Spec/Ros2Exec.lean`; supply
process `sigma`, releases `rels`, nothing released from `H` on) satisfies the schedule-level
Spec — so `rr_safe` and `bw_safe` hold for the job system `Exec.toSys` of every run -/
theorem executor_runs_are_legal (cbs : List Exec.Cb) (sigma : Nat → Bool) (rels : Nat → List Nat) (H : Nat)
    (hidx : ∀ t, ∀ i ∈ rels t, i < cbs.length) (hfin : ∀ t, H ≤ t → rels t = [])
    (hcost : ∀ c ∈ cbs, 1 ≤ c.cost) :
    Sched.PollingExecLegal (Exec.toSys cbs sigma rels H) sigma (Exec.toInfo cbs sigma rels) :=
  Exec.run_polling_legal cbs sigma rels H hidx hfin hcost

/-- C05 for rr over the transition system itself: in every run, every release event has
received its full service within the assumed bound of its callback -/
theorem rr_safe_lts (cbs : List Exec.Cb) (sigma : Nat → Bool) (rels : Nat → List Nat) (H : Nat)
    (hidx : ∀ t, ∀ i ∈ rels t, i < cbs.length) (hfin : ∀ t, H ≤ t → rels t = [])
    (hcb : ∀ c ∈ cbs, 1 ≤ c.cost)
    (sup : Supply) (hs : sup.WF) (hsbf : ∀ t d, sup.sbf d ≤ service sigma t d)
    (wl : List Callback) (C : Nat → Nat)
    (hscalar : ∀ i, i < wl.length → (wl.getD i default).cost = .scalar (C i))
    (hwf : ∀ cb ∈ wl, cb.arr.WF)
    (htask : ∀ k, k < (Exec.toSys cbs sigma rels H).n → (Exec.toSys cbs sigma rels H).task k < wl.length)
    (hkinds : Sched.KindsAgree wl (Exec.toInfo cbs sigma rels))
    (hprio : ∀ i j, i < wl.length → j < wl.length → (Exec.toInfo cbs sigma rels).isTimer i = false →
      (Exec.toInfo cbs sigma rels).isTimer j = false →
      (Exec.toInfo cbs sigma rels).prio i = (Exec.toInfo cbs sigma rels).prio j → i = j)
    (hN : ∀ i t d, Sched.countOf (Exec.toSys cbs sigma rels H) i t (t + d) ≤ (wl.getD i default).arr.N d)
    (hcost : ∀ k, k < (Exec.toSys cbs sigma rels H).n →
      1 ≤ (Exec.toSys cbs sigma rels H).cost k ∧
      (Exec.toSys cbs sigma rels H).cost k ≤ C ((Exec.toSys cbs sigma rels H).task k))
    (limit : Nat)
    (hself : ∀ i, i < wl.length → ∃ R, rrSubchain sup wl [i] limit = .ok R ∧ R ≤ (wl.getD i default).rtb) :
    ∀ j, j < (Exec.toSys cbs sigma rels H).n →
      Sched.MeetsBound (Exec.toSys cbs sigma rels H) j (wl.getD ((Exec.toSys cbs sigma rels H).task j) default).rtb :=
  Sched.rr_singleton_sound _ sigma _ (Exec.run_polling_legal cbs sigma rels H hidx hfin hcb) sup hs hsbf wl C
    hscalar hwf htask hkinds hprio hN hcost limit hself

/-- and for bw -/
theorem bw_safe_lts (cbs : List Exec.Cb) (sigma : Nat → Bool) (rels : Nat → List Nat) (H : Nat)
    (hidx : ∀ t, ∀ i ∈ rels t, i < cbs.length) (hfin : ∀ t, H ≤ t → rels t = [])
    (hcb : ∀ c ∈ cbs, 1 ≤ c.cost)
    (sup : Supply) (hs : sup.WF) (hsbf : ∀ t d, sup.sbf d ≤ service sigma t d)
    (wl : List Callback) (C : Nat → Nat)
    (hscalar : ∀ i, i < wl.length → (wl.getD i default).cost = .scalar (C i))
    (hwf : ∀ cb ∈ wl, cb.arr.WF ∧ cb.arr.Exact)
    (htask : ∀ k, k < (Exec.toSys cbs sigma rels H).n → (Exec.toSys cbs sigma rels H).task k < wl.length)
    (hkinds : Sched.KindsAgree wl (Exec.toInfo cbs sigma rels))
    (hprio : ∀ i j, i < wl.length → j < wl.length → (Exec.toInfo cbs sigma rels).isTimer i = false →
      (Exec.toInfo cbs sigma rels).isTimer j = false →
      (Exec.toInfo cbs sigma rels).prio i = (Exec.toInfo cbs sigma rels).prio j → i = j)
    (hN : ∀ i t d, Sched.countOf (Exec.toSys cbs sigma rels H) i t (t + d) ≤ (wl.getD i default).arr.N d)
    (hcost : ∀ k, k < (Exec.toSys cbs sigma rels H).n →
      1 ≤ (Exec.toSys cbs sigma rels H).cost k ∧
      (Exec.toSys cbs sigma rels H).cost k ≤ C ((Exec.toSys cbs sigma rels H).task k))
    (limit : Nat) (dbg : Bool)
    (hself : ∀ i, i < wl.length → ∃ R, bwSubchain sup wl [i] limit dbg = .ok R ∧ R ≤ (wl.getD i default).rtb) :
    ∀ j, j < (Exec.toSys cbs sigma rels H).n →
      Sched.MeetsBound (Exec.toSys cbs sigma rels H) j (wl.getD ((Exec.toSys cbs sigma rels H).task j) default).rtb :=
  Sched.bw_singleton_sound _ sigma _ (Exec.run_polling_legal cbs sigma rels H hidx hfin hcb) sup hs hsbf wl C
    hscalar hwf htask hkinds hprio hN hcost limit dbg hself

/-- C05 for rr in terms of the completions that the executable `Exec.run` reports on ANY finite
prefix of the supply process: every reported completion `(i, release, completion)` satisfies
`completion ≤ release + rtb_i` (`rr_safe_lts` + `Exec.run_meets_of_sys`) -/
theorem rr_safe_run (cbs : List Exec.Cb) (sigma : Nat → Bool) (rels : Nat → List Nat) (H : Nat)
    (hidx : ∀ t, ∀ i ∈ rels t, i < cbs.length) (hfin : ∀ t, H ≤ t → rels t = [])
    (hcb : ∀ c ∈ cbs, 1 ≤ c.cost)
    (sup : Supply) (hs : sup.WF) (hsbf : ∀ t d, sup.sbf d ≤ service sigma t d)
    (wl : List Callback) (C : Nat → Nat)
    (hscalar : ∀ i, i < wl.length → (wl.getD i default).cost = .scalar (C i))
    (hwf : ∀ cb ∈ wl, cb.arr.WF)
    (htask : ∀ k, k < (Exec.toSys cbs sigma rels H).n → (Exec.toSys cbs sigma rels H).task k < wl.length)
    (hkinds : Sched.KindsAgree wl (Exec.toInfo cbs sigma rels))
    (hprio : ∀ i j, i < wl.length → j < wl.length → (Exec.toInfo cbs sigma rels).isTimer i = false →
      (Exec.toInfo cbs sigma rels).isTimer j = false →
      (Exec.toInfo cbs sigma rels).prio i = (Exec.toInfo cbs sigma rels).prio j → i = j)
    (hN : ∀ i t d, Sched.countOf (Exec.toSys cbs sigma rels H) i t (t + d) ≤ (wl.getD i default).arr.N d)
    (hcost : ∀ k, k < (Exec.toSys cbs sigma rels H).n →
      1 ≤ (Exec.toSys cbs sigma rels H).cost k ∧
      (Exec.toSys cbs sigma rels H).cost k ≤ C ((Exec.toSys cbs sigma rels H).task k))
    (limit : Nat)
    (hself : ∀ i, i < wl.length → ∃ R, rrSubchain sup wl [i] limit = .ok R ∧ R ≤ (wl.getD i default).rtb)
    (n i : Nat) :
    ∀ o ∈ Exec.run cbs (fun _ => none) ((List.range n).map sigma) rels, o.1 = i →
      o.2.2 ≤ o.2.1 + (wl.getD i default).rtb :=
  Exec.run_meets_of_sys cbs sigma rels H hidx hfin hcb i _
    (fun j hj hji => by
      have := rr_safe_lts cbs sigma rels H hidx hfin hcb sup hs hsbf wl C hscalar hwf htask hkinds hprio hN
        hcost limit hself j hj
      rwa [hji] at this) n

/-- and for bw -/
theorem bw_safe_run (cbs : List Exec.Cb) (sigma : Nat → Bool) (rels : Nat → List Nat) (H : Nat)
    (hidx : ∀ t, ∀ i ∈ rels t, i < cbs.length) (hfin : ∀ t, H ≤ t → rels t = [])
    (hcb : ∀ c ∈ cbs, 1 ≤ c.cost)
    (sup : Supply) (hs : sup.WF) (hsbf : ∀ t d, sup.sbf d ≤ service sigma t d)
    (wl : List Callback) (C : Nat → Nat)
    (hscalar : ∀ i, i < wl.length → (wl.getD i default).cost = .scalar (C i))
    (hwf : ∀ cb ∈ wl, cb.arr.WF ∧ cb.arr.Exact)
    (htask : ∀ k, k < (Exec.toSys cbs sigma rels H).n → (Exec.toSys cbs sigma rels H).task k < wl.length)
    (hkinds : Sched.KindsAgree wl (Exec.toInfo cbs sigma rels))
    (hprio : ∀ i j, i < wl.length → j < wl.length → (Exec.toInfo cbs sigma rels).isTimer i = false →
      (Exec.toInfo cbs sigma rels).isTimer j = false →
      (Exec.toInfo cbs sigma rels).prio i = (Exec.toInfo cbs sigma rels).prio j → i = j)
    (hN : ∀ i t d, Sched.countOf (Exec.toSys cbs sigma rels H) i t (t + d) ≤ (wl.getD i default).arr.N d)
    (hcost : ∀ k, k < (Exec.toSys cbs sigma rels H).n →
      1 ≤ (Exec.toSys cbs sigma rels H).cost k ∧
      (Exec.toSys cbs sigma rels H).cost k ≤ C ((Exec.toSys cbs sigma rels H).task k))
    (limit : Nat) (dbg : Bool)
    (hself : ∀ i, i < wl.length → ∃ R, bwSubchain sup wl [i] limit dbg = .ok R ∧ R ≤ (wl.getD i default).rtb)
    (n i : Nat) :
    ∀ o ∈ Exec.run cbs (fun _ => none) ((List.range n).map sigma) rels, o.1 = i →
      o.2.2 ≤ o.2.1 + (wl.getD i default).rtb :=
  Exec.run_meets_of_sys cbs sigma rels H hidx hfin hcb i _
    (fun j hj hji => by
      have := bw_safe_lts cbs sigma rels H hidx hfin hcb sup hs hsbf wl C hscalar hwf htask hkinds hprio hN
        hcost limit dbg hself j hj
      rwa [hji] at this) n

/-- **C05, rr, end to end, all execution times**: every hypothesis is on the INPUTS of the run —
the workload `wl` describes the callback table (kinds, priorities, scalar costs), the releases
(`Exec.relCount rels k t d` = releases of `k` in `[t, t + d)`) are within the arrival curves,
the supply process delivers at least `sup.sbf` per window, the assumed bounds reproduce
themselves, and in the executor transition system `RTA/Spec/Ros2ExecX.lean` the instance of
callback `k` that starts in slot `t` runs for `ex k t` slots, anywhere between 1 and the
callback's WCET (`hex`) — and the conclusion on the completions reported by the executable
`ExecX.run`. -/
theorem rr_safe_all_execution_times (cbs : List Exec.Cb) (ex : Nat → Nat → Nat) (sigma : Nat → Bool) (rels : Nat → List Nat) (H : Nat)
    (hidx : ∀ t, ∀ i ∈ rels t, i < cbs.length) (hfin : ∀ t, H ≤ t → rels t = [])
    (hex : ∀ k, k < cbs.length → ∀ t, 1 ≤ ex k t ∧ ex k t ≤ (cbs.getD k default).cost)
    (sup : Supply) (hs : sup.WF) (hsbf : ∀ t d, sup.sbf d ≤ service sigma t d)
    (wl : List Callback) (hlen : wl.length = cbs.length)
    (hscalar : ∀ i, i < wl.length → (wl.getD i default).cost = .scalar (cbs.getD i default).cost)
    (hwf : ∀ cb ∈ wl, cb.arr.WF)
    (hkinds : Sched.KindsAgree wl
      ⟨fun i => (cbs.getD i default).isTimer, fun i => (cbs.getD i default).prio, fun _ => false⟩)
    (hprio : ∀ i j, i < cbs.length → j < cbs.length → (cbs.getD i default).isTimer = false →
      (cbs.getD j default).isTimer = false → (cbs.getD i default).prio = (cbs.getD j default).prio → i = j)
    (hrel : ∀ k, k < cbs.length → ∀ t d, Exec.relCount rels k t d ≤ (wl.getD k default).arr.N d)
    (limit : Nat)
    (hself : ∀ i, i < wl.length → ∃ R, rrSubchain sup wl [i] limit = .ok R ∧ R ≤ (wl.getD i default).rtb)
    (n i : Nat) :
    ∀ o ∈ ExecX.run cbs ex (fun _ => none) ((List.range n).map sigma) rels, o.1 = i →
      o.2.2 ≤ o.2.1 + (wl.getD i default).rtb :=
  ExecX.run_meets_of_polling_sound_x cbs ex sigma rels H hidx hfin hex wl hlen hprio hrel
    (fun hl htask hpr hN hc => Sched.rr_singleton_sound _ sigma _ hl sup hs hsbf wl
      (fun k => (cbs.getD k default).cost) hscalar hwf htask hkinds hpr hN hc limit hself) n i

/-- **C05, bw, end to end, all execution times** -/
theorem bw_safe_all_execution_times (cbs : List Exec.Cb) (ex : Nat → Nat → Nat) (sigma : Nat → Bool) (rels : Nat → List Nat) (H : Nat)
    (hidx : ∀ t, ∀ i ∈ rels t, i < cbs.length) (hfin : ∀ t, H ≤ t → rels t = [])
    (hex : ∀ k, k < cbs.length → ∀ t, 1 ≤ ex k t ∧ ex k t ≤ (cbs.getD k default).cost)
    (sup : Supply) (hs : sup.WF) (hsbf : ∀ t d, sup.sbf d ≤ service sigma t d)
    (wl : List Callback) (hlen : wl.length = cbs.length)
    (hscalar : ∀ i, i < wl.length → (wl.getD i default).cost = .scalar (cbs.getD i default).cost)
    (hwf : ∀ cb ∈ wl, cb.arr.WF ∧ cb.arr.Exact)
    (hkinds : Sched.KindsAgree wl
      ⟨fun i => (cbs.getD i default).isTimer, fun i => (cbs.getD i default).prio, fun _ => false⟩)
    (hprio : ∀ i j, i < cbs.length → j < cbs.length → (cbs.getD i default).isTimer = false →
      (cbs.getD j default).isTimer = false → (cbs.getD i default).prio = (cbs.getD j default).prio → i = j)
    (hrel : ∀ k, k < cbs.length → ∀ t d, Exec.relCount rels k t d ≤ (wl.getD k default).arr.N d)
    (limit : Nat) (dbg : Bool)
    (hself : ∀ i, i < wl.length → ∃ R, bwSubchain sup wl [i] limit dbg = .ok R ∧ R ≤ (wl.getD i default).rtb)
    (n i : Nat) :
    ∀ o ∈ ExecX.run cbs ex (fun _ => none) ((List.range n).map sigma) rels, o.1 = i →
      o.2.2 ≤ o.2.1 + (wl.getD i default).rtb :=
  ExecX.run_meets_of_polling_sound_x cbs ex sigma rels H hidx hfin hex wl hlen hprio hrel
    (fun hl htask hpr hN hc => Sched.bw_singleton_sound _ sigma _ hl sup hs hsbf wl
      (fun k => (cbs.getD k default).cost) hscalar hwf htask hkinds hpr hN hc limit dbg hself) n i

/-- **C05, rr, end to end**: `rr_safe_all_execution_times` for `Exec.run`, where every instance
runs for its WCET -/
theorem rr_safe_end_to_end (cbs : List Exec.Cb) (sigma : Nat → Bool) (rels : Nat → List Nat) (H : Nat)
    (hidx : ∀ t, ∀ i ∈ rels t, i < cbs.length) (hfin : ∀ t, H ≤ t → rels t = [])
    (hcb : ∀ c ∈ cbs, 1 ≤ c.cost)
    (sup : Supply) (hs : sup.WF) (hsbf : ∀ t d, sup.sbf d ≤ service sigma t d)
    (wl : List Callback) (hlen : wl.length = cbs.length)
    (hscalar : ∀ i, i < wl.length → (wl.getD i default).cost = .scalar (cbs.getD i default).cost)
    (hwf : ∀ cb ∈ wl, cb.arr.WF)
    (hkinds : Sched.KindsAgree wl (Exec.toInfo cbs sigma rels))
    (hprio : ∀ i j, i < cbs.length → j < cbs.length → (cbs.getD i default).isTimer = false →
      (cbs.getD j default).isTimer = false → (cbs.getD i default).prio = (cbs.getD j default).prio → i = j)
    (hrel : ∀ k, k < cbs.length → ∀ t d, Exec.relCount rels k t d ≤ (wl.getD k default).arr.N d)
    (limit : Nat)
    (hself : ∀ i, i < wl.length → ∃ R, rrSubchain sup wl [i] limit = .ok R ∧ R ≤ (wl.getD i default).rtb)
    (n i : Nat) :
    ∀ o ∈ Exec.run cbs (fun _ => none) ((List.range n).map sigma) rels, o.1 = i →
      o.2.2 ≤ o.2.1 + (wl.getD i default).rtb :=
  (ExecX.run_wcet cbs _ _ rels) ▸ rr_safe_all_execution_times cbs _ sigma rels H hidx hfin (Exec.wcet_bounds cbs hcb)
    sup hs hsbf wl hlen hscalar hwf hkinds hprio hrel limit hself n i

/-- **C05, bw, end to end** -/
theorem bw_safe_end_to_end (cbs : List Exec.Cb) (sigma : Nat → Bool) (rels : Nat → List Nat) (H : Nat)
    (hidx : ∀ t, ∀ i ∈ rels t, i < cbs.length) (hfin : ∀ t, H ≤ t → rels t = [])
    (hcb : ∀ c ∈ cbs, 1 ≤ c.cost)
    (sup : Supply) (hs : sup.WF) (hsbf : ∀ t d, sup.sbf d ≤ service sigma t d)
    (wl : List Callback) (hlen : wl.length = cbs.length)
    (hscalar : ∀ i, i < wl.length → (wl.getD i default).cost = .scalar (cbs.getD i default).cost)
    (hwf : ∀ cb ∈ wl, cb.arr.WF ∧ cb.arr.Exact)
    (hkinds : Sched.KindsAgree wl (Exec.toInfo cbs sigma rels))
    (hprio : ∀ i j, i < cbs.length → j < cbs.length → (cbs.getD i default).isTimer = false →
      (cbs.getD j default).isTimer = false → (cbs.getD i default).prio = (cbs.getD j default).prio → i = j)
    (hrel : ∀ k, k < cbs.length → ∀ t d, Exec.relCount rels k t d ≤ (wl.getD k default).arr.N d)
    (limit : Nat) (dbg : Bool)
    (hself : ∀ i, i < wl.length → ∃ R, bwSubchain sup wl [i] limit dbg = .ok R ∧ R ≤ (wl.getD i default).rtb)
    (n i : Nat) :
    ∀ o ∈ Exec.run cbs (fun _ => none) ((List.range n).map sigma) rels, o.1 = i →
      o.2.2 ≤ o.2.1 + (wl.getD i default).rtb :=
  (ExecX.run_wcet cbs _ _ rels) ▸ bw_safe_all_execution_times cbs _ sigma rels H hidx hfin (Exec.wcet_bounds cbs hcb)
    sup hs hsbf wl hlen hscalar hwf hkinds hprio hrel limit dbg hself n i

/-- non-vacuity of `rr_safe_end_to_end`: a concrete callback table (a timer and two polled
callbacks), a dedicated processor and strictly periodic releases satisfy EVERY hypothesis with
the assumed bounds (9, 9, 9) (every singleton analysis returns some `R ≤ 9`), and `Exec.run`
reports completions — all of them within the bounds -/
theorem rr_safe_end_to_end_nonvacuous :
    (∀ i, i < Exec.exWl.length →
      ∃ R, rrSubchain .dedicated Exec.exWl [i] 100 = .ok R ∧ R ≤ (Exec.exWl.getD i default).rtb) ∧
    8 ≤ (Exec.run Exec.exCbs (fun _ => none) ((List.range 60).map Exec.exSigmaAll) Exec.exRels).length ∧
    ∀ o ∈ Exec.run Exec.exCbs (fun _ => none) ((List.range 60).map Exec.exSigmaAll) Exec.exRels,
      o.2.2 ≤ o.2.1 + (Exec.exWl.getD o.1 default).rtb :=
  ⟨Exec.EndToEndExampleLemmas.hself, Exec.rr_example_reports, Exec.rr_example_bounded⟩

/-- non-vacuity of `bw_safe_end_to_end` on the same run: the bw singleton analyses return some
`Ok(R)` with `R` at most the assumed bound 9 for every callback, and every completion that
`Exec.run` reports is within the bounds -/
theorem bw_safe_end_to_end_nonvacuous :
    (∀ i, i < Exec.exWl.length →
      ∃ R, bwSubchain .dedicated Exec.exWl [i] 100 false = .ok R ∧ R ≤ (Exec.exWl.getD i default).rtb) ∧
    ∀ o ∈ Exec.run Exec.exCbs (fun _ => none) ((List.range 60).map Exec.exSigmaAll) Exec.exRels,
      o.2.2 ≤ o.2.1 + (Exec.exWl.getD o.1 default).rtb :=
  ⟨Exec.bw_example_self_consistent, Exec.bw_example_bounded⟩

/-- analysis side: rr = naive linear-scan evaluation -/
theorem rr_is_naive (s : Supply) (hs : s.WF) (wl : List Callback) (sub : List Nat) (limit : Nat)
    (hl : 1 ≤ limit) (hsub : ∀ i ∈ sub, i < wl.length) (hwf : ∀ cb ∈ wl, cb.arr.WF ∧ MonoN cb.cost.ofJobs) :
    rrSubchain s wl sub limit = naiveRr s wl sub limit := rr_eq_naive s hs wl sub limit hl hsub hwf

/-- analysis side: bw = naive evaluation over every activation offset -/
theorem bw_is_naive (s : Supply) (hs : s.WF) (wl : List Callback) (sub : List Nat) (limit : Nat)
    (hl : 1 ≤ limit) (hne : sub ≠ []) (hsub : ∀ i ∈ sub, i < wl.length)
    (hwf : ∀ cb ∈ wl, cb.arr.WF ∧ cb.arr.Exact ∧ MonoN cb.cost.ofJobs)
    (hpos : ∀ e, sub.getLast? = some e → 0 < (wl.getD e default).arr.N 1) (dbg : Bool) :
    bwSubchain s wl sub limit dbg = naiveBw s wl sub limit :=
  bw_eq_naive s hs wl sub limit hl hne hsub hwf hpos dbg

/-- Lemma 19's step enumeration = brute force -/
theorem relevant_steps_exact (wl : List Callback) (e H : Nat) (he : e < wl.length)
    (hwf : ∀ cb ∈ wl, cb.arr.WF ∧ cb.arr.Exact) :
    bwAllSteps wl e H = bwBruteSteps wl e H := bwAllSteps_eq_brute wl e H he hwf

end RTA.C05
