import RTA.Lemmas.MonoAnalyses
import RTA.Lemmas.MonoRos
import RTA.Lemmas.MonoRosOwn
import RTA.Lemmas.MonoChainOwn
/-! # C17 — response-time bounds are monotone in workload and supply

Orders on results.  `Res.le` (FIFO, FP, EDF): `ok a ≤ ok b` iff `a ≤ b`; every `ok` is below a
divergence error; a divergence error is below itself only, never below an `ok` — so
`Res.le base hardened` says "the bound does not decrease and an error does not turn into Ok"
(on a dedicated processor every divergence error of one limit is the same `div 0 limit`).
`Res.leD` (ROS 2 analyses): the same, except that every divergence error is below every
divergence error, since the offset recorded in the error may differ between the two systems.

The hardenings are expressed as pointwise orders on the request bounds (`need ≤ need'`),
on the blocking bound, and on the EDF interference/blocking terms; the single-parameter
hardenings of the statement (WCET, jitter, period, blocking, segment length, added task)
are shown to produce these orders. -/

namespace RTA.C17
open RTA RTA.Spec

/-- FIFO: more demand in every window never decreases the bound -/
theorem fifo_monotone (t t' : RB) (hwf : t.ArrWF) (hex : t.Exact) (hwf' : t'.ArrWF) (hex' : t'.Exact)
    (h : ∀ d, t.need d ≤ t'.need d) (limit : Nat) (hl : 1 ≤ limit) :
    Res.le (fifoRta t limit) (fifoRta t' limit) := by
  rw [fifo_eq_naive t hwf hex limit hl, fifo_eq_naive t' hwf' hex' limit hl]
  exact naiveFifo_mono t t' h limit

/-- the four fixed-priority analyses (common core): more own demand, more interfering
demand, more blocking, a larger run-to-completion remainder -/
theorem fp_monotone (tua tua' : RB) (others others' : List RB) (B B' rem rem' limit : Nat)
    (hwf : tua.ArrWF) (hex : tua.Exact) (ho : OthersOK others)
    (hwf' : tua'.ArrWF) (hex' : tua'.Exact) (ho' : OthersOK others') (hl : 1 ≤ limit)
    (hpos : 0 < tua.need 1)
    (hstep : ∀ A, tua.need A < tua.need (A + 1) → tua.need A + rem < tua.need (A + 1))
    (hstep' : ∀ A, tua'.need A < tua'.need (A + 1) → tua'.need A + rem' < tua'.need (A + 1))
    (htua : ∀ d, tua.need d ≤ tua'.need d)
    (hown : ∀ d, tua.need d - rem ≤ tua'.need d - rem')
    (hoth : ∀ d, sumNeed others d ≤ sumNeed others' d) (hB : B ≤ B') (hrem : rem ≤ rem') :
    Res.le (fpCore tua others B rem limit) (fpCore tua' others' B' rem' limit) := by
  have hpos' : 0 < tua'.need 1 := Nat.lt_of_lt_of_le hpos (htua 1)
  rw [fpCore_eq_naive tua others B rem limit hwf hex ho hl hpos hstep,
    fpCore_eq_naive tua' others' B' rem' limit hwf' hex' ho' hl hpos' hstep']
  exact naiveFp_mono tua tua' others others' B B' rem rem' limit htua hown hoth hB hrem

/-- the four EDF analyses (common core) -/
theorem edf_monotone (tua tua' : RB) (D : Nat) (others others' : List EdfTask) (rem rem' : Nat)
    (wb : Bool) (limit : Nat)
    (hwf : tua.ArrWF) (hex : tua.Exact) (ho : EdfOthersOK others)
    (hwf' : tua'.ArrWF) (hex' : tua'.Exact) (ho' : EdfOthersOK others') (hl : 1 ≤ limit)
    (hpos : 0 < tua.need 1)
    (hstep : ∀ A, tua.need A < tua.need (A + 1) → tua.need A + rem < tua.need (A + 1))
    (hstep' : ∀ A, tua'.need A < tua'.need (A + 1) → tua'.need A + rem' < tua'.need (A + 1))
    (htua : ∀ d, tua.need d ≤ tua'.need d)
    (hown : ∀ d, tua.need d - rem ≤ tua'.need d - rem')
    (htot : ∀ d, sumNeed (others.map (·.rb)) d ≤ sumNeed (others'.map (·.rb)) d)
    (hhep : ∀ A AF, edfHepWorkload others D A AF ≤ edfHepWorkload others' D A AF)
    (hblk : ∀ A, edfBlocking others D A ≤ edfBlocking others' D A) (hrem : rem ≤ rem') :
    Res.le (edfCore tua D others rem wb limit) (edfCore tua' D others' rem' wb limit) := by
  have hpos' : 0 < tua'.need 1 := Nat.lt_of_lt_of_le hpos (htua 1)
  rw [edfCore_eq_naive tua D others rem wb limit hwf hex ho hl hpos hstep,
    edfCore_eq_naive tua' D others' rem' wb limit hwf' hex' ho' hl hpos' hstep']
  exact naiveEdf_mono tua tua' D others others' rem rem' wb limit htua hown htot hhep hblk hrem

/-- increasing the divergence limit never changes an `Ok` result -/
theorem limit_stable (tua : RB) (others : List RB) (B rem limit limit' R : Nat)
    (hwf : tua.ArrWF) (hex : tua.Exact) (ho : OthersOK others)
    (hstep : ∀ A, tua.need A < tua.need (A + 1) → tua.need A + rem < tua.need (A + 1))
    (hpos : 0 < tua.need 1) (h : fpCore tua others B rem limit = .ok R) (hl : limit ≤ limit') :
    fpCore tua others B rem limit' = .ok R := by
  have hl1 := PruneCoreLemmas.limit_pos_of_ok (fpCore tua others B rem)
    (fpCore_limit_zero tua others B rem) h
  rw [fpCore_eq_naive tua others B rem limit hwf hex ho hl1 hpos hstep] at h
  rw [fpCore_eq_naive tua others B rem limit' hwf hex ho (by omega) hpos hstep]
  exact naiveFp_limit_stable tua others B rem limit limit' R h hl

/-- the same for the EDF core -/
theorem limit_stable_edf (tua : RB) (D : Nat) (others : List EdfTask) (rem : Nat) (wb : Bool)
    (limit limit' R : Nat) (hwf : tua.ArrWF) (hex : tua.Exact) (ho : EdfOthersOK others)
    (hstep : ∀ A, tua.need A < tua.need (A + 1) → tua.need A + rem < tua.need (A + 1))
    (hpos : 0 < tua.need 1) (h : edfCore tua D others rem wb limit = .ok R) (hl : limit ≤ limit') :
    edfCore tua D others rem wb limit' = .ok R := by
  have hl1 := PruneCoreLemmas.limit_pos_of_ok (fun l => edfCore tua D others rem wb l)
    (edfCore_limit_zero tua D others rem wb) h
  rw [edfCore_eq_naive tua D others rem wb limit hwf hex ho hl1 hpos hstep] at h
  rw [edfCore_eq_naive tua D others rem wb limit' hwf hex ho (by omega) hpos hstep]
  exact naiveEdf_limit_stable tua D others rem wb limit limit' R h hl

/-- and for FIFO -/
theorem limit_stable_fifo (t : RB) (hwf : t.ArrWF) (hex : t.Exact) (limit limit' R : Nat)
    (h : fifoRta t limit = .ok R) (hl : limit ≤ limit') : fifoRta t limit' = .ok R := by
  have hl1 := PruneCoreLemmas.limit_pos_of_ok (fifoRta t) (fifoRta_limit_zero t) h
  rw [fifo_eq_naive t hwf hex limit hl1] at h
  rw [fifo_eq_naive t hwf hex limit' (by omega)]
  exact naiveFifo_limit_stable t limit limit' R h hl

/-- the single-parameter hardenings produce the pointwise orders used above -/
theorem hardenings :
    -- more release jitter
    (∀ (a : Arr), a.WF → ∀ j j' d, j ≤ j' → (a.withJitter j).N d ≤ (a.withJitter j').N d) ∧
    -- shorter period / more jitter of a sporadic task
    (∀ T T' J J' d, 1 ≤ T' → T' ≤ T → J ≤ J' → (Arr.sporadic T J).N d ≤ (Arr.sporadic T' J').N d) ∧
    -- larger WCET (also after subtracting the non-preemptive remainder)
    (∀ (a : Arr) C C' d, C ≤ C' →
      (RB.rbf a (.scalar C)).need d ≤ (RB.rbf a (.scalar C')).need d ∧
      (RB.rbf a (.scalar C)).need d - (C - 1) ≤ (RB.rbf a (.scalar C')).need d - (C' - 1)) ∧
    -- an added interfering task
    (∀ (o : RB) others d, sumNeed others d ≤ sumNeed (o :: others) d) ∧
    -- a longer non-preemptive segment of another task (EDF)
    (∀ (pre post : List EdfTask) (o : EdfTask) seg' D A, o.seg ≤ seg' →
      edfBlocking (pre ++ o :: post) D A ≤ edfBlocking (pre ++ { o with seg := seg' } :: post) D A) :=
  ⟨fun a hwf j j' d h => MonoLemmas.withJitter_mono' a hwf j j' d h,
   fun T T' J J' d h1 h2 h3 => sporadic_param_mono T T' J J' d h1 h2 h3,
   fun a C C' d h => scalar_cost_mono a C C' d h,
   fun o others d => Nat.le_add_left (sumNeed others d) (o.need d),
   fun pre post o seg' D A h => edfBlocking_seg_mono pre post o seg' h D A⟩

/-! ### ROS 2 analyses (order `Res.leD`: `ok a ≤ ok b` iff `a ≤ b`; everything that is not a
panic is below a divergence error, whatever offset the error records) -/

/-- event source: more demand in every window, a weaker supply -/
theorem ros_event_source_monotone (s s' : Supply) (hs : s.WF) (hs' : s'.WF) (hsup : s'.Weaker s)
    (demand demand' : RB) (hwf : demand.ArrWF) (hex : demand.Exact)
    (hwf' : demand'.ArrWF) (hex' : demand'.Exact)
    (h : ∀ d, demand.need d ≤ demand'.need d) (limit : Nat) (hl : 1 ≤ limit) :
    Res.leD (rosEventSource s demand limit) (rosEventSource s' demand' limit) := by
  rw [eventSource_eq_naive s hs demand hwf hex limit hl,
    eventSource_eq_naive s' hs' demand' hwf' hex' limit hl]
  exact naiveEventSource_leD s s' hsup demand demand' h limit

/-- timer: more interference, more blocking, a weaker supply; the case of `ros_timer_monotone`
in which the analysed callback's own model is the same on both sides -/
theorem ros_timer_monotone_partial (s s' : Supply) (hs : s.WF) (hs' : s'.WF) (hsup : s'.Weaker s)
    (a : Arr) (C : Nat) (hwf : a.WF) (hex : a.Exact) (hC : 1 ≤ C) (hpos : 0 < a.N 1)
    (interf interf' : RB) (hwfi : interf.ArrWF) (hexi : interf.Exact)
    (hwfi' : interf'.ArrWF) (hexi' : interf'.Exact)
    (h : ∀ d, interf.need d ≤ interf'.need d) (B B' : Nat) (hB : B ≤ B') (limit : Nat) (hl : 1 ≤ limit) :
    Res.leD (rosTimer s (.rbf a (.scalar C)) interf B limit)
      (rosTimer s' (.rbf a (.scalar C)) interf' B' limit) :=
  timer_mono s s' hs hs' hsup a C hwf hex hC hpos interf interf' hwfi hexi hwfi' hexi' h B B' hB limit hl

/-- polling-point callback: more interference, a weaker supply, the own model the same -/
theorem ros_polling_point_monotone_partial (s s' : Supply) (hs : s.WF) (hs' : s'.WF) (hsup : s'.Weaker s)
    (a : Arr) (C : Nat) (hwf : a.WF) (hex : a.Exact) (hC : 1 ≤ C) (hpos : 0 < a.N 1)
    (interf interf' : RB) (hwfi : interf.ArrWF) (hexi : interf.Exact)
    (hwfi' : interf'.ArrWF) (hexi' : interf'.Exact)
    (h : ∀ d, interf.need d ≤ interf'.need d) (limit : Nat) (hl : 1 ≤ limit) :
    Res.leD (rosPollingPoint s (.rbf a (.scalar C)) interf limit)
      (rosPollingPoint s' (.rbf a (.scalar C)) interf' limit) :=
  pollingPoint_mono s s' hs hs' hsup a C hwf hex hC hpos interf interf' hwfi hexi hwfi' hexi' h limit hl

/-- timer: EVERY single-parameter hardening — the analysed timer's own arrival curve (more
jitter, shorter period: `a ≤ a'` pointwise) and WCET, the interference, the blocking bound, the
supply (the search space of this analysis is pruned to the own steps, so this does not follow
from the naive evaluation; `Lemmas/MonoRosOwn.lean`) -/
theorem ros_timer_monotone (s s' : Supply) (hs : s.WF) (hs' : s'.WF) (hsup : s'.Weaker s)
    (a a' : Arr) (C C' : Nat) (hwf : a.WF) (hex : a.Exact) (hwf' : a'.WF) (hex' : a'.Exact)
    (hC : 1 ≤ C) (hCC : C ≤ C') (hpos : 0 < a.N 1) (hN : ∀ d, a.N d ≤ a'.N d)
    (interf interf' : RB) (hwfi : interf.ArrWF) (hexi : interf.Exact)
    (hwfi' : interf'.ArrWF) (hexi' : interf'.Exact)
    (h : ∀ d, interf.need d ≤ interf'.need d) (B B' : Nat) (hB : B ≤ B') (limit : Nat) (hl : 1 ≤ limit) :
    Res.leD (rosTimer s (.rbf a (.scalar C)) interf B limit)
      (rosTimer s' (.rbf a' (.scalar C')) interf' B' limit) :=
  Res.leD_trans
    (timer_mono_own s hs a a' C C' hwf hex hwf' hex' hC hCC hpos hN interf hwfi hexi B limit hl)
    (timer_mono s s' hs hs' hsup a' C' hwf' hex' (by omega) (Nat.lt_of_lt_of_le hpos (hN 1))
      interf interf' hwfi hexi hwfi' hexi' h B B' hB limit hl)

/-- polling-point callback: a harder own model -/
theorem ros_polling_point_monotone_own (s : Supply) (hs : s.WF)
    (a a' : Arr) (C C' : Nat) (hwf : a.WF) (hex : a.Exact) (hwf' : a'.WF) (hex' : a'.Exact)
    (hC : 1 ≤ C) (hCC : C ≤ C') (hpos : 0 < a.N 1) (hN : ∀ d, a.N d ≤ a'.N d)
    (interf : RB) (hwfi : interf.ArrWF) (hexi : interf.Exact) (limit : Nat) (hl : 1 ≤ limit) :
    Res.leD (rosPollingPoint s (.rbf a (.scalar C)) interf limit)
      (rosPollingPoint s (.rbf a' (.scalar C')) interf limit) :=
  pollingPoint_mono_own s hs a a' C C' hwf hex hwf' hex' hC hCC hpos hN interf hwfi hexi limit hl

/-- processing chain: a longer chain prefix, more demand of the other chains, a weaker supply
(the case of `ros_chain_monotone` with the chain's own arrival curve and the WCET of its last
callback the same on both sides) -/
theorem ros_chain_monotone_partial (s s' : Supply) (hs : s.WF) (hs' : s'.WF) (hsup : s'.Weaker s)
    (a : Arr) (C P P' : Nat) (hwf : a.WF) (hex : a.Exact) (hC : 1 ≤ C) (hP : 1 ≤ P) (hPP : P ≤ P')
    (hpos : 0 < a.N 1)
    (others others' : RB) (hwfo : others.ArrWF) (hexo : others.Exact)
    (hwfo' : others'.ArrWF) (hexo' : others'.Exact)
    (h : ∀ d, others.need d ≤ others'.need d) (limit : Nat) (hl : 1 ≤ limit) :
    Res.leD
      (rosChain s (.rbf a (.scalar C)) (.rbf a (.scalar P)) (.rbf a (.scalar (C + P))) others limit)
      (rosChain s' (.rbf a (.scalar C)) (.rbf a (.scalar P')) (.rbf a (.scalar (C + P'))) others' limit) :=
  chain_mono_all s s' hs hs' hsup a a C C P P' hwf hex hwf hex hC (Nat.le_refl C) hP hPP hpos
    (fun _ => Nat.le_refl _) others others' hwfo hexo hwfo' hexo' h limit hl

/-- processing chain: EVERY single-parameter hardening, including the chain's own arrival curve
and the WCETs of its last callback and of its prefix -/
theorem ros_chain_monotone (s s' : Supply) (hs : s.WF) (hs' : s'.WF) (hsup : s'.Weaker s)
    (a a' : Arr) (C C' P P' : Nat) (hwf : a.WF) (hex : a.Exact) (hwf' : a'.WF) (hex' : a'.Exact)
    (hC : 1 ≤ C) (hCC : C ≤ C') (hP : 1 ≤ P) (hPP : P ≤ P')
    (hpos : 0 < a.N 1) (hN : ∀ d, a.N d ≤ a'.N d)
    (others others' : RB) (hwfo : others.ArrWF) (hexo : others.Exact)
    (hwfo' : others'.ArrWF) (hexo' : others'.Exact)
    (h : ∀ d, others.need d ≤ others'.need d) (limit : Nat) (hl : 1 ≤ limit) :
    Res.leD
      (rosChain s (.rbf a (.scalar C)) (.rbf a (.scalar P)) (.rbf a (.scalar (C + P))) others limit)
      (rosChain s' (.rbf a' (.scalar C')) (.rbf a' (.scalar P')) (.rbf a' (.scalar (C' + P'))) others' limit) :=
  chain_mono_all s s' hs hs' hsup a a' C C' P P' hwf hex hwf' hex' hC hCC hP hPP hpos hN others others'
    hwfo hexo hwfo' hexo' h limit hl

/-- rr subchain analysis: a pointwise harder workload (every callback: same kind, no smaller
assumed response-time bound, no fewer arrivals, no smaller costs; the end of the chain with a
marginal cost that does not shrink — any scalar WCET), a weaker supply -/
theorem ros_rr_monotone (s s' : Supply) (hs : s.WF) (hs' : s'.WF) (hsup : s'.Weaker s)
    (wl wl' : List Callback) (sub : List Nat) (limit : Nat) (hl : 1 ≤ limit)
    (hne : sub ≠ []) (hsub : ∀ i ∈ sub, i < wl.length)
    (hwf : ∀ cb ∈ wl, cb.arr.WF ∧ MonoN cb.cost.ofJobs)
    (hwf' : ∀ cb ∈ wl', cb.arr.WF ∧ MonoN cb.cost.ofJobs)
    (hle : WorkloadLe wl wl')
    (hω : ∀ e, sub.getLast? = some e → ∀ n n',
      (wl.getD e default).cost.ofJobs (n + 1) - (wl.getD e default).cost.ofJobs n ≤
      (wl'.getD e default).cost.ofJobs (n' + 1) - (wl'.getD e default).cost.ofJobs n') :
    Res.leD (rrSubchain s wl sub limit) (rrSubchain s' wl' sub limit) := by
  have hsub' : ∀ i ∈ sub, i < wl'.length := fun i hi => hle.1 ▸ hsub i hi
  rw [rr_eq_naive s hs wl sub limit hl hsub hwf, rr_eq_naive s' hs' wl' sub limit hl hsub' hwf']
  exact naiveRr_leD s s' hs hs' hsup wl wl' sub limit hne hsub hwf hwf' hle hω

/-- bw subchain analysis: the same -/
theorem ros_bw_monotone (s s' : Supply) (hs : s.WF) (hs' : s'.WF) (hsup : s'.Weaker s)
    (wl wl' : List Callback) (sub : List Nat) (limit : Nat) (hl : 1 ≤ limit)
    (hne : sub ≠ []) (hsub : ∀ i ∈ sub, i < wl.length)
    (hwf : ∀ cb ∈ wl, cb.arr.WF ∧ cb.arr.Exact ∧ MonoN cb.cost.ofJobs)
    (hwf' : ∀ cb ∈ wl', cb.arr.WF ∧ cb.arr.Exact ∧ MonoN cb.cost.ofJobs)
    (hpos : ∀ e, sub.getLast? = some e → 0 < (wl.getD e default).arr.N 1)
    (hle : WorkloadLe wl wl')
    (hω : ∀ e, sub.getLast? = some e → ∀ n n',
      (wl.getD e default).cost.ofJobs (n + 1) - (wl.getD e default).cost.ofJobs n ≤
      (wl'.getD e default).cost.ofJobs (n' + 1) - (wl'.getD e default).cost.ofJobs n')
    (dbg : Bool) :
    Res.leD (bwSubchain s wl sub limit dbg) (bwSubchain s' wl' sub limit dbg) := by
  have hsub' : ∀ i ∈ sub, i < wl'.length := fun i hi => hle.1 ▸ hsub i hi
  have hwf2 : ∀ cb ∈ wl, cb.arr.WF ∧ MonoN cb.cost.ofJobs := fun cb h => ⟨(hwf cb h).1, (hwf cb h).2.2⟩
  have hwf2' : ∀ cb ∈ wl', cb.arr.WF ∧ MonoN cb.cost.ofJobs :=
    fun cb h => ⟨(hwf' cb h).1, (hwf' cb h).2.2⟩
  have hpos' : ∀ e, sub.getLast? = some e → 0 < (wl'.getD e default).arr.N 1 := by
    intro e hlast
    have he := hsub e (List.mem_of_getLast? hlast)
    exact Nat.lt_of_lt_of_le (hpos e hlast) ((hle.2 e he).arr 1)
  rw [bw_eq_naive s hs wl sub limit hl hne hsub hwf hpos dbg,
    bw_eq_naive s' hs' wl' sub limit hl hne hsub' hwf' hpos' dbg]
  exact naiveBw_leD s s' hs hs' hsup wl wl' sub limit hne hsub hwf2 hwf2' hle hω

/-- the supply hardenings (smaller budget, later deadline, reservation instead of a dedicated
processor) and the callback hardenings (larger scalar WCET, more arrivals, a larger assumed
response-time bound) produce the orders used above -/
theorem ros_hardenings :
    ((∀ Q Q' P, 1 ≤ Q' → Q' ≤ Q → Q ≤ P → (Supply.periodic Q' P).Weaker (.periodic Q P)) ∧
     (∀ Q Q' D P, 1 ≤ Q' → Q' ≤ Q → Q ≤ D → D ≤ P → (Supply.constrained Q' D P).Weaker (.constrained Q D P)) ∧
     (∀ Q D D' P, 1 ≤ Q → Q ≤ D → D ≤ D' → D' ≤ P → (Supply.constrained Q D' P).Weaker (.constrained Q D P)) ∧
     (∀ Q P, 1 ≤ Q → Q ≤ P → (Supply.periodic Q P).Weaker .dedicated)) ∧
    (∀ (rtb rtb' : Nat) (a a' : Arr) (C C' : Nat) (k : CbKind), rtb ≤ rtb' → (∀ d, a.N d ≤ a'.N d) → C ≤ C' →
      Callback.Le ⟨rtb, a, .scalar C, k⟩ ⟨rtb', a', .scalar C', k⟩ ∧
      (∀ n n', (Cost.scalar C).ofJobs (n + 1) - (Cost.scalar C).ofJobs n ≤
        (Cost.scalar C').ofJobs (n' + 1) - (Cost.scalar C').ofJobs n')) := by
  exact ⟨⟨periodic_weaker_budget, fun Q Q' D P h1 h2 h3 h4 => MonoRosLemmas.cSbf_budget_le Q Q' D P h1 h2 h3 h4,
    fun Q D D' P h1 h2 h3 h4 => MonoRosLemmas.cSbf_deadline_le Q D D' P h1 h2 h3 h4,
    periodic_weaker_dedicated⟩, scalar_callback_le⟩

/-- the analysed task's OWN last non-preemptive segment is not a hardening: lengthening it
protects the job earlier and can shorten the bound (witness) -/
theorem own_last_segment_not_monotone :
    fpLimited (.sporadic 10 0) 4 1 0 [.rbf (.sporadic 5 0) (.scalar 2)] 100 = .ok 8 ∧
    fpLimited (.sporadic 10 0) 4 4 0 [.rbf (.sporadic 5 0) (.scalar 2)] 100 = .ok 6 := by
  decide

end RTA.C17
