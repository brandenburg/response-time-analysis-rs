import RTA.Lemmas.RosNaive
import RTA.Lemmas.PrunedLe
/-! # C07 — ROS 2 bounds equal exhaustive evaluation of their defining equations

Model: `RTA/Model/Ros.lean`; naive evaluation: `RTA/Spec/NaiveRos.lean` — every offset up to
the maximum busy-window / offset bound, linear-scan least fixed points (`naiveSolveSup`),
`service_time` by linear scan over the supply-bound function computed from the reservation
parameters alone (`naiveSt`); an error exactly when a required fixed point does not exist
within the limit.  Event source, rr, bw: all offsets; timer / polling point / chain: the own step
offsets only (K2: `counterexample_K2` refutes the all-offset claim, `timer_le_all_offsets`). -/

namespace RTA.C07
open RTA RTA.Spec

/-- event source: equal to naive evaluation over EVERY offset `A ≤ max_bw`, all supplies -/
theorem event_source (s : Supply) (hs : s.WF) (demand : RB) (hwf : demand.ArrWF) (hex : demand.Exact)
    (limit : Nat) (hl : 1 ≤ limit) :
    rosEventSource s demand limit = naiveEventSource s demand limit :=
  eventSource_eq_naive s hs demand hwf hex limit hl

/-- rr subchain analysis (all callback kinds, singleton and multi-callback subchains) -/
theorem rr (s : Supply) (hs : s.WF) (wl : List Callback) (sub : List Nat) (limit : Nat)
    (hl : 1 ≤ limit) (hsub : ∀ i ∈ sub, i < wl.length) (hwf : ∀ cb ∈ wl, cb.arr.WF ∧ MonoN cb.cost.ofJobs) :
    rrSubchain s wl sub limit = naiveRr s wl sub limit := rr_eq_naive s hs wl sub limit hl hsub hwf

/-- bw subchain analysis: equal to naive evaluation over EVERY activation offset below the
maximum offset (the pruning to the relevant steps of Lemma 19 loses nothing), in the
release build and in the debug build with its brute-force cross-check alike -/
theorem bw (s : Supply) (hs : s.WF) (wl : List Callback) (sub : List Nat) (limit : Nat)
    (hl : 1 ≤ limit) (hne : sub ≠ []) (hsub : ∀ i ∈ sub, i < wl.length)
    (hwf : ∀ cb ∈ wl, cb.arr.WF ∧ cb.arr.Exact ∧ MonoN cb.cost.ofJobs)
    (hpos : ∀ e, sub.getLast? = some e → 0 < (wl.getD e default).arr.N 1) (dbg : Bool) :
    bwSubchain s wl sub limit dbg = naiveBw s wl sub limit :=
  bw_eq_naive s hs wl sub limit hl hne hsub hwf hpos dbg

/-- the relevant steps equal the brute-force enumeration (the debug cross-check cannot fire) -/
theorem bw_steps_eq_brute_force (wl : List Callback) (e H : Nat) (he : e < wl.length)
    (hwf : ∀ cb ∈ wl, cb.arr.WF ∧ cb.arr.Exact) :
    bwAllSteps wl e H = bwBruteSteps wl e H := bwAllSteps_eq_brute wl e H he hwf

/-- timer and polling-point callback (partial): equal to naive evaluation over the STEP
offsets of the callback's own demand -/
theorem timer_partial (s : Supply) (hs : s.WF) (a : Arr) (C : Nat) (interf : RB)
    (hwf : a.WF) (hex : a.Exact) (hC : 1 ≤ C) (hpos : 0 < a.N 1)
    (hwfi : interf.ArrWF) (hexi : interf.Exact) (B limit : Nat) (hl : 1 ≤ limit) :
    rosTimer s (.rbf a (.scalar C)) interf B limit =
      naiveRosBoundOn s (fun d => (RB.rbf a (.scalar C)).need d + B + interf.need d)
        (fun A r => (RB.rbf a (.scalar C)).need (A + 1) +
          interf.need (interferenceInterval (.rbf a (.scalar C)) A r) + B) limit
        (rosOffsets (.rbf a (.scalar C))) :=
  timer_eq_naive_on_steps s hs a C interf hwf hex hC hpos hwfi hexi B limit hl

theorem polling_point_partial (s : Supply) (hs : s.WF) (a : Arr) (C : Nat) (interf : RB)
    (hwf : a.WF) (hex : a.Exact) (hC : 1 ≤ C) (hpos : 0 < a.N 1)
    (hwfi : interf.ArrWF) (hexi : interf.Exact) (limit : Nat) (hl : 1 ≤ limit) :
    rosPollingPoint s (.rbf a (.scalar C)) interf limit =
      naiveRosBoundOn s (fun d => (RB.rbf a (.scalar C)).need d + interf.need d)
        (fun A r => (RB.rbf a (.scalar C)).need (A + 1) +
          interf.need (interferenceInterval (.rbf a (.scalar C)) A r)) limit
        (rosOffsets (.rbf a (.scalar C))) :=
  pollingPoint_eq_naive_on_steps s hs a C interf hwf hex hC hpos hwfi hexi limit hl

/-- processing chain (partial): the chain analysis is the polling-point analysis of the last
callback with the chain prefix and the other chains as interference, hence equal to naive
evaluation over the step offsets of the chain's arrival curve -/
theorem chain_partial (s : Supply) (hs : s.WF) (a : Arr) (C P : Nat) (others : RB)
    (hwf : a.WF) (hex : a.Exact) (hC : 1 ≤ C) (hP : 1 ≤ P) (hpos : 0 < a.N 1)
    (hwfo : others.ArrWF) (hexo : others.Exact) (limit : Nat) (hl : 1 ≤ limit) :
    rosChain s (.rbf a (.scalar C)) (.rbf a (.scalar P)) (.rbf a (.scalar (C + P))) others limit =
      naiveRosBoundOn s
        (fun d => (RB.rbf a (.scalar C)).need d + (RB.agg [.rbf a (.scalar P), others]).need d)
        (fun A r => (RB.rbf a (.scalar C)).need (A + 1) +
          (RB.agg [.rbf a (.scalar P), others]).need (interferenceInterval (.rbf a (.scalar C)) A r)) limit
        (rosOffsets (.rbf a (.scalar C))) := by
  rw [Sched.rosChain_eq_pollingPoint s a C P others limit]
  refine pollingPoint_eq_naive_on_steps s hs a C (.agg [.rbf a (.scalar P), others]) hwf hex hC hpos ?_ ?_ limit hl
  · simp only [RB.ArrWF, RB.ArrWFList]
    exact ⟨hwf, hwfo, trivial⟩
  · simp only [RB.Exact, RB.ExactList]
    exact ⟨⟨hex, Cost.scalar_strictPos P hP⟩, hexo, trivial⟩

/-- finding K2, the direction that always holds: the pruned timer / polling-point analyses never
return MORE than the all-offset evaluation (and an error of theirs is an error of it) -/
theorem timer_le_all_offsets (s : Supply) (hs : s.WF) (a : Arr) (C : Nat) (interf : RB)
    (hwf : a.WF) (hex : a.Exact) (hC : 1 ≤ C) (hpos : 0 < a.N 1)
    (hwfi : interf.ArrWF) (hexi : interf.Exact) (B limit : Nat) (hl : 1 ≤ limit) :
    Res.leD (rosTimer s (.rbf a (.scalar C)) interf B limit)
      (naiveTimer s (.rbf a (.scalar C)) interf B limit) ∧
    Res.leD (rosPollingPoint s (.rbf a (.scalar C)) interf limit)
      (naivePollingPoint s (.rbf a (.scalar C)) interf limit) :=
  ⟨RTA.timer_le_all_offsets s hs a C interf hwf hex hC hpos hwfi hexi B limit hl,
   RTA.pollingPoint_le_all_offsets s hs a C interf hwf hex hC hpos hwfi hexi limit hl⟩

/-- the full claim for the timer analysis (all-offset evaluation) -/
def TimerEqualsAllOffsets : Prop :=
  ∀ (s : Supply) (own interf : RB) (B limit : Nat), s.WF → own.ArrWF → own.Exact → interf.ArrWF →
    interf.Exact → 1 ≤ limit → rosTimer s own interf B limit = naiveTimer s own interf B limit

/-- finding K2: the full claim is false — for non-concave interference the pruning to the
own steps is lossy (9 vs 10) -/
theorem counterexample_K2 : ¬ TimerEqualsAllOffsets := by
  intro h
  have := h .dedicated (.rbf (.sporadic 35 10) (.scalar 3)) (.rbf (.curve [8, 9, 11, 17]) (.scalar 3)) 3 200
    (by decide) (by simp [RB.ArrWF, Arr.WF]) ⟨by simp [Arr.Exact], Cost.scalar_strictPos 3 (by omega)⟩
    (by simp [RB.ArrWF, Arr.WF]; decide) ⟨by simp [Arr.Exact], Cost.scalar_strictPos 3 (by omega)⟩ (by omega)
  rw [timer_pruning_lossy.1, timer_pruning_lossy.2] at this
  cases this

/-- `service_time` is the linear-scan inverse; the search is the linear-scan least solution -/
theorem building_blocks (s : Supply) (hs : s.WF) :
    (∀ d, s.st? d = some (naiveSt s d)) ∧
    (∀ (w : Nat → Nat), Mono w → ∀ off limit, 1 ≤ limit → InBusyWindow s.stClosed w off →
      searchWithOffset s off limit w = naiveSolveSup s.sbf off w limit) :=
  ⟨fun d => st_eq_naive s hs d, fun w hw off limit hl hoff => searchWithOffset_eq_naive s hs w hw off limit hl hoff⟩

end RTA.C07
