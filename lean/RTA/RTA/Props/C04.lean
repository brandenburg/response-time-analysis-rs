import RTA.Lemmas.SupplyFifo
import RTA.Lemmas.TimerSound
import RTA.Lemmas.TimerSoundExample
import RTA.Lemmas.ChainSound
import RTA.Lemmas.ExecRefineChain
import RTA.Lemmas.ExecRunMeets
import RTA.Lemmas.ExecChainExample
import RTA.Lemmas.ExecEndToEndExample2
import RTA.Spec.Ros2Exec
/-! # C04 — the ECRTS'19 ROS 2 analyses are safe under reservation supply

For all reservation parameters, all compliant budget placements (indeed every supply process that
delivers at least the supply-bound function in every window), all compliant arrival sequences and
all execution times up to the WCET.  Four layers:
* over schedule-level Specs: the **event-source** analysis (`event_source_safe*`: FIFO
  processing, all tie-breaks); the **timer** and **polling-point callback** analyses (`timer_safe`,
  `polling_point_safe`) over `SupplyTimerLegal` (`RTA/Lemmas/TimerSound.lean`): callbacks are
  non-preemptive and progress only in supplied slots; the executor does not idle while an
  instance of the analysed callback or of an interfering callback is pending; a callback that is
  neither is never started while such an instance is pending; instances of the analysed callback
  start in release order; everything else about the executor (polling points, ready set, order
  among the other callbacks) is arbitrary.  The **processing-chain** analysis (`chain_safe`):
  every callback instance is attributed the arrival time of its chain instance; the analysis is
  the polling-point analysis of the last callback with the chain prefix and the other chains as
  interference (scalar WCETs, one arrival curve per chain).
* over the job system of a run of the executor transition system (`RTA/Spec/Ros2Exec.lean`):
  EVERY run satisfies the Specs (`executor_runs_are_timer_legal`, `C05.executor_runs_are_legal`;
  with a linear chain `executor_runs_are_chain_legal`), hence `timer_safe_lts`,
  `polling_point_safe_lts`, `chain_safe_lts`.
* over the completions that the executable `Exec.run` reports (`timer_safe_run`,
  `polling_point_safe_run`, from the `*_safe_lts` theorems), and with every hypothesis on the
  inputs of the run (`*_safe_end_to_end` for timer, polling point and chain; concrete runs
  `timer_safe_end_to_end_nonvacuous`, `chain_safe_end_to_end_nonvacuous`).
* the same for the transition system with arbitrary execution times between 1 and the WCET
  (`RTA/Spec/Ros2ExecX.lean`): `*_safe_all_execution_times`, of which the `*_safe_end_to_end`
  theorems are the case `wcet_runs_are_a_special_case`. -/

namespace RTA.C04
open RTA RTA.Sched RTA.Spec

/-- C04, event source: `Ok(R)` of `rta_event_source` is never exceeded -/
theorem event_source_safe (s : Sys) (Q D P : ℕ) (hQ : 1 ≤ Q) (hQD : Q ≤ D) (hDP : D ≤ P)
    (σ : ℕ → Bool) (hσ : Compliant Q D P σ) (hl : SupplyFifoLegal s σ)
    (demand : RB) (hwf : demand.ArrWF) (hex : demand.Exact)
    (hwork : ∀ t d, work s t (t + d) ≤ demand.need d) (limit R : ℕ)
    (hR : rosEventSource (.constrained Q D P) demand limit = .ok R) :
    ∀ j, j < s.n → MeetsBound s j R :=
  eventSource_sound s Q D P hQ hQD hDP σ hσ hl demand hwf hex hwork limit R hR

/-- the same for the periodic reservation (deadline = period) -/
theorem event_source_safe_periodic (s : Sys) (Q P : ℕ) (hQ : 1 ≤ Q) (hQP : Q ≤ P)
    (σ : ℕ → Bool) (hσ : Compliant Q P P σ) (hl : SupplyFifoLegal s σ)
    (demand : RB) (hwf : demand.ArrWF) (hex : demand.Exact)
    (hwork : ∀ t d, work s t (t + d) ≤ demand.need d) (limit R : ℕ)
    (hR : rosEventSource (.periodic Q P) demand limit = .ok R) :
    ∀ j, j < s.n → MeetsBound s j R :=
  eventSource_sound s Q P P hQ hQP (Nat.le_refl _) σ hσ hl demand hwf hex hwork limit R
    (rosEventSource_periodic Q P hQ hQP demand limit ▸ hR)

/-- and on a dedicated processor -/
theorem event_source_safe_dedicated (s : Sys) (hl : SupplyFifoLegal s (fun _ => true))
    (demand : RB) (hwf : demand.ArrWF) (hex : demand.Exact)
    (hwork : ∀ t d, work s t (t + d) ≤ demand.need d) (limit R : ℕ)
    (hR : rosEventSource .dedicated demand limit = .ok R) :
    ∀ j, j < s.n → MeetsBound s j R :=
  eventSource_sound_dedicated s hl demand hwf hex hwork limit R hR

/-- the schedule half in isolation: any supply-bound function that lower-bounds the
delivered service works (covers user-defined supplies) -/
theorem fifo_on_supply (s : Sys) (σ : ℕ → Bool) (hl : SupplyFifoLegal s σ) (sbf rbf : ℕ → ℕ)
    (hsbf : ∀ t d, sbf d ≤ service σ t d) (hwork : ∀ t d, work s t (t + d) ≤ rbf d)
    (L R : ℕ) (hLfix : rbf L ≤ sbf L) (hL : 0 < L) (hR : ∀ A, A ≤ L → rbf (A + 1) ≤ sbf (A + R))
    (j : ℕ) (hj : j < s.n) : svc s j (s.arr j + R) = s.cost j :=
  supply_fifo_sound s σ hl sbf rbf hsbf hwork L R hLfix hL hR j hj

/-- C04, timer: `Ok(R)` of `rta_timer` is never exceeded by any instance of the analysed
timer `i` — every supply process that delivers at least the supply-bound function of `sup`,
every schedule satisfying the executor Spec `SupplyTimerLegal`, every release pattern within
the curves (`hN`, `hhp`), every execution time up to the WCET (`hcost`), blocking by any
other callback of cost at most `B + 1` -/
theorem timer_safe (s : Sys) (σ : ℕ → Bool) (i : ℕ) (hp : ℕ → Prop) [DecidablePred hp]
    (hl : SupplyTimerLegal s σ i hp) (hi : ¬ hp i)
    (sup : Supply) (hs : sup.WF) (hsbf : ∀ t d, sup.sbf d ≤ service σ t d)
    (a : Arr) (C : ℕ) (hwf : a.WF) (hex : a.Exact) (hC : 1 ≤ C)
    (interf : RB) (hwfi : interf.ArrWF) (hexi : interf.Exact) (B : ℕ)
    (hN : ∀ t d, countOf s i t (t + d) ≤ a.N d)
    (hcost : ∀ k < s.n, s.task k = i → s.cost k ≤ C)
    (hhp : ∀ t d, workOf s hp t (t + d) ≤ interf.need d)
    (hB : ∀ k < s.n, ¬ Rel s i hp k → s.cost k ≤ B + 1)
    (limit R : ℕ) (hR : rosTimer sup (.rbf a (.scalar C)) interf B limit = .ok R) :
    ∀ j, j < s.n → s.task j = i → MeetsBound s j R :=
  timer_sound s σ i hp hl hi sup hs hsbf a C hwf hex hC interf hwfi hexi B hN hcost hhp hB limit R hR

/-- the timer analysis on a periodic / deadline-constrained reservation: every compliant
budget placement -/
theorem timer_safe_reservation (s : Sys) (Q D P : ℕ) (hQ : 1 ≤ Q) (hQD : Q ≤ D) (hDP : D ≤ P)
    (σ : ℕ → Bool) (hσ : Compliant Q D P σ) (i : ℕ) (hp : ℕ → Prop) [DecidablePred hp]
    (hl : SupplyTimerLegal s σ i hp) (hi : ¬ hp i)
    (a : Arr) (C : ℕ) (hwf : a.WF) (hex : a.Exact) (hC : 1 ≤ C)
    (interf : RB) (hwfi : interf.ArrWF) (hexi : interf.Exact) (B : ℕ)
    (hN : ∀ t d, countOf s i t (t + d) ≤ a.N d)
    (hcost : ∀ k < s.n, s.task k = i → s.cost k ≤ C)
    (hhp : ∀ t d, workOf s hp t (t + d) ≤ interf.need d)
    (hB : ∀ k < s.n, ¬ Rel s i hp k → s.cost k ≤ B + 1)
    (limit R : ℕ) (hR : rosTimer (.constrained Q D P) (.rbf a (.scalar C)) interf B limit = .ok R) :
    ∀ j, j < s.n → s.task j = i → MeetsBound s j R :=
  timer_sound_reservation s Q D P hQ hQD hDP σ hσ i hp hl hi a C hwf hex hC interf hwfi hexi B
    hN hcost hhp hB limit R hR

/-- C04, polling-point callback: `Ok(R)` of `rta_polling_point_callback` (every other callback
counted as interference) is never exceeded by any instance of the analysed callback -/
theorem polling_point_safe (s : Sys) (σ : ℕ → Bool) (i : ℕ)
    (hl : SupplyTimerLegal s σ i (fun k => k ≠ i))
    (sup : Supply) (hs : sup.WF) (hsbf : ∀ t d, sup.sbf d ≤ service σ t d)
    (a : Arr) (C : ℕ) (hwf : a.WF) (hex : a.Exact) (hC : 1 ≤ C)
    (interf : RB) (hwfi : interf.ArrWF) (hexi : interf.Exact)
    (hN : ∀ t d, countOf s i t (t + d) ≤ a.N d)
    (hcost : ∀ k < s.n, s.task k = i → s.cost k ≤ C)
    (hint : ∀ t d, workOf s (fun k => k ≠ i) t (t + d) ≤ interf.need d)
    (limit R : ℕ) (hR : rosPollingPoint sup (.rbf a (.scalar C)) interf limit = .ok R) :
    ∀ j, j < s.n → s.task j = i → MeetsBound s j R :=
  pollingPoint_sound s σ i hl sup hs hsbf a C hwf hex hC interf hwfi hexi hN hcost hint limit R hR

theorem polling_point_safe_reservation (s : Sys) (Q D P : ℕ) (hQ : 1 ≤ Q) (hQD : Q ≤ D)
    (hDP : D ≤ P) (σ : ℕ → Bool) (hσ : Compliant Q D P σ) (i : ℕ)
    (hl : SupplyTimerLegal s σ i (fun k => k ≠ i))
    (a : Arr) (C : ℕ) (hwf : a.WF) (hex : a.Exact) (hC : 1 ≤ C)
    (interf : RB) (hwfi : interf.ArrWF) (hexi : interf.Exact)
    (hN : ∀ t d, countOf s i t (t + d) ≤ a.N d)
    (hcost : ∀ k < s.n, s.task k = i → s.cost k ≤ C)
    (hint : ∀ t d, workOf s (fun k => k ≠ i) t (t + d) ≤ interf.need d)
    (limit R : ℕ)
    (hR : rosPollingPoint (.constrained Q D P) (.rbf a (.scalar C)) interf limit = .ok R) :
    ∀ j, j < s.n → s.task j = i → MeetsBound s j R :=
  pollingPoint_sound_reservation s Q D P hQ hQD hDP σ hσ i hl a C hwf hex hC interf hwfi hexi
    hN hcost hint limit R hR

/-- C04, processing chain: `Ok(R)` of `rta_processing_chain` is never exceeded by the time from a
source event to the completion of the last callback of the chain instance it triggers.  Every
callback instance `k` carries as `s.arr k` the arrival time of its chain instance (source
event); `l` is the last callback of the analysed chain; the executor facts are
`SupplyTimerLegal` for `l` with every other callback as interference (non-preemptive; no idling
while an arrived chain instance is incomplete; instances of `l` start in the order of their
chain instances); `P` is the WCET of the chain prefix, `others` the demand of the other chains -/
theorem chain_safe (s : Sys) (σ : ℕ → Bool) (l : ℕ)
    (hl : SupplyTimerLegal s σ l (fun k => k ≠ l))
    (sup : Supply) (hs : sup.WF) (hsbf : ∀ t d, sup.sbf d ≤ service σ t d)
    (a : Arr) (C P : ℕ) (hwf : a.WF) (hex : a.Exact) (hC : 1 ≤ C) (hP : 1 ≤ P)
    (others : RB) (hwfo : others.ArrWF) (hexo : others.Exact)
    (hN : ∀ t d, countOf s l t (t + d) ≤ a.N d)
    (hcost : ∀ k < s.n, s.task k = l → s.cost k ≤ C)
    (hint : ∀ t d, workOf s (fun k => k ≠ l) t (t + d) ≤ (RB.rbf a (.scalar P)).need d + others.need d)
    (limit R : ℕ)
    (hR : rosChain sup (.rbf a (.scalar C)) (.rbf a (.scalar P)) (.rbf a (.scalar (C + P))) others limit = .ok R) :
    ∀ j, j < s.n → s.task j = l → MeetsBound s j R :=
  chain_sound s σ l hl sup hs hsbf a C P hwf hex hC hP others hwfo hexo hN hcost hint limit R hR

theorem chain_safe_reservation (s : Sys) (Q D Pd : ℕ) (hQ : 1 ≤ Q) (hQD : Q ≤ D) (hDP : D ≤ Pd)
    (σ : ℕ → Bool) (hσ : Compliant Q D Pd σ) (l : ℕ)
    (hl : SupplyTimerLegal s σ l (fun k => k ≠ l))
    (a : Arr) (C P : ℕ) (hwf : a.WF) (hex : a.Exact) (hC : 1 ≤ C) (hP : 1 ≤ P)
    (others : RB) (hwfo : others.ArrWF) (hexo : others.Exact)
    (hN : ∀ t d, countOf s l t (t + d) ≤ a.N d)
    (hcost : ∀ k < s.n, s.task k = l → s.cost k ≤ C)
    (hint : ∀ t d, workOf s (fun k => k ≠ l) t (t + d) ≤ (RB.rbf a (.scalar P)).need d + others.need d)
    (limit R : ℕ)
    (hR : rosChain (.constrained Q D Pd) (.rbf a (.scalar C)) (.rbf a (.scalar P)) (.rbf a (.scalar (C + P))) others limit = .ok R) :
    ∀ j, j < s.n → s.task j = l → MeetsBound s j R :=
  chain_sound_reservation s Q D Pd hQ hQD hDP σ hσ l hl a C P hwf hex hC hP others hwfo hexo hN hcost hint limit R hR

/-- the chain analysis is the polling-point analysis of the last callback with the chain prefix
and the other chains as interference -/
theorem chain_is_polling_point (sup : Supply) (a : Arr) (C P : ℕ) (hC : 1 ≤ C) (others : RB) (limit : ℕ) :
    rosChain sup (.rbf a (.scalar C)) (.rbf a (.scalar P)) (.rbf a (.scalar (C + P))) others limit =
      rosPollingPoint sup (.rbf a (.scalar C)) (.agg [.rbf a (.scalar P), others]) limit :=
  rosChain_eq_pollingPoint sup a C P others limit

/-- non-vacuity of `timer_safe_reservation`: a concrete executor schedule (a higher-priority
timer, the analysed timer, a polled callback) on a concrete (2, 4, 4) reservation with the budget
at the end of every period satisfies every hypothesis; the analysis returns some `R` (10 in the
proof) that the analysed instance meets, while it does not complete within 6 -/
theorem timer_safe_nonvacuous :
    SupplyTimerLegal exSys exSigma 1 (fun k => k = 0) ∧ Compliant 2 4 4 exSigma ∧
    ∃ R, rosTimer (.constrained 2 4 4) (.rbf (.periodic 20) (.scalar 2))
          (.rbf (.periodic 20) (.scalar 1)) 1 100 = .ok R ∧
      (∀ t d, countOf exSys 1 t (t + d) ≤ (Arr.periodic 20).N d) ∧
      (∀ k, k < exSys.n → exSys.task k = 1 → exSys.cost k ≤ 2) ∧
      (∀ t d, workOf exSys (fun k => k = 0) t (t + d) ≤ (RB.rbf (.periodic 20) (.scalar 1)).need d) ∧
      (∀ k, k < exSys.n → ¬ Rel exSys 1 (fun k => k = 0) k → exSys.cost k ≤ 1 + 1) ∧
      MeetsBound exSys 0 R ∧ ¬ MeetsBound exSys 0 6 :=
  ⟨exSys_legal, exSigma_compliant, timer_sound_nonvacuous⟩

/-- refinement: every run of the executor transition system (no chains) satisfies the timer
Spec for every timer whose priority value is shared by no other timer -/
theorem executor_runs_are_timer_legal (cbs : List Exec.Cb) (sigma : ℕ → Bool) (rels : ℕ → List ℕ) (H i : ℕ)
    (hi : i < cbs.length) (hti : (cbs.getD i default).isTimer = true)
    (hidx : ∀ t, ∀ i ∈ rels t, i < cbs.length) (hfin : ∀ t, H ≤ t → rels t = [])
    (hcost : ∀ c ∈ cbs, 1 ≤ c.cost)
    (hdist : ∀ k, k < cbs.length → k ≠ i → (cbs.getD k default).isTimer = true →
      (cbs.getD k default).prio ≠ (cbs.getD i default).prio) :
    SupplyTimerLegal (Exec.toSys cbs sigma rels H) sigma i
      (fun k => (cbs.getD k default).isTimer = true ∧ (cbs.getD k default).prio < (cbs.getD i default).prio) :=
  -- `hi` is not needed
  Exec.run_timer_legal cbs sigma rels H i hti hidx hfin hcost hdist

/-- C04, timer, over the transition system itself: in every run, every instance of the analysed
timer has received its full service within `R` of its release -/
theorem timer_safe_lts (cbs : List Exec.Cb) (sigma : ℕ → Bool) (rels : ℕ → List ℕ) (H i : ℕ)
    (hi : i < cbs.length) (hti : (cbs.getD i default).isTimer = true)
    (hidx : ∀ t, ∀ i ∈ rels t, i < cbs.length) (hfin : ∀ t, H ≤ t → rels t = [])
    (hcb : ∀ c ∈ cbs, 1 ≤ c.cost)
    (hdist : ∀ k, k < cbs.length → k ≠ i → (cbs.getD k default).isTimer = true →
      (cbs.getD k default).prio ≠ (cbs.getD i default).prio)
    (sup : Supply) (hs : sup.WF) (hsbf : ∀ t d, sup.sbf d ≤ service sigma t d)
    (a : Arr) (C : ℕ) (hwf : a.WF) (hex : a.Exact) (hC : 1 ≤ C)
    (interf : RB) (hwfi : interf.ArrWF) (hexi : interf.Exact) (B : ℕ)
    (hN : ∀ t d, countOf (Exec.toSys cbs sigma rels H) i t (t + d) ≤ a.N d)
    (hcost : ∀ k < (Exec.toSys cbs sigma rels H).n, (Exec.toSys cbs sigma rels H).task k = i →
      (Exec.toSys cbs sigma rels H).cost k ≤ C)
    (hhp : ∀ t d, workOf (Exec.toSys cbs sigma rels H)
      (fun k => (cbs.getD k default).isTimer = true ∧ (cbs.getD k default).prio < (cbs.getD i default).prio)
      t (t + d) ≤ interf.need d)
    (hB : ∀ k < (Exec.toSys cbs sigma rels H).n,
      ¬ Rel (Exec.toSys cbs sigma rels H) i
        (fun k => (cbs.getD k default).isTimer = true ∧ (cbs.getD k default).prio < (cbs.getD i default).prio) k →
      (Exec.toSys cbs sigma rels H).cost k ≤ B + 1)
    (limit R : ℕ) (hR : rosTimer sup (.rbf a (.scalar C)) interf B limit = .ok R) :
    ∀ j, j < (Exec.toSys cbs sigma rels H).n → (Exec.toSys cbs sigma rels H).task j = i →
      MeetsBound (Exec.toSys cbs sigma rels H) j R :=
  timer_sound _ sigma i _ (executor_runs_are_timer_legal cbs sigma rels H i hi hti hidx hfin hcb hdist)
    (fun h => Nat.lt_irrefl _ h.2) sup hs hsbf a C hwf hex hC interf hwfi hexi B hN hcost hhp hB limit R hR

/-- C04, polling-point callback, over the transition system itself -/
theorem polling_point_safe_lts (cbs : List Exec.Cb) (sigma : ℕ → Bool) (rels : ℕ → List ℕ) (H i : ℕ)
    (hidx : ∀ t, ∀ i ∈ rels t, i < cbs.length) (hfin : ∀ t, H ≤ t → rels t = [])
    (hcb : ∀ c ∈ cbs, 1 ≤ c.cost)
    (sup : Supply) (hs : sup.WF) (hsbf : ∀ t d, sup.sbf d ≤ service sigma t d)
    (a : Arr) (C : ℕ) (hwf : a.WF) (hex : a.Exact) (hC : 1 ≤ C)
    (interf : RB) (hwfi : interf.ArrWF) (hexi : interf.Exact)
    (hN : ∀ t d, countOf (Exec.toSys cbs sigma rels H) i t (t + d) ≤ a.N d)
    (hcost : ∀ k < (Exec.toSys cbs sigma rels H).n, (Exec.toSys cbs sigma rels H).task k = i →
      (Exec.toSys cbs sigma rels H).cost k ≤ C)
    (hint : ∀ t d, workOf (Exec.toSys cbs sigma rels H) (fun k => k ≠ i) t (t + d) ≤ interf.need d)
    (limit R : ℕ) (hR : rosPollingPoint sup (.rbf a (.scalar C)) interf limit = .ok R) :
    ∀ j, j < (Exec.toSys cbs sigma rels H).n → (Exec.toSys cbs sigma rels H).task j = i →
      MeetsBound (Exec.toSys cbs sigma rels H) j R :=
  pollingPoint_sound _ sigma i
    (RrSoundLemmas.toTimer (Exec.run_polling_legal cbs sigma rels H hidx hfin hcb) i)
    sup hs hsbf a C hwf hex hC interf hwfi hexi hN hcost hint limit R hR

/-- refinement for chains: every run of the executor transition system WITH a linear chain
`ch = [c₀, …, c_k]` (only `c₀` released externally) satisfies the Spec of `chain_safe` for the
last callback, every callback instance of the chain carrying the arrival time of its source
event (`Exec.toSysC`) -/
theorem executor_runs_are_chain_legal (cbs : List Exec.Cb) (ch : List ℕ) (sigma : ℕ → Bool)
    (rels : ℕ → List ℕ) (H l : ℕ)
    (hch : ch.Nodup) (hne : 2 ≤ ch.length) (hlast : ch.getLast? = some l)
    (hmem : ∀ i ∈ ch, i < cbs.length ∧ (cbs.getD i default).isTimer = false)
    (hidx : ∀ t, ∀ i ∈ rels t, i < cbs.length)
    (hext : ∀ t, ∀ i ∈ rels t, i ∉ ch.tail)
    (hfin : ∀ t, H ≤ t → rels t = [])
    (hcost : ∀ c ∈ cbs, 1 ≤ c.cost) :
    SupplyTimerLegal (Exec.toSysC cbs ch sigma rels H) sigma l (fun k => k ≠ l) :=
  -- holds for every `l` and every duplicate-free chain: `hne`, `hlast` are not needed
  Exec.run_chain_legal cbs ch sigma rels H l hch (fun i hi => (hmem i hi).1) hidx hext hfin hcost

/-- C04, processing chain, over the transition system itself: in every run, the last callback
of every chain instance has received its full service within `R` of the source event -/
theorem chain_safe_lts (cbs : List Exec.Cb) (ch : List ℕ) (sigma : ℕ → Bool)
    (rels : ℕ → List ℕ) (H l : ℕ)
    (hch : ch.Nodup) (hne : 2 ≤ ch.length) (hlast : ch.getLast? = some l)
    (hmem : ∀ i ∈ ch, i < cbs.length ∧ (cbs.getD i default).isTimer = false)
    (hidx : ∀ t, ∀ i ∈ rels t, i < cbs.length)
    (hext : ∀ t, ∀ i ∈ rels t, i ∉ ch.tail)
    (hfin : ∀ t, H ≤ t → rels t = [])
    (hcb : ∀ c ∈ cbs, 1 ≤ c.cost)
    (sup : Supply) (hs : sup.WF) (hsbf : ∀ t d, sup.sbf d ≤ service sigma t d)
    (a : Arr) (C P : ℕ) (hwf : a.WF) (hex : a.Exact) (hC : 1 ≤ C) (hP : 1 ≤ P)
    (others : RB) (hwfo : others.ArrWF) (hexo : others.Exact)
    (hN : ∀ t d, countOf (Exec.toSysC cbs ch sigma rels H) l t (t + d) ≤ a.N d)
    (hcost : ∀ k < (Exec.toSysC cbs ch sigma rels H).n, (Exec.toSysC cbs ch sigma rels H).task k = l →
      (Exec.toSysC cbs ch sigma rels H).cost k ≤ C)
    (hint : ∀ t d, workOf (Exec.toSysC cbs ch sigma rels H) (fun k => k ≠ l) t (t + d) ≤
      (RB.rbf a (.scalar P)).need d + others.need d)
    (limit R : ℕ)
    (hR : rosChain sup (.rbf a (.scalar C)) (.rbf a (.scalar P)) (.rbf a (.scalar (C + P))) others limit = .ok R) :
    ∀ j, j < (Exec.toSysC cbs ch sigma rels H).n → (Exec.toSysC cbs ch sigma rels H).task j = l →
      MeetsBound (Exec.toSysC cbs ch sigma rels H) j R :=
  chain_sound _ sigma l (executor_runs_are_chain_legal cbs ch sigma rels H l hch hne hlast hmem hidx hext hfin hcb)
    sup hs hsbf a C P hwf hex hC hP others hwfo hexo hN hcost hint limit R hR

/-- response times observed in a run of the executor model: every completed instance of
callback `i` finished within `R` of its release -/
def ExecMeets (cbs : List Exec.Cb) (chain : ℕ → Option ℕ) (sigma : List Bool) (rels : ℕ → List ℕ)
    (i R : ℕ) : Prop :=
  ∀ o ∈ Exec.run cbs chain sigma rels, o.1 = i → o.2.2 ≤ o.2.1 + R

/-- C04, timer, in terms of the completions that the executable `Exec.run` reports on ANY finite
prefix of the supply process: every reported completion `(i, release, completion)` of the
analysed timer satisfies `completion ≤ release + R` (`timer_safe_lts` + `Exec.run_meets_of_sys`) -/
theorem timer_safe_run (cbs : List Exec.Cb) (sigma : ℕ → Bool) (rels : ℕ → List ℕ) (H i : ℕ)
    (hi : i < cbs.length) (hti : (cbs.getD i default).isTimer = true)
    (hidx : ∀ t, ∀ i ∈ rels t, i < cbs.length) (hfin : ∀ t, H ≤ t → rels t = [])
    (hcb : ∀ c ∈ cbs, 1 ≤ c.cost)
    (hdist : ∀ k, k < cbs.length → k ≠ i → (cbs.getD k default).isTimer = true →
      (cbs.getD k default).prio ≠ (cbs.getD i default).prio)
    (sup : Supply) (hs : sup.WF) (hsbf : ∀ t d, sup.sbf d ≤ service sigma t d)
    (a : Arr) (C : ℕ) (hwf : a.WF) (hex : a.Exact) (hC : 1 ≤ C)
    (interf : RB) (hwfi : interf.ArrWF) (hexi : interf.Exact) (B : ℕ)
    (hN : ∀ t d, countOf (Exec.toSys cbs sigma rels H) i t (t + d) ≤ a.N d)
    (hcost : ∀ k < (Exec.toSys cbs sigma rels H).n, (Exec.toSys cbs sigma rels H).task k = i →
      (Exec.toSys cbs sigma rels H).cost k ≤ C)
    (hhp : ∀ t d, workOf (Exec.toSys cbs sigma rels H)
      (fun k => (cbs.getD k default).isTimer = true ∧ (cbs.getD k default).prio < (cbs.getD i default).prio)
      t (t + d) ≤ interf.need d)
    (hB : ∀ k < (Exec.toSys cbs sigma rels H).n,
      ¬ Rel (Exec.toSys cbs sigma rels H) i
        (fun k => (cbs.getD k default).isTimer = true ∧ (cbs.getD k default).prio < (cbs.getD i default).prio) k →
      (Exec.toSys cbs sigma rels H).cost k ≤ B + 1)
    (limit R : ℕ) (hR : rosTimer sup (.rbf a (.scalar C)) interf B limit = .ok R) (n : ℕ) :
    ExecMeets cbs (fun _ => none) ((List.range n).map sigma) rels i R :=
  Exec.run_meets_of_sys cbs sigma rels H hidx hfin hcb i R
    (timer_safe_lts cbs sigma rels H i hi hti hidx hfin hcb hdist sup hs hsbf a C hwf hex hC interf hwfi hexi B
      hN hcost hhp hB limit R hR) n

/-- C04, polling-point callback, in terms of the completions reported by `Exec.run` -/
theorem polling_point_safe_run (cbs : List Exec.Cb) (sigma : ℕ → Bool) (rels : ℕ → List ℕ) (H i : ℕ)
    (hidx : ∀ t, ∀ i ∈ rels t, i < cbs.length) (hfin : ∀ t, H ≤ t → rels t = [])
    (hcb : ∀ c ∈ cbs, 1 ≤ c.cost)
    (sup : Supply) (hs : sup.WF) (hsbf : ∀ t d, sup.sbf d ≤ service sigma t d)
    (a : Arr) (C : ℕ) (hwf : a.WF) (hex : a.Exact) (hC : 1 ≤ C)
    (interf : RB) (hwfi : interf.ArrWF) (hexi : interf.Exact)
    (hN : ∀ t d, countOf (Exec.toSys cbs sigma rels H) i t (t + d) ≤ a.N d)
    (hcost : ∀ k < (Exec.toSys cbs sigma rels H).n, (Exec.toSys cbs sigma rels H).task k = i →
      (Exec.toSys cbs sigma rels H).cost k ≤ C)
    (hint : ∀ t d, workOf (Exec.toSys cbs sigma rels H) (fun k => k ≠ i) t (t + d) ≤ interf.need d)
    (limit R : ℕ) (hR : rosPollingPoint sup (.rbf a (.scalar C)) interf limit = .ok R) (n : ℕ) :
    ExecMeets cbs (fun _ => none) ((List.range n).map sigma) rels i R :=
  Exec.run_meets_of_sys cbs sigma rels H hidx hfin hcb i R
    (polling_point_safe_lts cbs sigma rels H i hidx hfin hcb sup hs hsbf a C hwf hex hC interf hwfi hexi
      hN hcost hint limit R hR) n

/-- **C04, timer, end to end, all execution times**: every hypothesis is on the INPUTS of the run
(callback table, supply process, release pattern `rels` with `Exec.relCount rels k t d` = releases
of `k` in `[t, t + d)` within the arrival curves), the conclusion on the completions reported by
the executable `ExecX.run` — no reference to a derived job system.  The executor transition
system `RTA/Spec/Ros2ExecX.lean` lets the instance of callback `k` that starts in slot `t` run for
`ex k t` slots, anywhere between 1 and the callback's WCET (`hex`).  The interference handed to
`rta_timer` is the aggregate of the higher-priority timers, the blocking bound `B` at least
the cost − 1 of every other callback. -/
theorem timer_safe_all_execution_times (cbs : List Exec.Cb) (ex : ℕ → ℕ → ℕ) (sigma : ℕ → Bool) (rels : ℕ → List ℕ) (H i : ℕ)
    (hi : i < cbs.length) (hti : (cbs.getD i default).isTimer = true)
    (hidx : ∀ t, ∀ i ∈ rels t, i < cbs.length) (hfin : ∀ t, H ≤ t → rels t = [])
    (hex : ∀ k, k < cbs.length → ∀ t, 1 ≤ ex k t ∧ ex k t ≤ (cbs.getD k default).cost)
    (hdist : ∀ k, k < cbs.length → k ≠ i → (cbs.getD k default).isTimer = true →
      (cbs.getD k default).prio ≠ (cbs.getD i default).prio)
    (sup : Supply) (hs : sup.WF) (hsbf : ∀ t d, sup.sbf d ≤ service sigma t d)
    (arrs : List Arr) (hlen : arrs.length = cbs.length) (hwf : ∀ a ∈ arrs, a.WF ∧ a.Exact)
    (hrel : ∀ k, k < cbs.length → ∀ t d, Exec.relCount rels k t d ≤ (arrs.getD k default).N d)
    (B : ℕ)
    (hB : ∀ k, k < cbs.length → k ≠ i →
      ¬ ((cbs.getD k default).isTimer = true ∧ (cbs.getD k default).prio < (cbs.getD i default).prio) →
      (cbs.getD k default).cost ≤ B + 1)
    (limit R : ℕ)
    (hR : rosTimer sup (.rbf (arrs.getD i default) (.scalar (cbs.getD i default).cost))
      (.agg (((List.range cbs.length).filter fun k =>
          (cbs.getD k default).isTimer && decide ((cbs.getD k default).prio < (cbs.getD i default).prio)).map
        fun k => .rbf (arrs.getD k default) (.scalar (cbs.getD k default).cost))) B limit = .ok R)
    (n : ℕ) :
    ∀ o ∈ ExecX.run cbs ex (fun _ => none) ((List.range n).map sigma) rels, o.1 = i → o.2.2 ≤ o.2.1 + R :=
  ExecX.timer_exec_sound_x cbs ex sigma rels H i hi hti hidx hfin hex hdist sup hs hsbf arrs hlen hwf hrel B hB limit R hR n

/-- **C04, polling-point callback, end to end, all execution times** (interference: all other
callbacks) -/
theorem polling_point_safe_all_execution_times (cbs : List Exec.Cb) (ex : ℕ → ℕ → ℕ) (sigma : ℕ → Bool) (rels : ℕ → List ℕ) (H i : ℕ)
    (hi : i < cbs.length)
    (hidx : ∀ t, ∀ i ∈ rels t, i < cbs.length) (hfin : ∀ t, H ≤ t → rels t = [])
    (hex : ∀ k, k < cbs.length → ∀ t, 1 ≤ ex k t ∧ ex k t ≤ (cbs.getD k default).cost)
    (sup : Supply) (hs : sup.WF) (hsbf : ∀ t d, sup.sbf d ≤ service sigma t d)
    (arrs : List Arr) (hlen : arrs.length = cbs.length) (hwf : ∀ a ∈ arrs, a.WF ∧ a.Exact)
    (hrel : ∀ k, k < cbs.length → ∀ t d, Exec.relCount rels k t d ≤ (arrs.getD k default).N d)
    (limit R : ℕ)
    (hR : rosPollingPoint sup (.rbf (arrs.getD i default) (.scalar (cbs.getD i default).cost))
      (.agg (((List.range cbs.length).filter fun k => decide (k ≠ i)).map
        fun k => .rbf (arrs.getD k default) (.scalar (cbs.getD k default).cost))) limit = .ok R)
    (n : ℕ) :
    ∀ o ∈ ExecX.run cbs ex (fun _ => none) ((List.range n).map sigma) rels, o.1 = i → o.2.2 ≤ o.2.1 + R :=
  ExecX.pollingPoint_exec_sound_x cbs ex sigma rels H i hi hidx hfin hex sup hs hsbf arrs hlen hwf hrel limit R hR n

/-- **C04, processing chain, end to end, all execution times**: every hypothesis is on the INPUTS
of the run (callback table, linear chain `ch = [c₀, …, c_k]` of polled callbacks of which only `c₀`
is released externally, supply process, execution times between 1 and the WCET, release pattern
within the curves: `a` for the chain's source, `arrs` for the callbacks outside the chain), the
conclusion on the completions reported by the executable `ExecX.run`: the `m`-th completion of the
last callback is within `R` of the `m`-th release of the source (`Exec.relTimes`,
`Exec.completionsOf`).  `rta_processing_chain` is given the last callback's WCET, the total WCET
of the callbacks before it, and all callbacks outside the chain as interference. -/
theorem chain_safe_all_execution_times (cbs : List Exec.Cb) (ex : ℕ → ℕ → ℕ) (ch : List ℕ) (sigma : ℕ → Bool) (rels : ℕ → List ℕ)
    (H l : ℕ)
    (hch : ch.Nodup) (hne : 2 ≤ ch.length) (hlast : ch.getLast? = some l)
    (hmem : ∀ i ∈ ch, i < cbs.length ∧ (cbs.getD i default).isTimer = false)
    (hidx : ∀ t, ∀ i ∈ rels t, i < cbs.length)
    (hext : ∀ t, ∀ i ∈ rels t, i ∉ ch.tail)
    (hfin : ∀ t, H ≤ t → rels t = [])
    (hexec : ∀ k, k < cbs.length → ∀ t, 1 ≤ ex k t ∧ ex k t ≤ (cbs.getD k default).cost)
    (sup : Supply) (hs : sup.WF) (hsbf : ∀ t d, sup.sbf d ≤ service sigma t d)
    (a : Arr) (hwf : a.WF) (hex : a.Exact)
    (hsrc : ∀ t d, Exec.relCount rels (ch.headD 0) t d ≤ a.N d)
    (arrs : List Arr) (hlen : arrs.length = cbs.length) (hwfo : ∀ b ∈ arrs, b.WF ∧ b.Exact)
    (hrel : ∀ k, k < cbs.length → k ∉ ch → ∀ t d, Exec.relCount rels k t d ≤ (arrs.getD k default).N d)
    (limit R : ℕ)
    (hR : rosChain sup
      (.rbf a (.scalar (cbs.getD l default).cost))
      (.rbf a (.scalar ((ch.dropLast.map fun i => (cbs.getD i default).cost).sum)))
      (.rbf a (.scalar ((cbs.getD l default).cost + (ch.dropLast.map fun i => (cbs.getD i default).cost).sum)))
      (.agg (((List.range cbs.length).filter fun k => decide (k ∉ ch)).map
        fun k => .rbf (arrs.getD k default) (.scalar (cbs.getD k default).cost))) limit = .ok R)
    (n m : ℕ)
    (hm : m < (Exec.completionsOf (ExecX.run cbs ex (Exec.chainFn ch) ((List.range n).map sigma) rels) l).length) :
    (Exec.completionsOf (ExecX.run cbs ex (Exec.chainFn ch) ((List.range n).map sigma) rels) l).getD m 0 ≤
      (Exec.relTimes rels H (ch.headD 0)).getD m 0 + R :=
  ExecX.chain_exec_sound_x cbs ex ch sigma rels H l hch hne hlast hmem hidx hext hfin hexec sup hs hsbf a hwf hex
    hsrc arrs hlen hwfo hrel limit R hR n m hm

/-- **C04, timer, end to end**: `timer_safe_all_execution_times` for `Exec.run`, where every
instance runs for its WCET -/
theorem timer_safe_end_to_end (cbs : List Exec.Cb) (sigma : ℕ → Bool) (rels : ℕ → List ℕ) (H i : ℕ)
    (hi : i < cbs.length) (hti : (cbs.getD i default).isTimer = true)
    (hidx : ∀ t, ∀ i ∈ rels t, i < cbs.length) (hfin : ∀ t, H ≤ t → rels t = [])
    (hcb : ∀ c ∈ cbs, 1 ≤ c.cost)
    (hdist : ∀ k, k < cbs.length → k ≠ i → (cbs.getD k default).isTimer = true →
      (cbs.getD k default).prio ≠ (cbs.getD i default).prio)
    (sup : Supply) (hs : sup.WF) (hsbf : ∀ t d, sup.sbf d ≤ service sigma t d)
    (arrs : List Arr) (hlen : arrs.length = cbs.length) (hwf : ∀ a ∈ arrs, a.WF ∧ a.Exact)
    (hrel : ∀ k, k < cbs.length → ∀ t d, Exec.relCount rels k t d ≤ (arrs.getD k default).N d)
    (B : ℕ)
    (hB : ∀ k, k < cbs.length → k ≠ i →
      ¬ ((cbs.getD k default).isTimer = true ∧ (cbs.getD k default).prio < (cbs.getD i default).prio) →
      (cbs.getD k default).cost ≤ B + 1)
    (limit R : ℕ)
    (hR : rosTimer sup (.rbf (arrs.getD i default) (.scalar (cbs.getD i default).cost))
      (.agg (((List.range cbs.length).filter fun k =>
          (cbs.getD k default).isTimer && decide ((cbs.getD k default).prio < (cbs.getD i default).prio)).map
        fun k => .rbf (arrs.getD k default) (.scalar (cbs.getD k default).cost))) B limit = .ok R)
    (n : ℕ) :
    ∀ o ∈ Exec.run cbs (fun _ => none) ((List.range n).map sigma) rels, o.1 = i → o.2.2 ≤ o.2.1 + R :=
  (ExecX.run_wcet cbs _ _ rels) ▸ timer_safe_all_execution_times cbs _ sigma rels H i hi hti hidx hfin (Exec.wcet_bounds cbs hcb)
    hdist sup hs hsbf arrs hlen hwf hrel B hB limit R hR n

/-- **C04, polling-point callback, end to end**, for `Exec.run` -/
theorem polling_point_safe_end_to_end (cbs : List Exec.Cb) (sigma : ℕ → Bool) (rels : ℕ → List ℕ) (H i : ℕ)
    (hi : i < cbs.length)
    (hidx : ∀ t, ∀ i ∈ rels t, i < cbs.length) (hfin : ∀ t, H ≤ t → rels t = [])
    (hcb : ∀ c ∈ cbs, 1 ≤ c.cost)
    (sup : Supply) (hs : sup.WF) (hsbf : ∀ t d, sup.sbf d ≤ service sigma t d)
    (arrs : List Arr) (hlen : arrs.length = cbs.length) (hwf : ∀ a ∈ arrs, a.WF ∧ a.Exact)
    (hrel : ∀ k, k < cbs.length → ∀ t d, Exec.relCount rels k t d ≤ (arrs.getD k default).N d)
    (limit R : ℕ)
    (hR : rosPollingPoint sup (.rbf (arrs.getD i default) (.scalar (cbs.getD i default).cost))
      (.agg (((List.range cbs.length).filter fun k => decide (k ≠ i)).map
        fun k => .rbf (arrs.getD k default) (.scalar (cbs.getD k default).cost))) limit = .ok R)
    (n : ℕ) :
    ∀ o ∈ Exec.run cbs (fun _ => none) ((List.range n).map sigma) rels, o.1 = i → o.2.2 ≤ o.2.1 + R :=
  (ExecX.run_wcet cbs _ _ rels) ▸ polling_point_safe_all_execution_times cbs _ sigma rels H i hi hidx hfin
    (Exec.wcet_bounds cbs hcb) sup hs hsbf arrs hlen hwf hrel limit R hR n

/-- non-vacuity of `timer_safe_end_to_end`: for the timer of the example run (no higher-priority
timer, blocking bound 2) `rta_timer` returns `Ok(3)`, every hypothesis holds, and every completion
of the timer that `Exec.run` reports is within 3 of its release -/
theorem timer_safe_end_to_end_nonvacuous :
    rosTimer .dedicated (.rbf (Exec.exArrs.getD 0 default) (.scalar (Exec.exCbs.getD 0 default).cost))
      (.agg (((List.range Exec.exCbs.length).filter fun k =>
          (Exec.exCbs.getD k default).isTimer && decide ((Exec.exCbs.getD k default).prio < (Exec.exCbs.getD 0 default).prio)).map
        fun k => .rbf (Exec.exArrs.getD k default) (.scalar (Exec.exCbs.getD k default).cost))) 2 100 = .ok 3 ∧
    ∀ o ∈ Exec.run Exec.exCbs (fun _ => none) ((List.range 60).map Exec.exSigmaAll) Exec.exRels,
      o.1 = 0 → o.2.2 ≤ o.2.1 + 3 :=
  ⟨Exec.timer_example_bound, Exec.timer_example_bounded⟩

/-- **C04, processing chain, end to end**, for `Exec.run` -/
theorem chain_safe_end_to_end (cbs : List Exec.Cb) (ch : List ℕ) (sigma : ℕ → Bool) (rels : ℕ → List ℕ)
    (H l : ℕ)
    (hch : ch.Nodup) (hne : 2 ≤ ch.length) (hlast : ch.getLast? = some l)
    (hmem : ∀ i ∈ ch, i < cbs.length ∧ (cbs.getD i default).isTimer = false)
    (hidx : ∀ t, ∀ i ∈ rels t, i < cbs.length)
    (hext : ∀ t, ∀ i ∈ rels t, i ∉ ch.tail)
    (hfin : ∀ t, H ≤ t → rels t = [])
    (hcb : ∀ c ∈ cbs, 1 ≤ c.cost)
    (sup : Supply) (hs : sup.WF) (hsbf : ∀ t d, sup.sbf d ≤ service sigma t d)
    (a : Arr) (hwf : a.WF) (hex : a.Exact)
    (hsrc : ∀ t d, Exec.relCount rels (ch.headD 0) t d ≤ a.N d)
    (arrs : List Arr) (hlen : arrs.length = cbs.length) (hwfo : ∀ b ∈ arrs, b.WF ∧ b.Exact)
    (hrel : ∀ k, k < cbs.length → k ∉ ch → ∀ t d, Exec.relCount rels k t d ≤ (arrs.getD k default).N d)
    (limit R : ℕ)
    (hR : rosChain sup
      (.rbf a (.scalar (cbs.getD l default).cost))
      (.rbf a (.scalar ((ch.dropLast.map fun i => (cbs.getD i default).cost).sum)))
      (.rbf a (.scalar ((cbs.getD l default).cost + (ch.dropLast.map fun i => (cbs.getD i default).cost).sum)))
      (.agg (((List.range cbs.length).filter fun k => decide (k ∉ ch)).map
        fun k => .rbf (arrs.getD k default) (.scalar (cbs.getD k default).cost))) limit = .ok R)
    (n m : ℕ)
    (hm : m < (Exec.completionsOf (Exec.run cbs (Exec.chainFn ch) ((List.range n).map sigma) rels) l).length) :
    (Exec.completionsOf (Exec.run cbs (Exec.chainFn ch) ((List.range n).map sigma) rels) l).getD m 0 ≤
      (Exec.relTimes rels H (ch.headD 0)).getD m 0 + R :=
  (ExecX.run_wcet cbs _ _ rels) ▸ chain_safe_all_execution_times cbs _ ch sigma rels H l hch hne hlast hmem hidx hext hfin
    (Exec.wcet_bounds cbs hcb) sup hs hsbf a hwf hex hsrc arrs hlen hwfo hrel limit R hR n m
    ((ExecX.run_wcet cbs _ _ rels).symm ▸ hm)

/-- non-vacuity of `chain_safe_end_to_end`: a timer and a chain of two polled callbacks on a
dedicated processor, periodic releases: every hypothesis holds, `rta_processing_chain` returns
`Ok(6)` (`Exec.chain_example_bound`), the run reports the completions 6 and 26 of the chain for
the source releases 0 and 20 — the bound is attained -/
theorem chain_safe_end_to_end_nonvacuous :
    Exec.completionsOf (Exec.run Exec.exCbsC (Exec.chainFn Exec.exChain) ((List.range 60).map Exec.exSigmaC) Exec.exRelsC) 2 = [6, 26] ∧
    Exec.relTimes Exec.exRelsC 40 (Exec.exChain.headD 0) = [0, 20] ∧
    ∀ m, m < (Exec.completionsOf (Exec.run Exec.exCbsC (Exec.chainFn Exec.exChain) ((List.range 60).map Exec.exSigmaC) Exec.exRelsC) 2).length →
      (Exec.completionsOf (Exec.run Exec.exCbsC (Exec.chainFn Exec.exChain) ((List.range 60).map Exec.exSigmaC) Exec.exRelsC) 2).getD m 0 ≤
        (Exec.relTimes Exec.exRelsC 40 (Exec.exChain.headD 0)).getD m 0 + 6 :=
  ⟨Exec.chain_example_completions, Exec.chain_example_releases, Exec.chain_example_bounded⟩

/-- the transition system with every instance at its WCET is the special case -/
theorem wcet_runs_are_a_special_case (cbs : List Exec.Cb) (chain : ℕ → Option ℕ) (sigma : List Bool)
    (rels : ℕ → List ℕ) :
    ExecX.run cbs (fun i _ => (cbs.getD i default).cost) chain sigma rels = Exec.run cbs chain sigma rels :=
  ExecX.run_wcet cbs chain sigma rels

/-- the claim for the timer analysis phrased over `Exec.run` with a finite supply prefix
`sigma : List Bool` and releases counted by membership: for every run of the executor on a
compliant supply with releases bounded by the arrival curves, `Ok(R)` of `rta_timer` bounds the
response times of the analysed timer.  NOT proved in this form and used by no theorem:
`timer_safe_end_to_end` proves it (supply as a process `ℕ → Bool`, releases counted by
`Exec.relCount`) under the additional hypotheses it states: `hidx`, `hfin`, `hcb`, `hdist`,
`hwf`. -/
def TimerSafe : Prop :=
  ∀ (cbs : List Exec.Cb) (i : ℕ) (arrs : List Arr) (Q D P : ℕ) (sigma : List Bool) (rels : ℕ → List ℕ)
    (B limit R : ℕ),
    i < cbs.length → (cbs.getD i default).isTimer = true → arrs.length = cbs.length →
    1 ≤ Q → Q ≤ D → D ≤ P →
    (∃ σ, Compliant Q D P σ ∧ ∀ t, t < sigma.length → sigma.getD t false = σ t) →
    (∀ k, k < cbs.length → ∀ t d, ((List.range d).filter fun u => k ∈ rels (t + u)).length ≤ (arrs.getD k default).N d) →
    (∀ k, k < cbs.length → k ≠ i →
      ¬ ((cbs.getD k default).isTimer ∧ (cbs.getD k default).prio < (cbs.getD i default).prio) →
      (cbs.getD k default).cost ≤ B + 1) →
    rosTimer (.constrained Q D P) (.rbf (arrs.getD i default) (.scalar (cbs.getD i default).cost))
      (.agg (((List.range cbs.length).filter fun k =>
          (cbs.getD k default).isTimer && decide ((cbs.getD k default).prio < (cbs.getD i default).prio)).map
        fun k => .rbf (arrs.getD k default) (.scalar (cbs.getD k default).cost))) B limit = .ok R →
    ExecMeets cbs (fun _ => none) sigma rels i R

end RTA.C04
