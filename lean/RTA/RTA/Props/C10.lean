import RTA.Lemmas.ArrAll
/-! # C10 — arrival models never undercount the event processes they describe

Model: `RTA/Model/Arrival.lean` (`Arr`, `Arr.N` = `number_arrivals`, `Arr.withJitter` =
`clone_with_jitter`); Spec of admissible event sequences: `RTA/Spec/Events.lean`. -/

namespace RTA.C10
open RTA RTA.Spec

/-- `number_arrivals(0) = 0`, for every model and every composition -/
theorem number_arrivals_zero (a : Arr) : a.N 0 = 0 := Arr.N_zero a

/-- `number_arrivals` is non-decreasing -/
theorem number_arrivals_mono (a : Arr) (hwf : a.WF) (d1 d2 : Nat) (h : d1 ≤ d2) :
    a.N d1 ≤ a.N d2 := Arr.N_mono a hwf d1 d2 h

/-- no window of length `Δ` of any event sequence the model documents as admissible
contains more than `number_arrivals(Δ)` events — periodic, sporadic with jitter, delta-min
curves (plain and auto-extrapolating), arrival-curve prefixes, propagated models, vectors,
slices and `sum_of`, nested arbitrarily -/
theorem never_undercounts (a : Arr) (hwf : a.WF) (rels : List Nat) (hadm : Admissible a rels)
    (t Δ : Nat) : cnt rels t Δ ≤ a.N Δ := Arr.bounds a hwf rels hadm t Δ

/-- `clone_with_jitter(j)` bounds every sequence obtained by delaying each event of an
admissible sequence by at most `j` -/
theorem clone_with_jitter_bounds (a : Arr) (hwf : a.WF) (j : Nat) (base rels : List Nat)
    (hadm : Admissible a base) (hd : DelayedBy j base rels) (t Δ : Nat) :
    cnt rels t Δ ≤ (a.withJitter j).N Δ := Arr.withJitter_bounds a hwf j base rels hadm hd t Δ

/-- adding jitter `x` and then `y` is the same as adding `x + y` -/
theorem jitter_composes (a : Arr) (x y Δ : Nat) :
    ((a.withJitter x).withJitter y).N Δ = (a.withJitter (x + y)).N Δ :=
  Arr.withJitter_add a x y Δ

/-- the sporadic bound is attained: for every `Δ` some admissible history (the critical instant
with `number_arrivals(Δ)` events) has exactly `number_arrivals(Δ)` events in a window of length `Δ` -/
theorem sporadic_attained (T J Δ : Nat) (hT : 1 ≤ T) :
    ∃ rels t, Admissible (.sporadic T J) rels ∧ cnt rels t Δ = (Arr.sporadic T J).N Δ :=
  ⟨criticalInstant T J ((Arr.sporadic T J).N Δ), J,
    criticalInstant_admissible T J _ hT, RTA.sporadic_attained T J Δ _ hT (Nat.le_refl _)⟩

/-- the periodic bound is attained by the synchronous sequence `0, T, 2T, …` -/
theorem periodic_attained (T Δ : Nat) (hT : 1 ≤ T) :
    ∃ rels t, Admissible (.periodic T) rels ∧ cnt rels t Δ = (Arr.periodic T).N Δ :=
  ⟨(List.range ((Arr.periodic T).N Δ)).map (· * T), 0, periodicSync_admissible T _,
    RTA.periodic_attained T Δ _ hT (Nat.le_refl _)⟩

/-- the sporadic and the periodic bound are sub-additive -/
theorem sporadic_subadditive (T J a b : Nat) (hT : 1 ≤ T) :
    (Arr.sporadic T J).N (a + b) ≤ (Arr.sporadic T J).N a + (Arr.sporadic T J).N b :=
  RTA.sporadic_subadditive T J a b hT

theorem periodic_subadditive (T a b : Nat) (hT : 1 ≤ T) :
    (Arr.periodic T).N (a + b) ≤ (Arr.periodic T).N a + (Arr.periodic T).N b :=
  RTA.periodic_subadditive T a b hT

/-- non-vacuity: a well-formed nested model and an admissible sequence for it -/
example : (Arr.sum (.sporadic 5 2) (.prop 3 (.curve [2, 7]))).WF ∧
    Admissible (.sum (.sporadic 5 2) (.prop 3 (.curve [2, 7]))) [2, 7, 1, 4] := by
  refine ⟨by decide, ?_⟩
  unfold Admissible
  refine ⟨[2, 7], [1, 4], ?_, ?_, List.Perm.refl _⟩
  · unfold Admissible; exact ⟨[0, 5], by simp [GapsGe], by simp [DelayedBy]⟩
  · unfold Admissible
    refine ⟨[0, 2], ?_, by simp [DelayedBy]⟩
    unfold Admissible Respects
    refine ⟨by simp, ?_⟩
    intro i k hk hi
    simp at hi hk
    have : i = 0 ∧ k = 0 := by omega
    obtain ⟨rfl, rfl⟩ := this
    simp

end RTA.C10
