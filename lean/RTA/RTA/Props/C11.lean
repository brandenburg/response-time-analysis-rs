import RTA.Lemmas.ArrAll
import RTA.Lemmas.Demand
import RTA.Lemmas.RBSteps
/-! # C11 — `steps_iter` yields exactly the points where a bound increases

Model: `Arr.stepsUpTo a H` / `RB.stepsUpTo r H` = `steps_iter().take_while(|x| x ≤ H)`;
the theorems hold for every horizon `H`, i.e. over an arbitrarily long prefix of the
iterator.  `StepsSpec N H l`: `l` is strictly increasing and `δ ∈ l ↔ 1 ≤ δ ≤ H ∧ N (δ-1) < N δ`.

The statement for ALL well-formed arrival models is FALSE for the crate:
`ArrivalCurvePrefix::steps_iter` yields 0 (finding K1, `counterexample_K1`).  `steps_exact_partial`
carries the hypothesis `Arr.Exact`, which excludes exactly a bare `ArrivalCurvePrefix` (under a
`Propagated` the jitter shift drops the 0).  The model mirrors the crate at its commits f1642d5
(`Propagated::steps_iter` yields the step 1 only if the curve steps there; F2) and e147bf6
(`Curve::number_arrivals` splits `delta` into whole periods plus a remainder in `1 ..= last`, so a
delta-min vector ending in a plateau steps at the multiples of its largest distance; F3):
`propagated_over_nothing_exact`, `plateau_ended_curve_exact` are the instances of those findings,
`propagated_exact`, `curve_exact` the general facts. -/

namespace RTA.C11

/-- the full claim of C11 for arrival bounds (false as it stands; see the counterexamples) -/
def StepsExactForAll : Prop :=
  ∀ (a : Arr), a.WF → ∀ H, StepsSpec a.N H (a.stepsUpTo H)

/-- C11 (partial: all arrival models except the shape of finding K1):
strictly increasing, every yielded `δ ≥ 1`, and `δ` is yielded iff the bound increases at `δ` -/
theorem steps_exact_partial (a : Arr) (hwf : a.WF) (hex : a.Exact) (H : Nat) :
    StepsSpec a.N H (a.stepsUpTo H) := Arr.steps_spec a hwf hex H

/-- never yields 0, starts with 1 whenever anything can arrive in a unit window -/
theorem steps_positive_partial (a : Arr) (hwf : a.WF) (hex : a.Exact) (H : Nat) :
    (∀ δ ∈ a.stepsUpTo H, 1 ≤ δ) ∧ (1 ≤ H → 0 < a.N 1 → (a.stepsUpTo H).head? = some 1) := by
  have hs := Arr.steps_spec a hwf hex H
  exact ⟨fun δ hδ => ((hs.2 δ).1 hδ).1, fun hH hN => hs.head?_eq_one hH (by rwa [Arr.N_zero])⟩

/-- empty when nothing can arrive -/
theorem steps_empty_of_no_arrivals (a : Arr) (hwf : a.WF) (hex : a.Exact) (H : Nat)
    (hz : ∀ d, a.N d = 0) : a.stepsUpTo H = [] := by
  have hs := Arr.steps_spec a hwf hex H
  cases hl : a.stepsUpTo H with
  | nil => rfl
  | cons x xs =>
    have := (hs.2 x).1 (by rw [hl]; simp)
    rw [hz, hz] at this
    omega

/-- the instance of finding F3: a delta-min vector ending in a plateau (`Curve::number_arrivals`
takes the remainder in `1 ..= last`, crate commit e147bf6) -/
theorem plateau_ended_curve_exact :
    StepsSpec (Arr.curve [5, 10, 10]).N 20 ((Arr.curve [5, 10, 10]).stepsUpTo 20) :=
  Arr.steps_spec (.curve [5, 10, 10]) (by decide) (by simp only [Arr.Exact]) 20

/-- the general fact behind it: `Curve::steps_iter` is exact for EVERY well-formed delta-min
vector, plateau-ended or not -/
theorem curve_exact (d : List Nat) (hwf : curveWF d) (H : Nat) :
    StepsSpec (Arr.curve d).N H ((Arr.curve d).stepsUpTo H) :=
  Arr.steps_spec (.curve d) (by simpa only [Arr.WF] using hwf) (by simp only [Arr.Exact]) H

/-- the instance of finding F2: `Propagated` over a model under which nothing ever arrives
yields no step (crate commit f1642d5) -/
theorem propagated_over_nothing_exact :
    (Arr.prop 3 .never).stepsUpTo 10 = [] ∧
    StepsSpec (Arr.prop 3 .never).N 10 ((Arr.prop 3 .never).stepsUpTo 10) :=
  ⟨prop_never_steps, prop_never_steps_spec⟩

/-- the general fact behind it: `Propagated` over any well-formed inner model is exact (the
jitter shift drops the leading 0 of a prefix; `Arr.Exact0` holds of every model), with no side
condition on what arrives within the jitter -/
theorem propagated_exact (J : Nat) (a : Arr) (hwf : a.WF) (hex : a.Exact0) (H : Nat) :
    StepsSpec (Arr.prop J a).N H ((Arr.prop J a).stepsUpTo H) :=
  Arr.steps_spec (.prop J a) (by simpa only [Arr.WF] using hwf)
    (by simpa only [Arr.Exact] using hex) H

/-- finding K1: `ArrivalCurvePrefix::steps_iter` yields 0 -/
theorem counterexample_K1 : ¬ StepsExactForAll := by
  intro h
  have hs := h (.pfx 10 [(1, 1), (4, 2)]) (by decide) 5
  have h0 : 0 ∈ (Arr.pfx 10 [(1, 1), (4, 2)]).stepsUpTo 5 := by
    simp only [Arr.stepsUpTo]
    exact prefix_steps_yield_zero _ _ _
  have := (hs.2 0).1 h0
  omega

/-- apart from the leading 0 an `ArrivalCurvePrefix` (and anything built from exact parts)
is exact -/
theorem steps_exact_upto_zero (a : Arr) (hwf : a.WF) (hex : a.Exact0) (H : Nat) :
    StepsSpec0 a.N H (a.stepsUpTo H) := Arr.steps_spec0 a hwf hex H

/-- C11 for request bounds (RBF, Aggregate, Slice, nested): presupposing that every job has
a positive cost, `steps_iter` yields exactly the increase points of `service_needed` -/
theorem rb_steps_exact_partial (r : RB) (hwf : r.ArrWF) (hex : r.Exact) (H : Nat) :
    StepsSpec r.need H (r.stepsUpTo H) := RB.steps_spec r hwf hex H

/-- `demand::step_offsets` (the analyses' search spaces) never underflows on exact request
bounds, yields exactly the offsets `A < L` at which the demand increases, and starts with
`A = 0` whenever there is demand in a unit interval -/
theorem step_offsets_exact_partial (r : RB) (hwf : r.ArrWF) (hex : r.Exact) (L : Nat) :
    (∃ as, r.offsetsBelow L = some as ∧ as.Pairwise (· < ·) ∧
      ∀ A, A ∈ as ↔ (A < L ∧ r.need A < r.need (A + 1))) ∧
    (1 ≤ L → 0 < r.need 1 → ∃ rest, r.offsetsBelow L = some (0 :: rest)) := by
  refine ⟨RB.offsetsBelow_spec r hwf hex L, fun hL h1 => ?_⟩
  obtain ⟨as, he, hp, hm⟩ := RB.offsetsBelow_spec r hwf hex L
  have h0 : 0 ∈ as := (hm 0).2 ⟨hL, by rw [RB.need_zero]; exact h1⟩
  obtain ⟨rest, e⟩ := RBStepsLemmas.head_zero_of_strict as hp h0
  exact ⟨rest, by rw [he, e]⟩

/-- the exactness hypothesis is satisfiable by a non-trivial nested model -/
example : (Arr.agg [.sporadic 7 9, .prop 4 (.curve [2, 5, 9]), .xcurve [0, 3]]).WF ∧
    (Arr.agg [.sporadic 7 9, .prop 4 (.curve [2, 5, 9]), .xcurve [0, 3]]).Exact := by
  refine ⟨by decide, ?_⟩
  simp only [Arr.Exact, Arr.ExactList, Arr.Exact0, and_true]

end RTA.C11
