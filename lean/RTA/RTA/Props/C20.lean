import RTA.Lemmas.PruneFP
import RTA.Lemmas.PruneEDF
import RTA.Lemmas.Demand
import RTA.Lemmas.Extrapolate
import RTA.Lemmas.XCurveLTS
import RTA.Props.C08
import RTA.Props.C07
import RTA.Lemmas.RosTotal
/-! # C20 — analyses are total and independent of the build profile

In the model every operation whose Rust counterpart can fail in a build with debug
assertions and overflow checks — non-saturating `-`, `/`, `%`, indexing, `assert!`,
`debug_assert!`, `unwrap`, the debug-only cross-checks — is an explicit *guard*: the model
returns `Res.panic` (resp. the driver prints `panic`) when it fails, and loops are rendered
with fuel.  With all guards true the debug and the release semantics coincide by
construction (they differ only in the guarded operations and the cross-checks).  The
theorems below show that on well-formed input no guard fails and no fuel runs out.
Integer overflow of `+`/`*` on `u64` is outside the model (the generators stay far below
2^63; the overflow-checking build is a tripwire in the falsifier). -/

namespace RTA.C20
open RTA

/-- the fixed-point search never fails a guard (the `distance_to` assertion) … -/
theorem search_total (s : Supply) (hs : s.WF) (w : Nat → Nat) (hw : Mono w)
    (offset limit : Nat) (hoff : InBusyWindow s.stClosed w offset) :
    searchWithOffset s offset limit w ≠ .panic := RTA.C08.search_total s hs w hw offset limit hoff

/-- … and the debug-only brute-force cross-check inside `fixed_point::search` cannot fire -/
theorem brute_force_cross_check (s : Supply) (hs : s.WF) (w : Nat → Nat) (hw : Mono w)
    (limit : Nat) (hoff : InBusyWindow s.stClosed w 0) :
    bruteForceSearch s 0 limit w = search s limit w := RTA.C08.bruteForce_eq_search s hs w hw limit hoff

/-- the default `service_time` loop terminates (never runs away) for every well-formed supply -/
theorem default_service_time_terminates (s : Supply) (hs : s.WF) (d : Nat) :
    (Supply.viaDefault s).st? d = some (s.stClosed d) := Supply.st?_eq (.viaDefault s) hs d

/-- FIFO and the four fixed-priority analyses never panic: no `Duration - Duration`
underflow, no `step_offsets` underflow -/
theorem fifo_total (tasks : RB) (hwf : tasks.ArrWF) (hex : tasks.Exact) (limit : Nat) :
    fifoRta tasks limit ≠ .panic := fifo_no_panic tasks hwf hex limit

theorem fp_total (tua : RB) (others : List RB) (B rem limit : Nat)
    (hwf : tua.ArrWF) (hex : tua.Exact) (ho : OthersOK others)
    (hstep : ∀ A, tua.need A < tua.need (A + 1) → tua.need A + rem < tua.need (A + 1)) :
    fpCore tua others B rem limit ≠ .panic := fpCore_no_panic tua others B rem limit hwf hex ho hstep

/-- the four EDF analyses never panic, whatever `rem` and also when the task under analysis
releases nothing: the crate computes `self_interference.saturating_sub(rem_cost)` -/
theorem edf_total (tua : RB) (D : Nat) (others : List EdfTask) (rem : Nat) (wb : Bool)
    (limit : Nat) (hwf : tua.ArrWF) (hex : tua.Exact) (ho : EdfOthersOK others) :
    edfCore tua D others rem wb limit ≠ .panic :=
  edfCore_no_panic' tua D others rem wb limit hwf hex ho

/-- finding F9 (repaired in the crate): a non-saturating `self_interference - rem_cost`
underflows in a debug build for a task under analysis that never releases anything.  With
`self_interference.saturating_sub(rem_cost)` this input yields `Ok(3)` in both build profiles. -/
theorem never_arriving_task_total :
    edfNonpreemptive .never 3 5 [{ rb := .rbf (.periodic 4) (.scalar 1), D := 5, seg := 1 }] 50 ≠ .panic := by
  have h := edfCore_never_arriving_tua_total
  have e : edfNonpreemptive .never 3 5
      [{ rb := .rbf (.periodic 4) (.scalar 1), D := 5, seg := 1 }] 50 = .ok 3 := by
    simpa [edfNonpreemptive] using h
  rw [e]
  intro hc
  cases hc

/-- the request-bound queries never fail a guard on well-formed models -/
theorem demand_guards (r : RB) (hwf : r.WF) (d : Nat) :
    r.arrWF = true ∧ r.itemsGuard d = true ∧ r.leastGuard d = true := RB.guards_of_wf r hwf d

/-- `step_offsets` never underflows on exact request bounds -/
theorem step_offsets_total (r : RB) (hwf : r.ArrWF) (hex : r.Exact) (L : Nat) :
    ∃ as, r.offsetsBelow L = some as := by
  obtain ⟨as, h, _⟩ := RB.offsetsBelow_spec r hwf hex L
  exact ⟨as, h⟩

/-- curve extrapolation terminates (the fuel of the model suffices to reach any horizon) -/
theorem extrapolate_terminates (d : List Nat) (hwf : curveWF d) (h2 : 2 ≤ d.length) (h : Nat) :
    h ≤ (extrapolate d h (extrapolateFuel d h)).getLastD 0 := extrapolate_reaches d hwf h2 h

/-- the iterator of `ExtrapolatingCurve` never ends and never gets stuck -/
theorem extrapolating_iterator_total (d0 : List Nat) (hwf : curveWF d0) (k : Nat) :
    (freshNext d0 k).isSome = true := freshNext_isSome d0 hwf k

/-! ## The ROS 2 analyses

Every guard of the ROS 2 models (`unwrap` of the last callback of a subchain, pointer lookup
of subchain members in the workload, `Service - Service` on the marginal cost of the end of
the chain, `service_time` of the closed form, the `distance_to` assertion inside the
fixed-point search, `step_offsets`, and `bw`'s debug-only brute-force enumeration of the
relevant steps) holds on well-formed input: the analyses never return `panic`, for EVERY
divergence limit (`bw`: `1 ≤ limit`), and `bw`'s debug build returns what its release build
returns.  (Proof: case `limit = 0` directly; otherwise the equalities of C07 with the naive
evaluators, which have no failing branch on a non-empty subchain; `Lemmas/RosTotal.lean`.) -/

open RosTotal in
theorem ros_event_source_total (s : Supply) (hs : s.WF) (demand : RB) (hwf : demand.ArrWF)
    (hex : demand.Exact) (limit : Nat) : rosEventSource s demand limit ≠ .panic :=
  rosBound_total _ _ _ _ _ _ limit _ fun hl => RTA.C07.event_source s hs demand hwf hex limit hl

open RosTotal in
theorem ros_timer_total (s : Supply) (hs : s.WF) (a : Arr) (C : Nat) (interf : RB)
    (hwf : a.WF) (hex : a.Exact) (hC : 1 ≤ C) (hpos : 0 < a.N 1)
    (hwfi : interf.ArrWF) (hexi : interf.Exact) (B limit : Nat) :
    rosTimer s (.rbf a (.scalar C)) interf B limit ≠ .panic :=
  rosBound_total _ _ _ _ _ _ limit _ fun hl =>
    RTA.C07.timer_partial s hs a C interf hwf hex hC hpos hwfi hexi B limit hl

open RosTotal in
theorem ros_polling_point_total (s : Supply) (hs : s.WF) (a : Arr) (C : Nat) (interf : RB)
    (hwf : a.WF) (hex : a.Exact) (hC : 1 ≤ C) (hpos : 0 < a.N 1)
    (hwfi : interf.ArrWF) (hexi : interf.Exact) (limit : Nat) :
    rosPollingPoint s (.rbf a (.scalar C)) interf limit ≠ .panic :=
  rosBound_total _ _ _ _ _ _ limit _ fun hl =>
    RTA.C07.polling_point_partial s hs a C interf hwf hex hC hpos hwfi hexi limit hl

open RosTotal in
theorem ros_chain_total (s : Supply) (hs : s.WF) (a : Arr) (C P : Nat) (others : RB)
    (hwf : a.WF) (hex : a.Exact) (hC : 1 ≤ C) (hP : 1 ≤ P) (hpos : 0 < a.N 1)
    (hwfo : others.ArrWF) (hexo : others.Exact) (limit : Nat) :
    rosChain s (.rbf a (.scalar C)) (.rbf a (.scalar P)) (.rbf a (.scalar (C + P))) others limit
      ≠ .panic :=
  rosBound_total _ _ _ _ _ _ limit _ fun hl =>
    RTA.C07.chain_partial s hs a C P others hwf hex hC hP hpos hwfo hexo limit hl

open RosTotal in
/-- rr: all callback kinds, singleton and multi-callback subchains drawn from the workload -/
theorem ros_rr_total (s : Supply) (hs : s.WF) (wl : List Callback) (sub : List Nat) (limit : Nat)
    (hne : sub ≠ []) (hsub : ∀ i ∈ sub, i < wl.length)
    (hwf : ∀ cb ∈ wl, cb.arr.WF ∧ MonoN cb.cost.ofJobs) :
    rrSubchain s wl sub limit ≠ .panic := by
  rcases Nat.eq_zero_or_pos limit with rfl | hl
  · rw [rrSubchain_limit_zero s wl sub hne hsub]
    exact Res.noConfusion
  · rw [RTA.C07.rr s hs wl sub limit hl hsub hwf]
    exact naiveRr_ne_panic s wl sub limit hne

open RosTotal in
/-- bw, in the release build (`dbg = false`) and in the debug build with the brute-force
cross-check of the relevant steps (`dbg = true`) -/
theorem ros_bw_total (s : Supply) (hs : s.WF) (wl : List Callback) (sub : List Nat) (limit : Nat)
    (hl : 1 ≤ limit) (hne : sub ≠ []) (hsub : ∀ i ∈ sub, i < wl.length)
    (hwf : ∀ cb ∈ wl, cb.arr.WF ∧ cb.arr.Exact ∧ MonoN cb.cost.ofJobs)
    (hpos : ∀ e, sub.getLast? = some e → 0 < (wl.getD e default).arr.N 1) (dbg : Bool) :
    bwSubchain s wl sub limit dbg ≠ .panic := by
  rw [RTA.C07.bw s hs wl sub limit hl hne hsub hwf hpos dbg]
  exact naiveBw_ne_panic s wl sub limit hne

open RosTotal in
/-- independence of the build profile where the two builds run different code -/
theorem ros_bw_profile_independent (s : Supply) (hs : s.WF) (wl : List Callback) (sub : List Nat)
    (limit : Nat) (hl : 1 ≤ limit) (hne : sub ≠ []) (hsub : ∀ i ∈ sub, i < wl.length)
    (hwf : ∀ cb ∈ wl, cb.arr.WF ∧ cb.arr.Exact ∧ MonoN cb.cost.ofJobs)
    (hpos : ∀ e, sub.getLast? = some e → 0 < (wl.getD e default).arr.N 1) :
    bwSubchain s wl sub limit true = bwSubchain s wl sub limit false := by
  rw [RTA.C07.bw s hs wl sub limit hl hne hsub hwf hpos true,
    RTA.C07.bw s hs wl sub limit hl hne hsub hwf hpos false]

end RTA.C20
