import RTA.Lemmas.PruneFP
import RTA.Lemmas.PruneEDF
/-! # C06 — FP/EDF/FIFO bounds equal exhaustive evaluation of their defining equations

Model: `RTA/Model/Analyses.lean` (the nine `dedicated_uniproc_rta`); naive evaluation:
`RTA/Spec/Naive.lean` (`naiveFifo`, `naiveFp`, `naiveEdf`: linear-scan least solutions,
EVERY offset `A ∈ [0, L)`, maximum; error iff some least solution does not exist within
the limit).

Hypotheses of the theorems and why they are there:
* `ArrWF`, `Exact` (task under analysis and others): the arrival models are well-formed
  and outside the C11 findings (otherwise `steps_iter` misses offsets);
* `1 ≤ limit`: with `limit = 0` every search diverges (finding K4, `RTA.C08.limit_zero_diverges`);
* `0 < tua.need 1`: the task under analysis releases something; for a task that never
  releases a job the analyses return `Ok(0)` whereas the all-offset evaluation returns the
  length of the interfering busy window (finding K5, `never_arriving_counterexample`);
* NP/LP: `1 ≤ C`, `1 ≤ last ≤ C`. -/

namespace RTA.C06
open RTA RTA.Spec

theorem fifo (tasks : RB) (hwf : tasks.ArrWF) (hex : tasks.Exact) (limit : Nat) (hl : 1 ≤ limit) :
    fifoRta tasks limit = naiveFifo tasks limit := fifo_eq_naive tasks hwf hex limit hl

theorem fp_fully_preemptive (tua : RB) (others : List RB) (limit : Nat)
    (hwf : tua.ArrWF) (hex : tua.Exact) (ho : OthersOK others) (hl : 1 ≤ limit) (hpos : 0 < tua.need 1) :
    fpPreemptive tua others limit = naiveFp tua others 0 0 limit :=
  fpCore_eq_naive tua others 0 0 limit hwf hex ho hl hpos (fun _ h => h)

theorem fp_fully_nonpreemptive (a : Arr) (C B : Nat) (others : List RB) (limit : Nat)
    (hwf : a.WF) (hex : a.Exact) (hC : 1 ≤ C) (ho : OthersOK others) (hl : 1 ≤ limit) (hpos : 0 < a.N 1) :
    fpNonpreemptive a C B others limit = naiveFp (.rbf a (.scalar C)) others B (C - 1) limit := by
  unfold fpNonpreemptive
  rw [decide_eq_false (by omega : ¬ C < 1)]
  exact fpCore_scalar_eq_naive a C B (C - 1) others limit hwf hex (by omega) ho hl hpos

theorem fp_limited_preemptive (a : Arr) (C last B : Nat) (others : List RB) (limit : Nat)
    (hwf : a.WF) (hex : a.Exact) (h1 : 1 ≤ last) (h2 : last ≤ C) (ho : OthersOK others)
    (hl : 1 ≤ limit) (hpos : 0 < a.N 1) :
    fpLimited a C last B others limit = naiveFp (.rbf a (.scalar C)) others B (last - 1) limit := by
  unfold fpLimited
  rw [decide_eq_false (by omega : ¬ (last < 1 ∨ C < last - 1)),
    show C - (C - (last - 1)) = last - 1 by omega]
  exact fpCore_scalar_eq_naive a C B (last - 1) others limit hwf hex (by omega) ho hl hpos

theorem fp_floating_nonpreemptive (tua : RB) (B : Nat) (others : List RB) (limit : Nat)
    (hwf : tua.ArrWF) (hex : tua.Exact) (ho : OthersOK others) (hl : 1 ≤ limit) (hpos : 0 < tua.need 1) :
    fpFloating tua B others limit = naiveFp tua others B 0 limit :=
  fpCore_eq_naive tua others B 0 limit hwf hex ho hl hpos (fun _ h => h)

theorem edf_fully_preemptive (tua : RB) (D : Nat) (others : List EdfTask) (limit : Nat)
    (hwf : tua.ArrWF) (hex : tua.Exact) (ho : EdfOthersOK others) (hl : 1 ≤ limit) (hpos : 0 < tua.need 1) :
    edfPreemptive tua D others limit = naiveEdf tua D others 0 false limit :=
  edfCore_eq_naive tua D others 0 false limit hwf hex ho hl hpos (fun _ h => h)

theorem edf_fully_nonpreemptive (a : Arr) (C D : Nat) (others : List EdfTask) (limit : Nat)
    (hwf : a.WF) (hex : a.Exact) (hC : 1 ≤ C) (ho : EdfOthersOK others) (hl : 1 ≤ limit) (hpos : 0 < a.N 1) :
    edfNonpreemptive a C D others limit = naiveEdf (.rbf a (.scalar C)) D others (C - 1) true limit :=
  edfNonpreemptive_eq_naive a C D others limit hwf hex hC ho hl hpos

theorem edf_limited_preemptive (a : Arr) (C D last : Nat) (others : List EdfTask) (limit : Nat)
    (hwf : a.WF) (hex : a.Exact) (h1 : 1 ≤ last) (h2 : last ≤ C) (ho : EdfOthersOK others)
    (hl : 1 ≤ limit) (hpos : 0 < a.N 1) :
    edfLimited a C D last others limit = naiveEdf (.rbf a (.scalar C)) D others (last - 1) true limit := by
  unfold edfLimited
  rw [show decide (last < 1 ∨ C < last - 1) = false from decide_eq_false (by omega),
    show C - (C - (last - 1)) = last - 1 by omega]
  exact edfCore_scalar_eq_naive a C D (last - 1) true others limit hwf hex (by omega) ho hl hpos

theorem edf_floating_nonpreemptive (tua : RB) (D : Nat) (others : List EdfTask) (limit : Nat)
    (hwf : tua.ArrWF) (hex : tua.Exact) (ho : EdfOthersOK others) (hl : 1 ≤ limit) (hpos : 0 < tua.need 1) :
    edfFloating tua D others limit = naiveEdf tua D others 0 true limit :=
  edfCore_eq_naive tua D others 0 true limit hwf hex ho hl hpos (fun _ h => h)

/-- the iterative fixed point itself is the linear-scan least solution (C08 specialised) -/
theorem search_is_linear_scan (w : Nat → Nat) (hw : Mono w) (limit : Nat) (hl : 1 ≤ limit) :
    search .dedicated limit w = naiveSolve w limit := search_dedicated_eq_naive w hw limit hl

/-- finding K5 (degenerate): for a task under analysis that never releases a job the
pruned analysis returns `Ok(0)`, the all-offset evaluation the interfering busy window -/
theorem never_arriving_counterexample :
    fpPreemptive (.rbf .never (.scalar 2)) [.rbf (.periodic 4) (.scalar 1)] 50 = .ok 0 ∧
    naiveFp (.rbf .never (.scalar 2)) [.rbf (.periodic 4) (.scalar 1)] 0 0 50 = .ok 1 := by
  decide

/-- non-vacuity: a jittered, bursty system satisfying every hypothesis -/
example : (RB.rbf (.sporadic 9 13) (.scalar 2)).ArrWF ∧ (RB.rbf (.sporadic 9 13) (.scalar 2)).Exact ∧
    OthersOK [.rbf (.curve [0, 4, 20]) (.scalar 1)] ∧ 0 < (RB.rbf (.sporadic 9 13) (.scalar 2)).need 1 := by
  refine ⟨by simp [RB.ArrWF, Arr.WF], ⟨by simp [Arr.Exact], Cost.scalar_strictPos 2 (by omega)⟩, ?_, by decide⟩
  intro o ho
  simp at ho
  subst ho
  refine ⟨by simp [RB.ArrWF, Arr.WF]; decide, ⟨?_, Cost.scalar_strictPos 1 (by omega)⟩⟩
  simp [Arr.Exact]

end RTA.C06
