import RTA.Lemmas.Cost
import RTA.Lemmas.CostTrace
/-! # C14 — job-cost models bound every run of consecutive jobs

Model: `RTA/Model/Cost.lean` (`Cost.ofJobs` = `cost_of_jobs`, `Cost.items n` = first `n`
items of `job_cost_iter`, `Cost.least` = `least_wcet`), `RTA/Model/XCost.lean` (cache of
`wcet::ExtrapolatingCurve`).  `Cost.WF`: for the curve models the cumulative vector is
non-empty, non-decreasing and sub-additive (the constructor documents "garbage in ⇒
garbage out"). -/

namespace RTA.C14

/-- `cost_of_jobs(0) = 0` -/
theorem cost_zero (c : Cost) : c.ofJobs 0 = 0 := Cost.ofJobs_zero c

/-- `cost_of_jobs` is non-decreasing in `n` -/
theorem cost_mono (c : Cost) (hwf : c.WF) (n m : Nat) (h : n ≤ m) : c.ofJobs n ≤ c.ofJobs m :=
  Cost.ofJobs_mono c hwf n m h

/-- `cost_of_jobs(n)` equals the sum of the first `n` items of `job_cost_iter` (and the
subtraction inside `job_cost_iter` never underflows) -/
theorem cost_eq_sum_of_items (c : Cost) (hwf : c.WF) (n : Nat) :
    sumList (c.items n) = c.ofJobs n ∧ c.itemsGuard n = true :=
  ⟨Cost.items_sum c hwf n, Cost.itemsGuard_of_wf c hwf n⟩

/-- `least_wcet(n)` is no larger than any of these items -/
theorem least_wcet_le_items (c : Cost) (hwf : c.WF) (n : Nat) : ∀ x ∈ c.items n, c.least n ≤ x :=
  Cost.least_le c hwf n

/-- extrapolation only appends: the values in the recorded prefix are unchanged -/
theorem extrapolation_appends (w : List Nat) (n fuel : Nat) :
    (costExtrapolate w n fuel).take w.length = w :=
  (List.prefix_iff_eq_take.1 (CostLemmas.costExtrapolate_prefix w n fuel)).symm

/-- extrapolation never raises a bound (partial: inside the extrapolated range) -/
theorem extrapolation_never_raises_partial (w : List Nat) (hwf : costCurveWF w) (h3 : 3 ≤ w.length)
    (k n : Nat) (hn : n ≤ w.length + k) : costCurveOf (costIterExt w k) n ≤ costCurveOf w n := by
  -- `h3` is not used: `costIterExt_le` holds for every well-formed vector
  have _ := h3
  exact CostLemmas.costIterExt_le w hwf k n hn

/-- the full claim "extrapolation never raises a bound" -/
def NeverRaisesEverywhere : Prop :=
  ∀ w, costCurveWF w → ∀ m n, costCurveOf (costExtrapolate w m m) n ≤ costCurveOf w n

/-- finding F7: beyond the extrapolated range the full claim is false (`[5,6,7]`
extrapolated to four entries claims 17 for five jobs, the original 13) -/
theorem counterexample_F7 : ¬ NeverRaisesEverywhere := by
  intro h
  have := h [5, 6, 7] (by decide) 5 5
  have h2 := cost_extrapolate_raises_beyond_range
  omega

/-- the auto-extrapolating model never claims more than the plain curve, for every `n` -/
theorem extrapolating_never_raises (w : List Nat) (hwf : costCurveWF w) (n : Nat) :
    xcostOf w n ≤ costCurveOf w n := by
  obtain ⟨W, _, _, h⟩ := CostLemmas.xcostOf_as_curve w hwf n
  rw [(h n (Nat.le_refl n)).1]
  exact (h n (Nat.le_refl n)).2

/-- the caching variant answers every query (`cost_of_jobs`, `least_wcet`, in any order,
any number of times) exactly like a fresh one -/
theorem cache_transparent (w0 : List Nat) (hwf : costCurveWF w0) (ops : List XCostOp) :
    xcostRun w0 ops = ops.map (xcostPure w0) := by
  by_cases h3 : w0.length < 3
  · exact CostLemmas.xcostRun_short w0 h3 ops
  · exact CostLemmas.xcostRun_ext w0 hwf (by omega) ops 0

/-- a WCET curve inferred from a trace of job costs bounds the total cost of EVERY run of
`n` consecutive jobs of that trace, for every `n` (also beyond the recorded prefix); the
model is `from_trace` as of crate commit 88c7b2d (finding F1) -/
theorem from_trace_bounds_every_run (tr : List Nat) (maxN : Nat) (hm : 1 ≤ maxN) (s n : Nat)
    (hrun : s + n ≤ tr.length) :
    runCost tr s n ≤ costCurveOf (costFromTrace tr maxN) n := by
  rcases Nat.eq_zero_or_pos tr.length with h0 | hpos
  · rw [show n = 0 by omega, CostTraceLemmas.runCost_zero]
    exact Nat.zero_le _
  · refine costCurveOf_boundsRuns _ tr (List.length_pos_iff.1 ?_) (costFromTrace_boundsRuns tr maxN)
      s n hrun
    rw [(costFromTrace_spec tr maxN).1]
    omega

/-- … and each recorded entry is attained by some run (the curve is the exact maximum) -/
theorem from_trace_entries_are_maxima (tr : List Nat) (maxN : Nat) :
    (costFromTrace tr maxN).length = min maxN tr.length ∧
    ∀ i, i < (costFromTrace tr maxN).length →
      (∀ s, s + (i + 1) ≤ tr.length → runCost tr s (i + 1) ≤ (costFromTrace tr maxN).getD i 0) ∧
      (∃ s, s + (i + 1) ≤ tr.length ∧ runCost tr s (i + 1) = (costFromTrace tr maxN).getD i 0) :=
  costFromTrace_spec tr maxN

/-- extrapolation keeps dominating the trace -/
theorem extrapolation_dominates_trace (w tr : List Nat) (h3 : 3 ≤ w.length) (hb : BoundsRuns w tr)
    (k s n : Nat) (hrun : s + n ≤ tr.length) :
    runCost tr s n ≤ costCurveOf (costIterExt w k) n := by
  have hne : w ≠ [] := List.length_pos_iff.1 (by omega)
  have hne' : costIterExt w k ≠ [] :=
    List.length_pos_iff.1 (by rw [CostLemmas.costIterExt_length]; omega)
  exact costCurveOf_boundsRuns _ tr hne' (costIterExt_boundsRuns w tr hne hb k) s n hrun

example : (Cost.xcurve [5, 6, 7]).WF := by decide

end RTA.C14
