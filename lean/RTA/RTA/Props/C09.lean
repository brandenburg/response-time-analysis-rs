import RTA.Lemmas.Supply
/-! # C09 — supply-bound functions are exact and `service_time` is their exact inverse

Model: `RTA/Model/Supply.lean`; Spec of "placing the budget
inside each period (within the deadline)": `RTA/Spec/SupplyProc.lean`. -/

namespace RTA.C09

open RTA RTA.Spec

/-- zero at zero, non-decreasing, at most one per time unit — every well-formed supply
(dedicated, periodic, constrained, user-defined wrapper) -/
theorem sbf_laws (s : Supply) (hs : s.WF) :
    s.sbf 0 = 0 ∧ ∀ t, s.sbf t ≤ s.sbf (t + 1) ∧ s.sbf (t + 1) ≤ s.sbf t + 1 :=
  ⟨Supply.sbf_zero s hs, Supply.sbf_lipschitz s hs⟩

/-- `service_time d` is the smallest `t` with `provided_service t ≥ d`: for the
specialised implementations and for the trait's default implementation alike
(`st?` runs the default jump-ahead loop for `viaDefault`). -/
theorem service_time_least (s : Supply) (hs : s.WF) (d : Nat) :
    ∃ t, s.st? d = some t ∧ d ≤ s.sbf t ∧ ∀ t', d ≤ s.sbf t' → t ≤ t' := by
  refine ⟨s.stClosed d, Supply.st?_eq s hs d, ?_, ?_⟩
  · exact (Supply.galois s hs d _).1 (Nat.le_refl _)
  · intro t' h
    exact (Supply.galois s hs d t').2 h

/-- exactness, lower half: in every window of every compliant placement of the budget
the reservation delivers at least `provided_service Δ` -/
theorem provided_service_sound (Q D P : Nat) (hQ : 1 ≤ Q) (hQD : Q ≤ D) (hDP : D ≤ P)
    (σ : Nat → Bool) (hσ : Compliant Q D P σ) (s Δ : Nat) :
    (Supply.constrained Q D P).sbf Δ ≤ service σ s Δ :=
  cSbf_sound Q D P hQ hQD hDP σ hσ s Δ

/-- exactness, upper half: some compliant placement and window deliver exactly
`provided_service Δ` (so it is the minimum) -/
theorem provided_service_attained (Q D P : Nat) (hQ : 1 ≤ Q) (hQD : Q ≤ D) (hDP : D ≤ P)
    (Δ : Nat) :
    ∃ σ s, Compliant Q D P σ ∧ service σ s Δ = (Supply.constrained Q D P).sbf Δ :=
  ⟨worst Q D P, Q, worst_compliant Q D P hQD hDP, cSbf_attained Q D P hQ hQD hDP Δ⟩

/-- the same two halves for the periodic reservation (deadline = period) -/
theorem periodic_exact (Q P : Nat) (hQ : 1 ≤ Q) (hQP : Q ≤ P) (Δ : Nat) :
    (∀ σ, Compliant Q P P σ → ∀ s, (Supply.periodic Q P).sbf Δ ≤ service σ s Δ) ∧
    (∃ σ s, Compliant Q P P σ ∧ service σ s Δ = (Supply.periodic Q P).sbf Δ) := by
  have e : (Supply.periodic Q P).sbf Δ = cSbf Q P P Δ := pSbf_eq_cSbf Q P hQ hQP Δ
  rw [e]
  exact ⟨fun σ hσ s => cSbf_sound Q P P hQ hQP (Nat.le_refl _) σ hσ s Δ,
    ⟨worst Q P P, Q, worst_compliant Q P P hQP (Nat.le_refl _),
      cSbf_attained Q P P hQ hQP (Nat.le_refl _) Δ⟩⟩

/-- a constrained reservation with deadline = period equals the periodic one -/
theorem constrained_eq_periodic (Q P : Nat) (hQ : 1 ≤ Q) (hQP : Q ≤ P) (x : Nat) :
    (Supply.constrained Q P P).sbf x = (Supply.periodic Q P).sbf x ∧
    (Supply.constrained Q P P).st? x = (Supply.periodic Q P).st? x := by
  refine ⟨cSbf_eq_pSbf Q P hQ hQP x, ?_⟩
  simp only [Supply.st?]
  rw [cSt_eq_pSt Q P hQ hQP x]

/-- budget = period equals a dedicated processor -/
theorem full_budget_eq_dedicated (P : Nat) (hP : 1 ≤ P) (x : Nat) :
    (Supply.periodic P P).sbf x = Supply.dedicated.sbf x ∧
    (Supply.periodic P P).st? x = Supply.dedicated.st? x ∧
    (Supply.constrained P P P).sbf x = Supply.dedicated.sbf x ∧
    (Supply.constrained P P P).st? x = Supply.dedicated.st? x := by
  have h1 := cSbf_full P hP x
  have h2 := cSt_full P hP x
  have h3 := pSbf_eq_cSbf P P hP (Nat.le_refl _) x
  have h4 := pSt_eq_cSt P P (Nat.le_refl _) x
  simp only [Supply.sbf, Supply.st?]
  refine ⟨by rw [h3, h1], by rw [h4, h2], h1, by rw [h2]⟩

/-- non-vacuity: the process `worst 2 3 5` of a non-trivial reservation (compliant by
`worst_compliant`) meets the bound with equality in the window `[2, 11)` -/
example : service (worst 2 3 5) 2 9 = (Supply.constrained 2 3 5).sbf 9 := by decide

end RTA.C09
