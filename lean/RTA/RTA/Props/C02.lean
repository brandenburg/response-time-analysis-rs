import RTA.Lemmas.EdfSoundCompliantExample
/-! # C02 — the EDF RTAs are safe for every legal schedule

Spec: `RTA/Spec/Sched.lean`; `JlfpLegal s (hepEDF s Dl)`: valid, work conserving, a job in a
non-preemptable state continues, otherwise a pending job with the earliest absolute
deadline is served — jobs with EQUAL absolute deadlines are mutually higher-or-equal, so the
schedule may break such ties arbitrarily; relative deadlines `Dl` are arbitrary (also larger
than periods).  `EdfSetting`: per-task workload bounds (consequence of curve-compliant
releases and execution times up to the WCETs), and every run of consecutive non-preemptable
service levels of a job of `others[m]` is at most `others[m].seg - 1` long; the placement of
non-preemptive regions (`Sys.np`) is otherwise arbitrary. -/

namespace RTA.C02
open RTA RTA.Sched

theorem fully_preemptive_safe (s : Sys) (Dl : ℕ → ℕ) (i D : ℕ) (tua : RB) (others : List EdfTask) (ids : List ℕ)
    (hS : EdfSetting s Dl i D tua others ids) (hwf : tua.ArrWF) (hex : tua.Exact)
    (ho : EdfOthersOK others) (hnp : ∀ l x, ¬ s.np l x)
    (limit R : ℕ) (hR : edfPreemptive tua D others limit = .ok R) :
    ∀ j, j < s.n → s.task j = i → MeetsBound s j R :=
  edf_sound_rem0 s Dl i D tua others ids hS hwf hex ho false (fun _ => hnp) limit R hR

theorem fully_nonpreemptive_safe (s : Sys) (Dl : ℕ → ℕ) (i D : ℕ) (a : Arr) (C : ℕ) (others : List EdfTask)
    (ids : List ℕ) (hS : EdfSetting s Dl i D (.rbf a (.scalar C)) others ids) (hwf : a.WF) (hex : a.Exact)
    (ho : EdfOthersOK others)
    (hcnt : ∀ t d, cntOf s (fun x => x = i) t (t + d) ≤ a.N d)
    (hown : ∀ j, j < s.n → s.task j = i → s.cost j ≤ C ∧ ∀ x, 1 ≤ x → x < s.cost j → s.np j x)
    (limit R : ℕ) (hR : edfNonpreemptive a C D others limit = .ok R) :
    ∀ j, j < s.n → s.task j = i → MeetsBound s j R := by
  obtain ⟨hC, hR⟩ := EdfSoundLemmas.edfNonpreemptive_ok hR
  exact edf_sound_scalar s Dl i D a C (C - 1) others ids hS hwf hex ho (by omega) hcnt
    (fun j hj hji => ⟨(hown j hj hji).1, fun x hx hx' => (hown j hj hji).2 x (by omega) hx'⟩)
    limit R hR

theorem limited_preemptive_safe (s : Sys) (Dl : ℕ → ℕ) (i D : ℕ) (a : Arr) (C last : ℕ) (others : List EdfTask)
    (ids : List ℕ) (hS : EdfSetting s Dl i D (.rbf a (.scalar C)) others ids) (hwf : a.WF) (hex : a.Exact)
    (ho : EdfOthersOK others) (hlast1 : 1 ≤ last) (hlastC : last ≤ C)
    (hcnt : ∀ t d, cntOf s (fun x => x = i) t (t + d) ≤ a.N d)
    (hown : ∀ j, j < s.n → s.task j = i → s.cost j ≤ C ∧
      ∀ x, max 1 (s.cost j - (last - 1)) ≤ x → x < s.cost j → s.np j x)
    (limit R : ℕ) (hR : edfLimited a C D last others limit = .ok R) :
    ∀ j, j < s.n → s.task j = i → MeetsBound s j R :=
  edf_sound_scalar s Dl i D a C (last - 1) others ids hS hwf hex ho (by omega) hcnt hown
    limit R (EdfSoundLemmas.edfLimited_ok hlast1 hlastC hR)

theorem floating_nonpreemptive_safe (s : Sys) (Dl : ℕ → ℕ) (i D : ℕ) (tua : RB) (others : List EdfTask)
    (ids : List ℕ) (hS : EdfSetting s Dl i D tua others ids) (hwf : tua.ArrWF) (hex : tua.Exact)
    (ho : EdfOthersOK others)
    (limit R : ℕ) (hR : edfFloating tua D others limit = .ok R) :
    ∀ j, j < s.n → s.task j = i → MeetsBound s j R :=
  edf_sound_rem0 s Dl i D tua others ids hS hwf hex ho true (fun h => by cases h) limit R hR

/-- the offset of a job in its busy window is below the busy-window bound `L` of the whole
task set -/
theorem offset_below_busy_window_bound (s : Sys) (Dl : ℕ → ℕ) (i D : ℕ) (tua : RB) (others : List EdfTask)
    (ids : List ℕ) (hS : EdfSetting s Dl i D tua others ids) (L : ℕ) (hL : 0 < L)
    (hfix : sumNeed (others.map (·.rb)) L + tua.need L ≤ L)
    (j : ℕ) (hj : j < s.n) (t0 : ℕ) (hq : J.Quiet s (hepEDF s Dl) j t0)
    (ht0 : t0 ≤ s.arr j) (hmax : ∀ t, t0 < t → t ≤ s.arr j → ¬ J.Quiet s (hepEDF s Dl) j t) :
    s.arr j - t0 < L :=
  -- only `hmax` is needed
  edf_offset_lt_L s Dl i D tua others ids hS L hL hfix j t0 hmax

/-! ## Task-set level: hypotheses on the inputs only

`EdfSetting` takes per-task workload bounds and bookkeeping about task ids as hypotheses.
Here they are DERIVED from the task set: `ts` gives the arrival and cost model of every task,
`Dl` the relative deadlines and `sg` the maximal non-preemptive segment lengths; `Compliant s ts`
says that the releases of each task are admissible for its arrival model and that every run of
`m` consecutive jobs of a task costs at most `cost_of_jobs(m)`.  The analysis is called with
the request bound of the task and with the records (request bound, deadline, segment) of ALL
other tasks (`edfOthersOf`).  What remains are hypotheses on the schedule (EDF-legal, arbitrary
tie-breaking), on the placement of non-preemptive regions, and that every job costs at least 1
(`hpos`) (`Lemmas/EdfSoundCompliant.lean`). -/

theorem fully_preemptive_safe_task_set (s : Sys) (ts : List (Arr × Cost)) (Dl sg : ℕ → ℕ)
    (i : ℕ) (hi : i < ts.length)
    (hwf : ∀ p ∈ ts, p.1.WF ∧ p.2.WF) (hex : ∀ x, x < ts.length → (taskRB ts x).Exact)
    (hc : Compliant s ts) (hl : JlfpLegal s (hepEDF s Dl))
    (hnp : ∀ l x, ¬ s.np l x) (hpos : ∀ k, k < s.n → 1 ≤ s.cost k)
    (limit R : ℕ)
    (hR : edfPreemptive (taskRB ts i) (Dl i) (edfOthersOf ts Dl sg i) limit = .ok R) :
    ∀ j, j < s.n → s.task j = i → MeetsBound s j R :=
  fully_preemptive_safe s Dl i (Dl i) _ _ _
    (EdfSetting.of_compliant s ts Dl sg i hi hwf hc hl
      (fun _ _ _ _ _ h => FpSoundCompliantLemmas.no_np_run hnp h) hpos)
    (FpSoundCompliantLemmas.taskRB_arrWF ts hwf i hi) (hex i hi)
    (EdfSoundCompliantLemmas.edfOthersOK_edfOthersOf ts Dl sg i hwf fun x hx _ => hex x hx)
    hnp limit R hR

theorem floating_nonpreemptive_safe_task_set (s : Sys) (ts : List (Arr × Cost)) (Dl sg : ℕ → ℕ)
    (i : ℕ) (hi : i < ts.length)
    (hwf : ∀ p ∈ ts, p.1.WF ∧ p.2.WF) (hex : ∀ x, x < ts.length → (taskRB ts x).Exact)
    (hc : Compliant s ts) (hl : JlfpLegal s (hepEDF s Dl))
    (hseg : ∀ l, l < s.n → s.task l ≠ i → ∀ x len,
      (∀ k, k < len → s.np l (x + k)) → len ≤ sg (s.task l) - 1)
    (hpos : ∀ k, k < s.n → 1 ≤ s.cost k)
    (limit R : ℕ)
    (hR : edfFloating (taskRB ts i) (Dl i) (edfOthersOf ts Dl sg i) limit = .ok R) :
    ∀ j, j < s.n → s.task j = i → MeetsBound s j R :=
  floating_nonpreemptive_safe s Dl i (Dl i) _ _ _
    (EdfSetting.of_compliant s ts Dl sg i hi hwf hc hl hseg hpos)
    (FpSoundCompliantLemmas.taskRB_arrWF ts hwf i hi) (hex i hi)
    (EdfSoundCompliantLemmas.edfOthersOK_edfOthersOf ts Dl sg i hwf fun x hx _ => hex x hx)
    limit R hR

theorem fully_nonpreemptive_safe_task_set (s : Sys) (ts : List (Arr × Cost)) (Dl sg : ℕ → ℕ)
    (i : ℕ) (hi : i < ts.length) (a : Arr) (C : ℕ) (hts : ts[i] = (a, .scalar C))
    (hwf : ∀ p ∈ ts, p.1.WF ∧ p.2.WF) (hexa : a.Exact)
    (hex : ∀ x, x < ts.length → x ≠ i → (taskRB ts x).Exact)
    (hc : Compliant s ts) (hl : JlfpLegal s (hepEDF s Dl))
    (hseg : ∀ l, l < s.n → s.task l ≠ i → ∀ x len,
      (∀ k, k < len → s.np l (x + k)) → len ≤ sg (s.task l) - 1)
    (hpos : ∀ k, k < s.n → 1 ≤ s.cost k)
    (hown : ∀ j, j < s.n → s.task j = i → ∀ x, 1 ≤ x → x < s.cost j → s.np j x)
    (limit R : ℕ)
    (hR : edfNonpreemptive a C (Dl i) (edfOthersOf ts Dl sg i) limit = .ok R) :
    ∀ j, j < s.n → s.task j = i → MeetsBound s j R := by
  obtain ⟨hrb, hawf, hcnt, hcost⟩ := FpSoundCompliantLemmas.scalar_task s ts i hi a C hts hwf hc
  exact fully_nonpreemptive_safe s Dl i (Dl i) a C _ _
    (hrb ▸ EdfSetting.of_compliant s ts Dl sg i hi hwf hc hl hseg hpos) hawf hexa
    (EdfSoundCompliantLemmas.edfOthersOK_edfOthersOf ts Dl sg i hwf hex) hcnt
    (fun j hj hji => ⟨hcost j hj hji, hown j hj hji⟩) limit R hR

theorem limited_preemptive_safe_task_set (s : Sys) (ts : List (Arr × Cost)) (Dl sg : ℕ → ℕ)
    (i : ℕ) (hi : i < ts.length) (a : Arr) (C last : ℕ) (hts : ts[i] = (a, .scalar C))
    (hwf : ∀ p ∈ ts, p.1.WF ∧ p.2.WF) (hexa : a.Exact)
    (hex : ∀ x, x < ts.length → x ≠ i → (taskRB ts x).Exact)
    (hc : Compliant s ts) (hl : JlfpLegal s (hepEDF s Dl))
    (hseg : ∀ l, l < s.n → s.task l ≠ i → ∀ x len,
      (∀ k, k < len → s.np l (x + k)) → len ≤ sg (s.task l) - 1)
    (hpos : ∀ k, k < s.n → 1 ≤ s.cost k)
    (hlast1 : 1 ≤ last) (hlastC : last ≤ C)
    (hown : ∀ j, j < s.n → s.task j = i →
      ∀ x, max 1 (s.cost j - (last - 1)) ≤ x → x < s.cost j → s.np j x)
    (limit R : ℕ)
    (hR : edfLimited a C (Dl i) last (edfOthersOf ts Dl sg i) limit = .ok R) :
    ∀ j, j < s.n → s.task j = i → MeetsBound s j R := by
  obtain ⟨hrb, hawf, hcnt, hcost⟩ := FpSoundCompliantLemmas.scalar_task s ts i hi a C hts hwf hc
  exact limited_preemptive_safe s Dl i (Dl i) a C last _ _
    (hrb ▸ EdfSetting.of_compliant s ts Dl sg i hi hwf hc hl hseg hpos) hawf hexa
    (EdfSoundCompliantLemmas.edfOthersOK_edfOthersOf ts Dl sg i hwf hex) hlast1 hlastC hcnt
    (fun j hj hji => ⟨hcost j hj hji, hown j hj hji⟩) limit R hR

/-- non-vacuity: two tasks with equal relative deadlines release a unit job each at time 0
(equal absolute deadlines, an EDF tie), the schedule serves the other task first; the schedule
is EDF-legal, the job set complies with the task set, the analysis returns `Ok(2)`, the
task-set theorem applies, and the bound is attained (1 is exceeded) -/
theorem task_set_nonvacuous :
    JlfpLegal FpEqExample.eqSys (hepEDF FpEqExample.eqSys FpEqExample.eqDl) ∧
    Compliant FpEqExample.eqSys FpEqExample.eqTs ∧
    edfPreemptive (taskRB FpEqExample.eqTs 0) (FpEqExample.eqDl 0)
      (edfOthersOf FpEqExample.eqTs FpEqExample.eqDl FpEqExample.eqSg 0) 100 = .ok 2 ∧
    (∀ j, j < FpEqExample.eqSys.n → FpEqExample.eqSys.task j = 0 → MeetsBound FpEqExample.eqSys j 2) ∧
    ¬ MeetsBound FpEqExample.eqSys 0 1 :=
  ⟨FpEqExample.eqSys_edf_legal, FpEqExample.eqSys_compliant, FpEqExample.eqSys_edf_result,
    fully_preemptive_safe_task_set FpEqExample.eqSys FpEqExample.eqTs FpEqExample.eqDl
      FpEqExample.eqSg 0 (by decide) FpEqExample.eqTs_wf FpEqExample.eqTs_exact
      FpEqExample.eqSys_compliant FpEqExample.eqSys_edf_legal (fun _ _ h => h)
      (fun _ _ => le_refl _) 100 2 FpEqExample.eqSys_edf_result,
    FpEqExample.eqSys_attained.1⟩

end RTA.C02
