import RTA.Lemmas.FpSound
import RTA.Lemmas.FpSoundCompliantExample
import RTA.Lemmas.FpSoundBlocking
/-! # C01 — the fixed-priority RTAs are safe for every legal schedule

Spec: `RTA/Spec/Sched.lean` — discrete-time schedules on a dedicated unit-speed processor;
`JlfpLegal s (hepFP s pr)`: valid, work conserving, a job in a non-preemptable state
continues, otherwise a pending job of the highest priority is served (jobs of one task in
release order; `hepFP` and `FpSetting` are defined in `Lemmas/FpSound.lean`).  `FpSetting`: the
workload of the task under analysis and of the higher-priority tasks is bounded by the request
bounds handed to the analysis (derived from curve-compliant releases and execution times up to
the WCETs in the task-set section below), and every run of consecutive non-preemptable service
levels of a lower-priority job is at most `B` long — the blocking bound is the longest
lower-priority non-preemptive segment minus one.  The placement of non-preemptive regions
(`Sys.np`) is an arbitrary predicate subject only to these constraints.  Further sections: several
tasks on one priority level (`FpEqSetting`, `hepFPe`), over which the task-set level theorems and
those with the blocking bound computed from segment lengths are stated. -/

namespace RTA.C01
open RTA RTA.Sched

/-- fully preemptive FP (`fixed_priority::fully_preemptive`): no non-preemptable states
are needed for lower-priority jobs to be harmless; `B = 0` -/
theorem fully_preemptive_safe (s : Sys) (pr : ℕ → ℕ) (i : ℕ) (tua : RB) (others : List RB)
    (hS : FpSetting s pr i tua others 0) (hwf : tua.ArrWF) (hex : tua.Exact) (ho : OthersOK others)
    (limit R : ℕ) (hR : fpPreemptive tua others limit = .ok R) :
    ∀ j, j < s.n → s.task j = i → MeetsBound s j R :=
  fp_preemptive_sound s pr i tua others hS hwf hex ho limit R hR

/-- fully non-preemptive FP: every job of the task under analysis is non-preemptable once
started -/
theorem fully_nonpreemptive_safe (s : Sys) (pr : ℕ → ℕ) (i : ℕ) (a : Arr) (C : ℕ) (others : List RB) (B : ℕ)
    (hS : FpSetting s pr i (.rbf a (.scalar C)) others B) (hwf : a.WF) (hex : a.Exact)
    (ho : OthersOK others)
    (hcnt : ∀ t d, cntOf s (fun x => x = i) t (t + d) ≤ a.N d)
    (hown : ∀ j, j < s.n → s.task j = i → s.cost j ≤ C ∧ ∀ x, 1 ≤ x → x < s.cost j → s.np j x)
    (limit R : ℕ) (hR : fpNonpreemptive a C B others limit = .ok R) :
    ∀ j, j < s.n → s.task j = i → MeetsBound s j R :=
  fp_nonpreemptive_sound s pr i a C others B hS hwf hex ho hcnt hown limit R hR

/-- limited-preemptive FP: the final segment of every job of the task under analysis is
`last` long (a shorter job is one segment) -/
theorem limited_preemptive_safe (s : Sys) (pr : ℕ → ℕ) (i : ℕ) (a : Arr) (C last : ℕ) (others : List RB)
    (B : ℕ) (hS : FpSetting s pr i (.rbf a (.scalar C)) others B) (hwf : a.WF) (hex : a.Exact)
    (ho : OthersOK others) (hlast1 : 1 ≤ last) (hlastC : last ≤ C)
    (hcnt : ∀ t d, cntOf s (fun x => x = i) t (t + d) ≤ a.N d)
    (hown : ∀ j, j < s.n → s.task j = i → s.cost j ≤ C ∧
      ∀ x, max 1 (s.cost j - (last - 1)) ≤ x → x < s.cost j → s.np j x)
    (limit R : ℕ) (hR : fpLimited a C last B others limit = .ok R) :
    ∀ j, j < s.n → s.task j = i → MeetsBound s j R :=
  fpe_limited_sound s pr i a C last others B hS.toEq hwf hex ho hlast1 hlastC hcnt hown limit R hR

/-- floating non-preemptive regions: nothing is known about where the task's own jobs are
non-preemptable -/
theorem floating_nonpreemptive_safe (s : Sys) (pr : ℕ → ℕ) (i : ℕ) (tua : RB) (others : List RB) (B : ℕ)
    (hS : FpSetting s pr i tua others B) (hwf : tua.ArrWF) (hex : tua.Exact) (ho : OthersOK others)
    (limit R : ℕ) (hR : fpFloating tua B others limit = .ok R) :
    ∀ j, j < s.n → s.task j = i → MeetsBound s j R :=
  fpe_floating_sound s pr i tua others B hS.toEq hwf hex ho limit R hR

/-- the offset of any job of the task in its busy window (release minus the last quiet instant
`t0`) is below the analysis' `L` -/
theorem offset_below_busy_window_bound (s : Sys) (pr : ℕ → ℕ) (i : ℕ) (tua : RB) (others : List RB) (B : ℕ)
    (hS : FpSetting s pr i tua others B) (L : ℕ) (hL : 0 < L)
    (hfix : B + sumNeed others L + tua.need L ≤ L)
    (j : ℕ) (hj : j < s.n) (hji : s.task j = i) (t0 : ℕ) (hq : J.Quiet s (hepFP s pr) j t0)
    (ht0 : t0 ≤ s.arr j) (hmax : ∀ t, t0 < t → t ≤ s.arr j → ¬ J.Quiet s (hepFP s pr) j t) :
    s.arr j - t0 < L := by
  -- the busy window w.r.t. the order with ties starts no later than `t0`
  obtain ⟨t1, ht1, hq1, hmax1⟩ := exists_last_quiet s (fun k => hepFPe s pr k j) (s.arr j)
  have := fpe_offset_lt_L s pr i tua others B hS.toEq L hL hfix j hji t1 hq1 ht1 hmax1
  have : t1 ≤ t0 := by
    by_contra h
    exact hmax t1 (by omega) ht1 fun k hk hh => hq1 k hk (hS.hepFPe_of_hepFP hk hj hh)
  omega

/-! ## Several tasks on one priority level

The crate documents its `interference` parameter as the set of higher-**or-equal**-priority
tasks.  `FpEqSetting` (in `Lemmas/FpSoundEq.lean`) drops the assumption that task priorities
are distinct: the job-level order `hepFPe` is "strictly higher task priority, or the same
priority level and released no later"; equal-priority jobs released at the same instant are
mutually higher-or-equal, so the schedule may break such ties arbitrarily.  `others` bounds
the workload of all other tasks of higher or equal priority; blocking is due to strictly
lower-priority tasks only.  `distinct_priorities_are_a_special_case` shows that every
setting of the theorems above is one of these, so the four theorems below subsume them. -/

theorem fully_preemptive_safe_equal_priorities (s : Sys) (pr : ℕ → ℕ) (i : ℕ) (tua : RB)
    (others : List RB) (hS : FpEqSetting s pr i tua others 0) (hwf : tua.ArrWF) (hex : tua.Exact)
    (ho : OthersOK others) (limit R : ℕ) (hR : fpPreemptive tua others limit = .ok R) :
    ∀ j, j < s.n → s.task j = i → MeetsBound s j R :=
  fpe_preemptive_sound s pr i tua others hS hwf hex ho limit R hR

theorem fully_nonpreemptive_safe_equal_priorities (s : Sys) (pr : ℕ → ℕ) (i : ℕ) (a : Arr) (C : ℕ)
    (others : List RB) (B : ℕ)
    (hS : FpEqSetting s pr i (.rbf a (.scalar C)) others B) (hwf : a.WF) (hex : a.Exact)
    (ho : OthersOK others)
    (hcnt : ∀ t d, cntOf s (fun x => x = i) t (t + d) ≤ a.N d)
    (hown : ∀ j, j < s.n → s.task j = i → s.cost j ≤ C ∧ ∀ x, 1 ≤ x → x < s.cost j → s.np j x)
    (limit R : ℕ) (hR : fpNonpreemptive a C B others limit = .ok R) :
    ∀ j, j < s.n → s.task j = i → MeetsBound s j R :=
  fpe_nonpreemptive_sound s pr i a C others B hS hwf hex ho hcnt hown limit R hR

theorem limited_preemptive_safe_equal_priorities (s : Sys) (pr : ℕ → ℕ) (i : ℕ) (a : Arr)
    (C last : ℕ) (others : List RB)
    (B : ℕ) (hS : FpEqSetting s pr i (.rbf a (.scalar C)) others B) (hwf : a.WF) (hex : a.Exact)
    (ho : OthersOK others) (hlast1 : 1 ≤ last) (hlastC : last ≤ C)
    (hcnt : ∀ t d, cntOf s (fun x => x = i) t (t + d) ≤ a.N d)
    (hown : ∀ j, j < s.n → s.task j = i → s.cost j ≤ C ∧
      ∀ x, max 1 (s.cost j - (last - 1)) ≤ x → x < s.cost j → s.np j x)
    (limit R : ℕ) (hR : fpLimited a C last B others limit = .ok R) :
    ∀ j, j < s.n → s.task j = i → MeetsBound s j R :=
  fpe_limited_sound s pr i a C last others B hS hwf hex ho hlast1 hlastC hcnt hown limit R hR

theorem floating_nonpreemptive_safe_equal_priorities (s : Sys) (pr : ℕ → ℕ) (i : ℕ) (tua : RB)
    (others : List RB) (B : ℕ)
    (hS : FpEqSetting s pr i tua others B) (hwf : tua.ArrWF) (hex : tua.Exact) (ho : OthersOK others)
    (limit R : ℕ) (hR : fpFloating tua B others limit = .ok R) :
    ∀ j, j < s.n → s.task j = i → MeetsBound s j R :=
  fpe_floating_sound s pr i tua others B hS hwf hex ho limit R hR

/-- every distinct-priority setting (job order within a task = release order) is an
equal-priorities setting: the theorems of this section subsume the first four -/
theorem distinct_priorities_are_a_special_case (s : Sys) (pr : ℕ → ℕ) (i : ℕ) (tua : RB)
    (others : List RB) (B : ℕ) (hS : FpSetting s pr i tua others B) :
    FpEqSetting s pr i tua others B := hS.toEq

/-- the offset of any job of the task in its busy window is below the analysis' `L`, also with
equal priorities -/
theorem offset_below_busy_window_bound_equal_priorities (s : Sys) (pr : ℕ → ℕ) (i : ℕ) (tua : RB)
    (others : List RB) (B : ℕ)
    (hS : FpEqSetting s pr i tua others B) (L : ℕ) (hL : 0 < L)
    (hfix : B + sumNeed others L + tua.need L ≤ L)
    (j : ℕ) (hj : j < s.n) (hji : s.task j = i) (t0 : ℕ) (hq : J.Quiet s (hepFPe s pr) j t0)
    (ht0 : t0 ≤ s.arr j) (hmax : ∀ t, t0 < t → t ≤ s.arr j → ¬ J.Quiet s (hepFPe s pr) j t) :
    s.arr j - t0 < L := fpe_offset_lt_L s pr i tua others B hS L hL hfix j hji t0 hq ht0 hmax

/-- non-vacuity of the equal-priorities theorems: two DIFFERENT tasks on one priority level
release a unit job each at time 0, the schedule serves the other task first (a tie broken
against the task under analysis); the setting is an `FpEqSetting`, the analysis returns
`Ok(2)`, every job of the task meets it — and the bound is attained (1 is exceeded) -/
theorem equal_priorities_nonvacuous :
    FpEqSetting FpEqExample.eqSys FpEqExample.eqPr 0 FpEqExample.tua [FpEqExample.tua] 0 ∧
    FpEqExample.eqPr 0 = FpEqExample.eqPr 1 ∧
    fpPreemptive FpEqExample.tua [FpEqExample.tua] 100 = .ok 2 ∧
    (∀ j, j < FpEqExample.eqSys.n → FpEqExample.eqSys.task j = 0 → MeetsBound FpEqExample.eqSys j 2) ∧
    ¬ MeetsBound FpEqExample.eqSys 0 1 :=
  ⟨FpEqExample.eqSys_setting, rfl, FpEqExample.eqSys_result, FpEqExample.eqSys_meets,
    FpEqExample.eqSys_attained.1⟩

/-! ## Task-set level: hypotheses on the inputs only

The settings above assume workload bounds (`w_tua`, `w_hp` / `w_hep`).  Here they are DERIVED: `ts`
is the task set (arrival model and cost model per task), `Compliant s ts` says that the releases
of each task are admissible for its arrival model and that every run of `m` consecutive jobs
of a task costs at most `cost_of_jobs(m)`; the analysis is called exactly as the crate's
documentation prescribes — with the request bound of the task (`taskRB ts i`) and with the
request bounds of ALL OTHER tasks of higher or equal priority (`hepOthers ts pr i`).  What
remains are hypotheses on the schedule (legal for the policy), on the placement of
non-preemptive regions, and that every job costs at least 1 (`hpos`). -/

theorem fully_preemptive_safe_task_set (s : Sys) (ts : List (Arr × Cost)) (pr : ℕ → ℕ) (i : ℕ)
    (hi : i < ts.length)
    (hwf : ∀ p ∈ ts, p.1.WF ∧ p.2.WF) (hex : ∀ x, x < ts.length → (taskRB ts x).Exact)
    (hc : Compliant s ts) (hl : JlfpLegal s (hepFPe s pr))
    (hnp : ∀ l x, ¬ s.np l x) (hpos : ∀ k, k < s.n → 1 ≤ s.cost k)
    (limit R : ℕ) (hR : fpPreemptive (taskRB ts i) (hepOthers ts pr i) limit = .ok R) :
    ∀ j, j < s.n → s.task j = i → MeetsBound s j R :=
  fully_preemptive_safe_equal_priorities s pr i _ _
    (FpEqSetting.of_compliant s ts pr i hi hwf hc hl 0
      (fun _ _ _ _ _ h => FpSoundCompliantLemmas.no_np_run hnp h) hpos)
    (FpSoundCompliantLemmas.taskRB_arrWF ts hwf i hi) (hex i hi)
    (FpSoundCompliantLemmas.othersOK_hepOthers ts pr i hwf fun x hx _ _ => hex x hx) limit R hR

theorem floating_nonpreemptive_safe_task_set (s : Sys) (ts : List (Arr × Cost)) (pr : ℕ → ℕ)
    (i : ℕ) (hi : i < ts.length)
    (hwf : ∀ p ∈ ts, p.1.WF ∧ p.2.WF) (hex : ∀ x, x < ts.length → (taskRB ts x).Exact)
    (hc : Compliant s ts) (hl : JlfpLegal s (hepFPe s pr)) (B : ℕ)
    (hblock : ∀ l, l < s.n → pr i < pr (s.task l) → ∀ x len,
      (∀ k, k < len → s.np l (x + k)) → len ≤ B)
    (hpos : ∀ k, k < s.n → 1 ≤ s.cost k)
    (limit R : ℕ) (hR : fpFloating (taskRB ts i) B (hepOthers ts pr i) limit = .ok R) :
    ∀ j, j < s.n → s.task j = i → MeetsBound s j R :=
  floating_nonpreemptive_safe_equal_priorities s pr i _ _ B
    (FpEqSetting.of_compliant s ts pr i hi hwf hc hl B hblock hpos)
    (FpSoundCompliantLemmas.taskRB_arrWF ts hwf i hi) (hex i hi)
    (FpSoundCompliantLemmas.othersOK_hepOthers ts pr i hwf fun x hx _ _ => hex x hx) limit R hR

/-- the number of releases per window and `cost j ≤ C` follow from compliance -/
theorem fully_nonpreemptive_safe_task_set (s : Sys) (ts : List (Arr × Cost)) (pr : ℕ → ℕ)
    (i : ℕ) (hi : i < ts.length) (a : Arr) (C : ℕ) (hts : ts[i] = (a, .scalar C))
    (hwf : ∀ p ∈ ts, p.1.WF ∧ p.2.WF) (hexa : a.Exact)
    (hex : ∀ x, x < ts.length → pr x ≤ pr i → x ≠ i → (taskRB ts x).Exact)
    (hc : Compliant s ts) (hl : JlfpLegal s (hepFPe s pr)) (B : ℕ)
    (hblock : ∀ l, l < s.n → pr i < pr (s.task l) → ∀ x len,
      (∀ k, k < len → s.np l (x + k)) → len ≤ B)
    (hpos : ∀ k, k < s.n → 1 ≤ s.cost k)
    (hown : ∀ j, j < s.n → s.task j = i → ∀ x, 1 ≤ x → x < s.cost j → s.np j x)
    (limit R : ℕ) (hR : fpNonpreemptive a C B (hepOthers ts pr i) limit = .ok R) :
    ∀ j, j < s.n → s.task j = i → MeetsBound s j R := by
  obtain ⟨hrb, hawf, hcnt, hcost⟩ := FpSoundCompliantLemmas.scalar_task s ts i hi a C hts hwf hc
  exact fully_nonpreemptive_safe_equal_priorities s pr i a C _ B
    (hrb ▸ FpEqSetting.of_compliant s ts pr i hi hwf hc hl B hblock hpos) hawf hexa
    (FpSoundCompliantLemmas.othersOK_hepOthers ts pr i hwf hex) hcnt
    (fun j hj hji => ⟨hcost j hj hji, hown j hj hji⟩) limit R hR

theorem limited_preemptive_safe_task_set (s : Sys) (ts : List (Arr × Cost)) (pr : ℕ → ℕ)
    (i : ℕ) (hi : i < ts.length) (a : Arr) (C last : ℕ) (hts : ts[i] = (a, .scalar C))
    (hwf : ∀ p ∈ ts, p.1.WF ∧ p.2.WF) (hexa : a.Exact)
    (hex : ∀ x, x < ts.length → pr x ≤ pr i → x ≠ i → (taskRB ts x).Exact)
    (hc : Compliant s ts) (hl : JlfpLegal s (hepFPe s pr)) (B : ℕ)
    (hblock : ∀ l, l < s.n → pr i < pr (s.task l) → ∀ x len,
      (∀ k, k < len → s.np l (x + k)) → len ≤ B)
    (hpos : ∀ k, k < s.n → 1 ≤ s.cost k)
    (hlast1 : 1 ≤ last) (hlastC : last ≤ C)
    (hown : ∀ j, j < s.n → s.task j = i →
      ∀ x, max 1 (s.cost j - (last - 1)) ≤ x → x < s.cost j → s.np j x)
    (limit R : ℕ) (hR : fpLimited a C last B (hepOthers ts pr i) limit = .ok R) :
    ∀ j, j < s.n → s.task j = i → MeetsBound s j R := by
  obtain ⟨hrb, hawf, hcnt, hcost⟩ := FpSoundCompliantLemmas.scalar_task s ts i hi a C hts hwf hc
  exact limited_preemptive_safe_equal_priorities s pr i a C last _ B
    (hrb ▸ FpEqSetting.of_compliant s ts pr i hi hwf hc hl B hblock hpos) hawf hexa
    (FpSoundCompliantLemmas.othersOK_hepOthers ts pr i hwf hex) hlast1 hlastC hcnt
    (fun j hj hji => ⟨hcost j hj hji, hown j hj hji⟩) limit R hR

/-- non-vacuity of the task-set level theorems: the two-task system of
`equal_priorities_nonvacuous` complies with the task set `[(periodic 10, 1), (periodic 10, 1)]`,
`hepOthers` is the other (equal-priority) task, and `fully_preemptive_safe_task_set` applies -/
theorem task_set_nonvacuous :
    Compliant FpEqExample.eqSys FpEqExample.eqTs ∧
    hepOthers FpEqExample.eqTs FpEqExample.eqPr 0 = [FpEqExample.tua] ∧
    (∀ j, j < FpEqExample.eqSys.n → FpEqExample.eqSys.task j = 0 → MeetsBound FpEqExample.eqSys j 2) :=
  ⟨FpEqExample.eqSys_compliant, FpEqExample.eqSys_hepOthers,
    fully_preemptive_safe_task_set FpEqExample.eqSys FpEqExample.eqTs FpEqExample.eqPr 0
      (by decide) FpEqExample.eqTs_wf FpEqExample.eqTs_exact FpEqExample.eqSys_compliant
      FpEqExample.eqSys_legal (fun _ _ h => h) (fun _ _ => le_refl _) 100 2
      (by rw [FpEqExample.eqSys_taskRB, FpEqExample.eqSys_hepOthers]
          exact FpEqExample.eqSys_result)⟩

/-! ## "Blocking bound set to the longest lower-priority non-preemptive segment minus one"

The property's wording, made literal: `sg x` is the maximal non-preemptive segment length of
task `x` (`SegmentsBounded s sg`: every run of consecutive non-preemptable service levels of a
job of task `x` is at most `sg x - 1` long), and the analysis is called with
`lpBlocking ts.length pr sg i` = the maximum of `sg x - 1` over the tasks `x` of strictly lower
priority (0 if there is none).  No hypothesis mentions a blocking bound. -/

theorem floating_nonpreemptive_safe_task_set_segments (s : Sys) (ts : List (Arr × Cost))
    (pr : ℕ → ℕ) (i : ℕ) (hi : i < ts.length)
    (hwf : ∀ p ∈ ts, p.1.WF ∧ p.2.WF) (hex : ∀ x, x < ts.length → (taskRB ts x).Exact)
    (hc : Compliant s ts) (hl : JlfpLegal s (hepFPe s pr)) (sg : ℕ → ℕ)
    (hseg : SegmentsBounded s sg) (hpos : ∀ k, k < s.n → 1 ≤ s.cost k)
    (limit R : ℕ)
    (hR : fpFloating (taskRB ts i) (lpBlocking ts.length pr sg i) (hepOthers ts pr i) limit
      = .ok R) :
    ∀ j, j < s.n → s.task j = i → MeetsBound s j R :=
  floating_nonpreemptive_safe_task_set s ts pr i hi hwf hex hc hl _
    (hblock_of_segments s ts.length pr sg i hc.task_lt hseg) hpos limit R hR

theorem fully_nonpreemptive_safe_task_set_segments (s : Sys) (ts : List (Arr × Cost))
    (pr : ℕ → ℕ) (i : ℕ) (hi : i < ts.length) (a : Arr) (C : ℕ) (hts : ts[i] = (a, .scalar C))
    (hwf : ∀ p ∈ ts, p.1.WF ∧ p.2.WF) (hexa : a.Exact)
    (hex : ∀ x, x < ts.length → pr x ≤ pr i → x ≠ i → (taskRB ts x).Exact)
    (hc : Compliant s ts) (hl : JlfpLegal s (hepFPe s pr)) (sg : ℕ → ℕ)
    (hseg : SegmentsBounded s sg) (hpos : ∀ k, k < s.n → 1 ≤ s.cost k)
    (hown : ∀ j, j < s.n → s.task j = i → ∀ x, 1 ≤ x → x < s.cost j → s.np j x)
    (limit R : ℕ)
    (hR : fpNonpreemptive a C (lpBlocking ts.length pr sg i) (hepOthers ts pr i) limit = .ok R) :
    ∀ j, j < s.n → s.task j = i → MeetsBound s j R :=
  fully_nonpreemptive_safe_task_set s ts pr i hi a C hts hwf hexa hex hc hl _
    (hblock_of_segments s ts.length pr sg i hc.task_lt hseg) hpos hown limit R hR

theorem limited_preemptive_safe_task_set_segments (s : Sys) (ts : List (Arr × Cost))
    (pr : ℕ → ℕ) (i : ℕ) (hi : i < ts.length) (a : Arr) (C last : ℕ)
    (hts : ts[i] = (a, .scalar C))
    (hwf : ∀ p ∈ ts, p.1.WF ∧ p.2.WF) (hexa : a.Exact)
    (hex : ∀ x, x < ts.length → pr x ≤ pr i → x ≠ i → (taskRB ts x).Exact)
    (hc : Compliant s ts) (hl : JlfpLegal s (hepFPe s pr)) (sg : ℕ → ℕ)
    (hseg : SegmentsBounded s sg) (hpos : ∀ k, k < s.n → 1 ≤ s.cost k)
    (hlast1 : 1 ≤ last) (hlastC : last ≤ C)
    (hown : ∀ j, j < s.n → s.task j = i →
      ∀ x, max 1 (s.cost j - (last - 1)) ≤ x → x < s.cost j → s.np j x)
    (limit R : ℕ)
    (hR : fpLimited a C last (lpBlocking ts.length pr sg i) (hepOthers ts pr i) limit = .ok R) :
    ∀ j, j < s.n → s.task j = i → MeetsBound s j R :=
  limited_preemptive_safe_task_set s ts pr i hi a C last hts hwf hexa hex hc hl _
    (hblock_of_segments s ts.length pr sg i hc.task_lt hseg) hpos hlast1 hlastC hown limit R hR

/-- the prescribed blocking bound dominates `sg x - 1` of every lower-priority task -/
theorem blocking_bound_dominates (n : ℕ) (pr sg : ℕ → ℕ) (i x : ℕ) (hx : x < n)
    (hlp : pr i < pr x) : sg x - 1 ≤ lpBlocking n pr sg i := le_lpBlocking n pr sg i x hx hlp

end RTA.C01
