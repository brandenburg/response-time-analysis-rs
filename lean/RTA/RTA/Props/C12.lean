import RTA.Lemmas.Derive
import RTA.Lemmas.DeriveIter
import RTA.Lemmas.DeriveReach
/-! # C12 — derived arrival curves dominate their source and are exact on the covered prefix

Model: `RTA/Model/Curve.lean` (`curveFromTrace`), `RTA/Model/Derive.lean` (`dminScan` /
`Arr.dminEntries` = `nonzero_delta_min_iter`, `Arr.curveOfBound` = `Curve::from_arrival_bound`,
`Arr.prefixOfBoundUntil` = `ArrivalCurvePrefix::from_arrival_bound_until`,
`curveOfPeriodic`). -/

namespace RTA.C12
open RTA RTA.Spec

/-- a curve inferred from a trace bounds the number of trace events in EVERY window of
EVERY length (not only within the recorded prefix), whenever it is usable at all
(non-empty, some recorded span is positive) -/
theorem from_trace_bounds_all_windows (τ : List Nat) (hs : τ.Pairwise (· ≤ ·)) (p : Nat)
    (hne : curveFromTrace τ p ≠ []) (hlast : 1 ≤ (curveFromTrace τ p).getLastD 0) (t x : Nat) :
    cnt τ t x ≤ curveN (curveFromTrace τ p) x := curveFromTrace_bounds τ hs p hne hlast t x

/-- the recorded entries are exactly the minimum spans of `k + 2` consecutive trace events -/
theorem from_trace_entries (τ : List Nat) (hs : τ.Pairwise (· ≤ ·)) (p : Nat) :
    (curveFromTrace τ p).length = min p (τ.length - 1) ∧
    ∀ k, k < (curveFromTrace τ p).length →
      (∀ i, i + k + 1 < τ.length → (curveFromTrace τ p).getD k 0 + τ.getD i 0 ≤ τ.getD (i + k + 1) 0) ∧
      (∃ i, i + k + 1 < τ.length ∧ (curveFromTrace τ p).getD k 0 + τ.getD i 0 = τ.getD (i + k + 1) 0) :=
  curveFromTrace_spec τ hs p

/-- `delta_min_iter` is the exact dual of `number_arrivals`: for `n ≥ 2` it reports `(n, x)`
exactly when `n` events fit into some window of length `x + 1` but into no window of
length `x` (partial: arrival models outside the C11 findings) -/
theorem delta_min_iter_dual_partial (a : Arr) (hwf : a.WF) (hex : a.Exact) (H n x : Nat) :
    (n, x) ∈ a.dminEntries H ↔ (2 ≤ n ∧ x + 1 ≤ H ∧ a.N x < n ∧ n ≤ a.N (x + 1)) :=
  dminEntries_dual a hwf hex H n x

/-- a `Curve` derived from a monotone sub-additive arrival bound is never smaller than the
source at any interval length and coincides with it up to the covered prefix -/
theorem from_arrival_bound_dominates_partial (a : Arr) (hwf : a.WF) (hex : a.Exact) (upTo : Nat)
    (hreach : max upTo 3 + 1 ≤ a.N (Arr.horizonFor a (max upTo 3 + 1) 64 1))
    (hpos : 1 ≤ a.N 1) (hsub : SubAdditive a.N) (hlast : 1 ≤ (a.curveOfBound upTo).getLastD 0) :
    (∀ x, a.N x ≤ curveN (a.curveOfBound upTo) x) ∧
    (∀ x, x < (a.curveOfBound upTo).getLastD 0 → curveN (a.curveOfBound upTo) x = a.N x) :=
  curveOfBound_dominates a hwf hex upTo hreach hpos hsub hlast

/-- the same with a plain size condition in place of `hreach`: the source admits `max(up_to, 3) + 1`
arrivals within `2^65 - 1` time units (then the 64-step doubling search of the model finds its
horizon, `Arr.horizonFor_reaches`) — for a sporadic source: `(up_to + 1) · T ≤ 2^65 - 1` -/
theorem from_arrival_bound_dominates_of_size (a : Arr) (hwf : a.WF) (hex : a.Exact) (upTo : Nat)
    (hsize : max upTo 3 + 1 ≤ a.N (2 ^ 65 - 1))
    (hpos : 1 ≤ a.N 1) (hsub : SubAdditive a.N) (hlast : 1 ≤ (a.curveOfBound upTo).getLastD 0) :
    (∀ x, a.N x ≤ curveN (a.curveOfBound upTo) x) ∧
    (∀ x, x < (a.curveOfBound upTo).getLastD 0 → curveN (a.curveOfBound upTo) x = a.N x) :=
  curveOfBound_dominates_of_size a hwf hex upTo hsize hpos hsub hlast

/-- the same for `ArrivalCurvePrefix::from_arrival_bound_until` (equality up to the horizon
needs no sub-additivity) -/
theorem prefix_from_arrival_bound_partial (a : Arr) (hwf : a.WF) (hex : a.Exact) (h : Nat) (hh : 1 ≤ h)
    (hpos : 1 ≤ a.N 1) :
    ∃ steps, a.prefixOfBoundUntil h = some steps ∧ prefixWF h steps ∧
      (∀ x, x ≤ h → prefixN h steps x = a.N x) ∧
      (SubAdditive a.N → ∀ x, a.N x ≤ prefixN h steps x) :=
  prefixOfBoundUntil_spec a hwf hex h hh hpos

/-- `From<Periodic> for Curve` is exact everywhere -/
theorem from_periodic_exact (T : Nat) (hT : 1 ≤ T) (x : Nat) :
    curveN (curveOfPeriodic T) x = (Arr.periodic T).N x := curveOfPeriodic_eq T hT x

/-- the sub-additivity hypothesis is needed (finding F8): the curve derived from the
non-sub-additive source `Curve [10, 11, 12]` with `up_to = 3` is smaller than the source
at interval length 13 -/
theorem counterexample_F8 :
    curveN ((Arr.curve [10, 11, 12]).curveOfBound 3) 13 < (Arr.curve [10, 11, 12]).N 13 := by
  decide

/-- the library's sporadic model (period 7, jitter 3) satisfies the hypotheses (non-vacuity) -/
example : SubAdditive (Arr.sporadic 7 3).N ∧ (Arr.sporadic 7 3).WF ∧ (Arr.sporadic 7 3).Exact ∧
    1 ≤ (Arr.sporadic 7 3).N 1 := by
  refine ⟨fun a b => sporadic_subadditive 7 3 a b (by decide), by decide, ?_, by decide⟩
  simp [Arr.Exact]

/-- the iterator-driven constructors (what the driver executes against the real code: the
horizon is found from what the `DeltaMinIterator` has emitted) coincide with the constructors the
theorems above speak about, for every well-formed model with exact steps (`from_arrival_bound_until`:
for horizons within the range of `u64` durations) -/
theorem iterator_driven_constructors_agree (a : Arr) (hwf : a.WF) (hex : a.Exact) :
    (∀ upTo, a.curveOfBoundIter upTo = a.curveOfBound upTo) ∧
    (∀ horizon, horizon + 2 ≤ 2 ^ 65 - 1 → a.curveOfBoundUntilIter horizon = a.curveOfBoundUntil horizon) ∧
    (∀ k, a.dminIterTakeIter k = a.dminIterTake k) :=
  ⟨fun u => curveOfBoundIter_eq a hwf hex u, fun h hh => curveOfBoundUntilIter_eq a hwf hex h hh,
   fun k => dminIterTakeIter_eq a hwf hex k⟩

/-- the fuel bound matters: beyond the range of the 64-step doubling search the two renderings
differ (a periodic model with period 2^66) -/
theorem iterator_driven_until_needs_range :
    (Arr.periodic (2 ^ 66)).curveOfBoundUntilIter (2 ^ 67) ≠ (Arr.periodic (2 ^ 66)).curveOfBoundUntil (2 ^ 67) := by
  decide

end RTA.C12
