import RTA.Lemmas.PollingExec
import RTA.Lemmas.ExecRefineChainX
/-! Refinement for the executor transition system with ARBITRARY execution times
(`RTA/Spec/Ros2ExecX.lean`, no chains): every run satisfies the schedule-level Specs
`PollingExecLegal` and `SupplyTimerLegal`, and the completions that `ExecX.run` reports are those
of the run's job system.  The jobs are the release events, the cost of a job is the execution time
that the instance actually gets (`ex i t0`, `t0` its start slot; the WCET if it never starts).

A run without chain is the run with the empty chain, so the bookkeeping of queues and started
instances, the status of a job and the shape of a slot come from `Lemmas/ExecRefineChainX.lean`;
what is proved here is what the polling-point Spec adds (the ready set and the polling windows),
that the queues hold the release times in order (`QueueInv`), and the link from the reported
completions to the jobs (`outAt`, `out_job`, `run_meets_of_sys_x`). -/

open Finset

namespace RTA.ExecX
open RTA RTA.Sched RTA.Exec

variable (cbs : List Cb) (ex : ℕ → ℕ → ℕ) (sigma : ℕ → Bool) (rels : ℕ → List ℕ)

/-- the state at the beginning of slot `t` -/
def stateAt : ℕ → State
  | 0 => State.init cbs.length
  | t + 1 => (step cbs ex (fun _ => none) t (sigma t) (rels t) (stateAt t)).1

/-- the state in slot `t` after the releases of `t` have been recorded and, if the slot is
supplied and nothing is running, the executor has picked -/
def pickedAt (t : ℕ) : State :=
  let s1 := { stateAt cbs ex sigma rels t with queue := addReleases (stateAt cbs ex sigma rels t).queue (rels t) t }
  if !sigma t then s1 else
  match s1.running with
  | some _ => s1
  | none => pick cbs ex t s1

def servedCb (t : ℕ) : Option ℕ :=
  if !sigma t then none else (pickedAt cbs ex sigma rels t).running.map (·.1)

def startsCb (t i : ℕ) : Bool :=
  sigma t && (({ stateAt cbs ex sigma rels t with
      queue := addReleases (stateAt cbs ex sigma rels t).queue (rels t) t } : State).running.isNone) &&
    (servedCb cbs ex sigma rels t == some i)

/-- number of instances of callback `i` started in slots `< t` -/
def startedBefore (i : ℕ) : ℕ → ℕ
  | 0 => 0
  | t + 1 => startedBefore i t + (if startsCb cbs ex sigma rels t i then 1 else 0)

/-- slot `t` is a polling point: supplied, nothing running, no timer pending, ready set empty -/
def isPP (t : ℕ) : Bool :=
  let s1 : State := { stateAt cbs ex sigma rels t with
    queue := addReleases (stateAt cbs ex sigma rels t).queue (rels t) t }
  sigma t && s1.running.isNone && (pendingTimers cbs s1.queue).isEmpty && s1.ready.isEmpty

/-- the schedule of the run's job system: slot `t` serves the job that is the
`startedBefore`-th (if the slot starts an instance) resp. `startedBefore - 1`-th (if it
continues one) release event of the served callback -/
def schedX (H : ℕ) (t : ℕ) : Option ℕ :=
  match servedCb cbs ex sigma rels t with
  | none => none
  | some i =>
    let m := startedBefore cbs ex sigma rels i t
    nthEventOf rels H i (if startsCb cbs ex sigma rels t i then m else m - 1)

open Classical in
/-- the cost of job `k` = the execution time its instance actually gets: `ex i t0` where `t0` is
the first slot in which the job is served (its start slot); the WCET if it is never served -/
noncomputable def costX (H : ℕ) (k : ℕ) : ℕ :=
  if h : ∃ t, schedX cbs ex sigma rels H t = some k ∧ ∀ u, u < t → schedX cbs ex sigma rels H u ≠ some k
  then ex ((events rels H).getD k (0, 0)).2 (Classical.choose h)
  else (cbs.getD ((events rels H).getD k (0, 0)).2 default).cost

/-- the job system of a run: jobs = release events, costs = actual execution times -/
noncomputable def toSysX (H : ℕ) : Sys where
  n := (events rels H).length
  task := fun k => ((events rels H).getD k (0, 0)).2
  arr := fun k => ((events rels H).getD k (0, 0)).1
  cost := costX cbs ex sigma rels H
  np := fun _ _ => False
  sched := schedX cbs ex sigma rels H

def toInfoX : ExecInfo where
  isTimer := fun i => (cbs.getD i default).isTimer
  prio := fun i => (cbs.getD i default).prio
  pp := isPP cbs ex sigma rels

namespace RefineXLemmas
open RTA.Exec.RefineLemmas

def relAt (t : ℕ) : State :=
  { stateAt cbs ex sigma rels t with
    queue := addReleases (stateAt cbs ex sigma rels t).queue (rels t) t }

/-- the ready set used by `pick` in slot `t` -/
def readyAt (t : ℕ) : List ℕ :=
  if (relAt cbs ex sigma rels t).ready.isEmpty then pendingPolled cbs (relAt cbs ex sigma rels t).queue
  else (relAt cbs ex sigma rels t).ready

section emptyChain
open ChainRefineXLemmas

theorem stateAtC_nil : stateAtC cbs ex [] sigma rels = stateAt cbs ex sigma rels := by
  funext t
  induction t with
  | zero => rfl
  | succ t ih =>
    show (step _ _ _ t _ _ (stateAtC _ _ _ _ _ t)).1 = (step _ _ _ t _ _ (stateAt _ _ _ _ t)).1
    -- `chainFn [] i` computes to `none`, so the two steps agree by unfolding
    rw [ih]; rfl

theorem relAtC_nil : relAtC cbs ex [] sigma rels = relAt cbs ex sigma rels := by
  funext t; unfold relAtC relAt; rw [stateAtC_nil]

theorem readyAtC_nil : readyAtC cbs ex [] sigma rels = readyAt cbs ex sigma rels := by
  funext t; unfold readyAtC readyAt; rw [relAtC_nil]

theorem pickedAtC_nil : pickedAtC cbs ex [] sigma rels = pickedAt cbs ex sigma rels := by
  funext t; unfold pickedAtC pickedAt; rw [stateAtC_nil]; rfl

theorem servedCbC_nil : servedCbC cbs ex [] sigma rels = servedCb cbs ex sigma rels := by
  funext t; unfold servedCbC servedCb; rw [pickedAtC_nil]

theorem startsCbC_nil : startsCbC cbs ex [] sigma rels = startsCb cbs ex sigma rels := by
  funext t i; unfold startsCbC startsCb; rw [stateAtC_nil, servedCbC_nil]

theorem startedBeforeC_nil :
    startedBeforeC cbs ex [] sigma rels = startedBefore cbs ex sigma rels := by
  funext i t
  induction t with
  | zero => rfl
  | succ t ih => simp only [startedBeforeC, startedBefore, ih, startsCbC_nil]

variable {cbs ex sigma rels} in
theorem hypX_nil {H : ℕ} (hidx : ∀ t, ∀ i ∈ rels t, i < cbs.length) (hfin : ∀ t, H ≤ t → rels t = [])
    (hex : ∀ k, k < cbs.length → ∀ t, 1 ≤ ex k t ∧ ex k t ≤ (cbs.getD k default).cost) :
    HypX cbs ex [] rels H :=
  ⟨List.nodup_nil, fun _ h => (by cases h), hidx, fun _ _ _ h => (by cases h), hfin, hex⟩

end emptyChain

theorem isPP_eq (t : ℕ) : isPP cbs ex sigma rels t =
    (sigma t && (relAt cbs ex sigma rels t).running.isNone &&
      (pendingTimers cbs (relAt cbs ex sigma rels t).queue).isEmpty &&
      (relAt cbs ex sigma rels t).ready.isEmpty) := rfl

theorem pickedAt_eq (t : ℕ) : pickedAt cbs ex sigma rels t =
    if sigma t = true then
      (match (relAt cbs ex sigma rels t).running with
        | some _ => relAt cbs ex sigma rels t
        | none => pick cbs ex t (relAt cbs ex sigma rels t))
    else relAt cbs ex sigma rels t := by
  have h := ChainRefineXLemmas.pickedAtC_eq cbs ex [] sigma rels t
  rwa [pickedAtC_nil, relAtC_nil] at h

section slotCases
variable {cbs ex sigma rels}
variable {t : ℕ}
open ChainRefineXLemmas RTA.Exec.ChainRefineLemmas

theorem stateAt_succ (hs : sigma t = true) :
    stateAt cbs ex sigma rels (t + 1) = fin [] t (pickedAt cbs ex sigma rels t) := by
  have h := stateAtC_succ cbs ex [] sigma rels t
  rwa [stateAtC_nil, pickedAtC_nil, if_pos hs] at h

/-- an unsupplied slot -/
theorem slotA (hs : sigma t = false) :
    servedCb cbs ex sigma rels t = none ∧ (∀ c, startsCb cbs ex sigma rels t c = false) ∧
    isPP cbs ex sigma rels t = false ∧
    stateAt cbs ex sigma rels (t + 1) = relAt cbs ex sigma rels t := by
  have h := ChainRefineXLemmas.slotA (cbs := cbs) (ex := ex) (ch := []) (rels := rels) hs
  rw [servedCbC_nil, startsCbC_nil, stateAtC_nil, relAtC_nil] at h
  exact ⟨h.1, h.2.1, by simp [isPP_eq, hs], h.2.2⟩

/-- a supplied slot in which the running instance continues -/
theorem slotB (hs : sigma t = true) {i rem r : ℕ}
    (hr : (relAt cbs ex sigma rels t).running = some (i, rem, r)) :
    servedCb cbs ex sigma rels t = some i ∧ (∀ c, startsCb cbs ex sigma rels t c = false) ∧
    isPP cbs ex sigma rels t = false ∧
    stateAt cbs ex sigma rels (t + 1) = { relAt cbs ex sigma rels t with
      running := if rem ≤ 1 then none else some (i, rem - 1, r) } := by
  have h := ChainRefineXLemmas.slotB (cbs := cbs) (ex := ex) (ch := []) (rels := rels) hs
    (i := i) (rem := rem) (r := r) (by rw [relAtC_nil]; exact hr)
  rw [servedCbC_nil, startsCbC_nil, pickedAtC_nil, relAtC_nil] at h
  refine ⟨h.1, h.2.1, by simp [isPP_eq, hr], ?_⟩
  rw [stateAt_succ hs, h.2.2, fin]
  simp only [hr]
  split <;> rfl

/-- a supplied idle slot with a pending timer: the best timer starts -/
theorem slotC (hs : sigma t = true) (hr : (relAt cbs ex sigma rels t).running = none) {i : ℕ}
    (hb : bestOf cbs (pendingTimers cbs (relAt cbs ex sigma rels t).queue) = some i) :
    servedCb cbs ex sigma rels t = some i ∧ (∀ c, startsCb cbs ex sigma rels t c = true ↔ c = i) ∧
    isPP cbs ex sigma rels t = false ∧
    stateAt cbs ex sigma rels (t + 1) =
      { queue := (relAt cbs ex sigma rels t).queue.set i
          (((relAt cbs ex sigma rels t).queue.getD i []).drop 1),
        ready := (relAt cbs ex sigma rels t).ready,
        running := if ex i t ≤ 1 then none else
          some (i, ex i t - 1, ((relAt cbs ex sigma rels t).queue.getD i []).headD 0) } := by
  have h := ChainRefineXLemmas.slotC (cbs := cbs) (ex := ex) (ch := []) (rels := rels) hs
    (by rw [relAtC_nil]; exact hr) (i := i) (by rw [relAtC_nil]; exact hb)
  rw [servedCbC_nil, startsCbC_nil, pickedAtC_nil, relAtC_nil] at h
  refine ⟨h.1, h.2.1, ?_, ?_⟩
  · have : pendingTimers cbs (relAt cbs ex sigma rels t).queue ≠ [] := by
      intro h; rw [h] at hb; simp [bestOf] at hb
    simp [isPP_eq, this]
  · rw [stateAt_succ hs, h.2.2, fin]
    simp only
    split <;> rfl

/-- a supplied idle slot without pending timer: the best callback of the ready set starts -/
theorem slotD (hs : sigma t = true) (hr : (relAt cbs ex sigma rels t).running = none)
    (hb : bestOf cbs (pendingTimers cbs (relAt cbs ex sigma rels t).queue) = none) {i : ℕ}
    (hb2 : bestOf cbs (if (relAt cbs ex sigma rels t).ready.isEmpty
      then pendingPolled cbs (relAt cbs ex sigma rels t).queue else (relAt cbs ex sigma rels t).ready) = some i) :
    servedCb cbs ex sigma rels t = some i ∧ (∀ c, startsCb cbs ex sigma rels t c = true ↔ c = i) ∧
    isPP cbs ex sigma rels t = (relAt cbs ex sigma rels t).ready.isEmpty ∧
    stateAt cbs ex sigma rels (t + 1) =
      { queue := (relAt cbs ex sigma rels t).queue.set i
          (((relAt cbs ex sigma rels t).queue.getD i []).drop 1),
        ready := (if (relAt cbs ex sigma rels t).ready.isEmpty
          then pendingPolled cbs (relAt cbs ex sigma rels t).queue else (relAt cbs ex sigma rels t).ready).erase i,
        running := if ex i t ≤ 1 then none else
          some (i, ex i t - 1, ((relAt cbs ex sigma rels t).queue.getD i []).headD 0) } := by
  have h := ChainRefineXLemmas.slotD (cbs := cbs) (ex := ex) (ch := []) (rels := rels) hs
    (by rw [relAtC_nil]; exact hr) (by rw [relAtC_nil]; exact hb) (i := i)
    (by rw [readyAtC_nil]; exact hb2)
  rw [servedCbC_nil, startsCbC_nil, pickedAtC_nil, relAtC_nil, readyAtC_nil] at h
  refine ⟨h.1, h.2.1, ?_, ?_⟩
  · rw [bestOf_eq_none] at hb
    simp [isPP_eq, hb, hs, hr]
  · rw [stateAt_succ hs, h.2.2, fin]
    simp only
    split <;> rfl

/-- a supplied idle slot with nothing to pick -/
theorem slotE (hs : sigma t = true) (hr : (relAt cbs ex sigma rels t).running = none)
    (hb : bestOf cbs (pendingTimers cbs (relAt cbs ex sigma rels t).queue) = none)
    (hb2 : bestOf cbs (if (relAt cbs ex sigma rels t).ready.isEmpty
      then pendingPolled cbs (relAt cbs ex sigma rels t).queue else (relAt cbs ex sigma rels t).ready) = none) :
    servedCb cbs ex sigma rels t = none ∧ (∀ c, startsCb cbs ex sigma rels t c = false) ∧
    isPP cbs ex sigma rels t = (relAt cbs ex sigma rels t).ready.isEmpty ∧
    stateAt cbs ex sigma rels (t + 1) = { relAt cbs ex sigma rels t with
      ready := (if (relAt cbs ex sigma rels t).ready.isEmpty
          then pendingPolled cbs (relAt cbs ex sigma rels t).queue else (relAt cbs ex sigma rels t).ready) } := by
  have h := ChainRefineXLemmas.slotE (cbs := cbs) (ex := ex) (ch := []) (rels := rels) hs
    (by rw [relAtC_nil]; exact hr) (by rw [relAtC_nil]; exact hb) (by rw [readyAtC_nil]; exact hb2)
  rw [servedCbC_nil, startsCbC_nil, pickedAtC_nil, relAtC_nil, readyAtC_nil] at h
  refine ⟨h.1, h.2.1, ?_, ?_⟩
  · rw [bestOf_eq_none] at hb
    simp [isPP_eq, hb, hs, hr]
  · rw [stateAt_succ hs, h.2.2, fin]
    simp only [hr]
    rfl

end slotCases

local notation "St" => stateAt cbs ex sigma rels
local notation "Rl" => relAt cbs ex sigma rels
local notation "sb" => startedBefore cbs ex sigma rels

/-- `Good` at the beginning of slot `t`, without chain -/
structure Inv1 (t : ℕ) : Prop where
  qlen : (St t).queue.length = cbs.length
  q : ∀ i, i < cbs.length → ((St t).queue.getD i []).length + sb i t = cnt rels i t
  runOk : ∀ i rem r, (St t).running = some (i, rem, r) → i < cbs.length ∧ 1 ≤ sb i t ∧ 1 ≤ rem
  rNodup : (St t).ready.Nodup
  rPolled : ∀ c ∈ (St t).ready, c < cbs.length ∧ (cbs.getD c default).isTimer = false
  rPend : ∀ c ∈ (St t).ready, 0 < ((St t).queue.getD c []).length

theorem relAt_qlen (t : ℕ) : (Rl t).queue.length = (St t).queue.length :=
  addReleases_length _ _ _

theorem relAt_getD (t i : ℕ) (hi : i < (St t).queue.length) :
    ((Rl t).queue.getD i []).length = ((St t).queue.getD i []).length + (rels t).count i :=
  addReleases_getD _ _ _ _ hi

variable {cbs ex sigma rels} in
theorem Inv1.rq {t : ℕ} (h : Inv1 cbs ex sigma rels t) (i : ℕ) (hi : i < cbs.length) :
    ((Rl t).queue.getD i []).length + sb i t = cnt rels i (t + 1) := by
  rw [relAt_getD cbs ex sigma rels t i (by rw [h.qlen]; exact hi), cnt]
  have := h.q i hi
  omega

theorem sb_succ (i t : ℕ) : sb i (t + 1) = sb i t + if startsCb cbs ex sigma rels t i = true then 1 else 0 := rfl

section readySet
variable {cbs ex sigma rels} {t : ℕ}

theorem readyAt_nodup (h : Inv1 cbs ex sigma rels t) : (readyAt cbs ex sigma rels t).Nodup := by
  unfold readyAt
  split
  · exact nodup_pendingPolled _ _
  · exact h.rNodup

theorem readyAt_mem (h : Inv1 cbs ex sigma rels t) : ∀ c ∈ readyAt cbs ex sigma rels t,
    c < cbs.length ∧ (cbs.getD c default).isTimer = false ∧ 0 < ((Rl t).queue.getD c []).length := by
  intro c hc
  unfold readyAt at hc
  split at hc
  · exact (mem_pendingPolled _ _ _).1 hc
  · have h1 := h.rPolled c hc
    refine ⟨h1.1, h1.2, ?_⟩
    rw [relAt_getD cbs ex sigma rels t c (by rw [h.qlen]; exact h1.1)]
    have := h.rPend c hc
    omega

end readySet

variable {cbs ex sigma rels} in
theorem inv1 (hex : ∀ k, k < cbs.length → ∀ t, 1 ≤ ex k t ∧ ex k t ≤ (cbs.getD k default).cost)
    (t : ℕ) : Inv1 cbs ex sigma rels t := by
  have g := ChainRefineXLemmas.inv1C (sigma := sigma) (rels := rels) List.nodup_nil
    (fun _ h => (by cases h)) (fun _ _ _ h => (by cases h)) hex t
  unfold ChainRefineXLemmas.Inv1C at g
  rw [stateAtC_nil, startedBeforeC_nil] at g
  exact ⟨g.qlen, fun i hi => g.qExt i hi (fun h => by cases h), g.runOk, g.rNodup, g.rPolled, g.rPend⟩

variable {cbs ex sigma rels} in
theorem costX_first {H k t : ℕ} (h1 : schedX cbs ex sigma rels H t = some k)
    (h2 : ∀ u, u < t → schedX cbs ex sigma rels H u ≠ some k) :
    costX cbs ex sigma rels H k = ex ((events rels H).getD k (0, 0)).2 t := by
  unfold costX
  have hE : ∃ t, schedX cbs ex sigma rels H t = some k ∧
      ∀ u, u < t → schedX cbs ex sigma rels H u ≠ some k := ⟨t, h1, h2⟩
  rw [dif_pos hE, choose_first hE h1 h2]

variable {cbs ex sigma rels} in
theorem costX_bounds (hex : ∀ k, k < cbs.length → ∀ t, 1 ≤ ex k t ∧ ex k t ≤ (cbs.getD k default).cost)
    {H k : ℕ} (hk : ((events rels H).getD k (0, 0)).2 < cbs.length) :
    1 ≤ costX cbs ex sigma rels H k ∧
      costX cbs ex sigma rels H k ≤ (cbs.getD ((events rels H).getD k (0, 0)).2 default).cost := by
  unfold costX
  split
  · exact hex _ hk _
  · have := hex _ hk 0; omega

variable (H : ℕ)

local notation "Sy" => toSysX cbs ex sigma rels H

section emptyChainSys
open ChainRefineXLemmas

theorem schedCX_nil : schedCX cbs ex [] sigma rels H = schedX cbs ex sigma rels H := by
  funext t
  unfold schedCX schedX
  rw [servedCbC_nil, startedBeforeC_nil, startsCbC_nil]
  rfl

theorem svc_nil (k t : ℕ) : svc (toSysCX cbs ex [] sigma rels H) k t = svc (Sy) k t := by
  induction t with
  | zero => rfl
  | succ t ih =>
    show svc _ k t + (if schedCX cbs ex [] sigma rels H t = some k then 1 else 0) =
      svc _ k t + if schedX cbs ex sigma rels H t = some k then 1 else 0
    rw [ih, schedCX_nil]

theorem taskCX_nil (k : ℕ) : taskCX [] rels H k = ((events rels H).getD k (0, 0)).2 := by
  unfold taskCX
  split
  · rfl
  · rename_i hk
    simp [List.getD_eq_getElem?_getD, List.getElem?_eq_none (Nat.le_of_not_lt hk)]

theorem costCX_nil (k : ℕ) : costCX cbs ex [] sigma rels H k = (Sy).cost k := by
  show _ = costX cbs ex sigma rels H k
  by_cases h : ∃ t, schedX cbs ex sigma rels H t = some k ∧
      ∀ u, u < t → schedX cbs ex sigma rels H u ≠ some k
  · obtain ⟨t, h1, h2⟩ := h
    rw [costX_first h1 h2, ← taskCX_nil rels H k]
    exact costCX_first (by rw [schedCX_nil]; exact h1) (by rw [schedCX_nil]; exact h2)
  · unfold costCX costX
    rw [dif_neg h, dif_neg (by rw [schedCX_nil]; exact h), taskCX_nil rels H k]

theorem n_nil : (toSysCX cbs ex [] sigma rels H).n = (Sy).n := by
  show (events rels H).length + (0 - 1) * _ = (events rels H).length
  simp

theorem arr_nil {k : ℕ} (hk : k < (Sy).n) : (toSysCX cbs ex [] sigma rels H).arr k = (Sy).arr k :=
  if_pos hk

theorem pending_nil {k : ℕ} (hk : k < (Sy).n) (t : ℕ) :
    Pending (toSysCX cbs ex [] sigma rels H) k t ↔ Pending (Sy) k t := by
  unfold Pending
  rw [arr_nil cbs ex sigma rels H hk, svc_nil]
  show _ ∧ _ < costCX cbs ex [] sigma rels H k ↔ _
  rw [costCX_nil]

end emptyChainSys

section readySetShape
variable {cbs ex sigma rels H}

theorem isPP_iff (t : ℕ) : isPP cbs ex sigma rels t = true ↔
    (sigma t = true ∧ (St t).running = none ∧ pendingTimers cbs (Rl t).queue = [] ∧
      (St t).ready = []) := by
  rw [isPP_eq]
  show (sigma t && (St t).running.isNone && (pendingTimers cbs (Rl t).queue).isEmpty &&
      (St t).ready.isEmpty) = true ↔ _
  simp [Option.isNone_iff_eq_none, List.isEmpty_iff, and_assoc]

theorem readyAt_of_pp {t : ℕ} (h : (St t).ready = []) :
    readyAt cbs ex sigma rels t = pendingPolled cbs (Rl t).queue := by
  have e := ChainRefineXLemmas.readyAtC_of_empty (cbs := cbs) (ex := ex) (ch := []) (sigma := sigma)
    (rels := rels) (t := t) (by rw [stateAtC_nil]; exact h)
  rwa [readyAtC_nil, relAtC_nil] at e

theorem readyAt_of_not_pp {t : ℕ} (h : (St t).ready ≠ []) :
    readyAt cbs ex sigma rels t = (St t).ready := by
  have e := ChainRefineXLemmas.readyAtC_of_nonempty (cbs := cbs) (ex := ex) (ch := []) (sigma := sigma)
    (rels := rels) (t := t) (by rw [stateAtC_nil]; exact h)
  rwa [readyAtC_nil, stateAtC_nil] at e

end readySetShape

/-- the ready set at the beginning of slot `t` is exactly what the last polling point `p` sampled
(polled callbacks with a pending instance at `p`) minus what has started since -/
structure WindowInv (t : ℕ) : Prop where
  rWin : ∀ c ∈ (St t).ready, ∃ p, p < t ∧ isPP cbs ex sigma rels p = true ∧
    (∀ u, p < u → u < t → isPP cbs ex sigma rels u = false) ∧
    (∀ u, p ≤ u → u < t → startsCb cbs ex sigma rels u c = false) ∧ sb c p < cnt rels c (p + 1)
  rAll : ∀ p, p < t → isPP cbs ex sigma rels p = true →
    (∀ u, p < u → u < t → isPP cbs ex sigma rels u = false) →
    ∀ c, c < cbs.length → (cbs.getD c default).isTimer = false → sb c p < cnt rels c (p + 1) →
    (∀ u, p ≤ u → u < t → startsCb cbs ex sigma rels u c = false) → c ∈ (St t).ready

theorem windowInv_zero : WindowInv cbs ex sigma rels 0 where
  rWin := fun c hc => by simp [stateAt, State.init] at hc
  rAll := fun p hp => by omega

theorem forall_lt_succ {Q P : ℕ → Prop} {t : ℕ} (h : ∀ u, Q u → u < t → P u) (ht : Q t → P t) :
    ∀ u, Q u → u < t + 1 → P u := by
  intro u hq hu
  rcases Nat.lt_succ_iff_lt_or_eq.1 hu with h' | rfl
  · exact h u hq h'
  · exact ht hq

section pollingWindows
variable {cbs ex sigma rels} {t : ℕ}

theorem windowInv_keep (hpp : isPP cbs ex sigma rels t = false)
    (hready : (St (t + 1)).ready = (St t).ready)
    (hst : ∀ c ∈ (St t).ready, startsCb cbs ex sigma rels t c = false)
    (h : WindowInv cbs ex sigma rels t) : WindowInv cbs ex sigma rels (t + 1) := by
  refine ⟨?_, ?_⟩
  · intro c hc
    rw [hready] at hc
    obtain ⟨p, h1, h2, h3, h4, h5⟩ := h.rWin c hc
    exact ⟨p, by omega, h2, forall_lt_succ h3 fun _ => hpp, forall_lt_succ h4 fun _ => hst c hc, h5⟩
  · intro p hp hpp' hno c hc hpol hpend hns
    rw [hready]
    have hpt : p < t := by
      rcases Nat.lt_succ_iff_lt_or_eq.1 hp with h' | rfl
      · exact h'
      · rw [hpp] at hpp'; cases hpp'
    exact h.rAll p hpt hpp' (fun u a b => hno u a (by omega)) c hc hpol hpend
      (fun u a b => hns u a (by omega))

theorem windowInv_erase (h1 : Inv1 cbs ex sigma rels t) (hpp : isPP cbs ex sigma rels t = false) {i0 : ℕ}
    (hready : (St (t + 1)).ready = (St t).ready.erase i0)
    (hst : ∀ c, startsCb cbs ex sigma rels t c = true ↔ c = i0)
    (h : WindowInv cbs ex sigma rels t) : WindowInv cbs ex sigma rels (t + 1) := by
  have hns : ∀ c, c ≠ i0 → startsCb cbs ex sigma rels t c = false :=
    fun c hc => Bool.eq_false_iff.2 fun hh => hc ((hst c).1 hh)
  refine ⟨?_, ?_⟩
  · intro c hc
    rw [hready, h1.rNodup.mem_erase_iff] at hc
    obtain ⟨p, h1', h2, h3, h4, h5⟩ := h.rWin c hc.2
    exact ⟨p, by omega, h2, forall_lt_succ h3 fun _ => hpp, forall_lt_succ h4 fun _ => hns c hc.1, h5⟩
  · intro p hp hpp' hno c hc hpol hpend hns'
    rw [hready]
    have hpt : p < t := by
      rcases Nat.lt_succ_iff_lt_or_eq.1 hp with h' | rfl
      · exact h'
      · rw [hpp] at hpp'; cases hpp'
    have hm := h.rAll p hpt hpp' (fun u a b => hno u a (by omega)) c hc hpol hpend
      (fun u a b => hns' u a (by omega))
    have hne : c ≠ i0 := by
      intro e
      have := hns' t (by omega) (by omega)
      rw [(hst c).2 e] at this; cases this
    exact (List.mem_erase_of_ne hne).2 hm

theorem windowInv_pp (h1 : Inv1 cbs ex sigma rels t) (hpp : isPP cbs ex sigma rels t = true)
    (hready : ∀ c, c ∈ (St (t + 1)).ready ↔
      (c ∈ pendingPolled cbs (Rl t).queue ∧ startsCb cbs ex sigma rels t c = false)) :
    WindowInv cbs ex sigma rels (t + 1) := by
  refine ⟨?_, ?_⟩
  · intro c hc
    rw [hready] at hc
    obtain ⟨hc1, hc2⟩ := hc
    rw [mem_pendingPolled] at hc1
    refine ⟨t, by omega, hpp, fun u a b => by omega, ?_, ?_⟩
    · intro u a b
      have e : u = t := by omega
      subst e; exact hc2
    · have := h1.rq c hc1.1
      omega
  · intro p hp hpp' hno c hc hpol hpend hns
    have e : p = t := by
      rcases Nat.lt_or_ge p t with h' | h'
      · have := hno t h' (by omega)
        rw [hpp] at this; cases this
      · omega
    subst e
    rw [hready, mem_pendingPolled]
    refine ⟨⟨hc, hpol, ?_⟩, hns p (by omega) (by omega)⟩
    have := h1.rq c hc
    omega

variable (hex : ∀ k, k < cbs.length → ∀ t, 1 ≤ ex k t ∧ ex k t ≤ (cbs.getD k default).cost)
include hex

theorem windowInv_succ (h : WindowInv cbs ex sigma rels t) : WindowInv cbs ex sigma rels (t + 1) := by
  have h1 := inv1 (sigma := sigma) (rels := rels) hex t
  cases hs : sigma t with
  | false =>
    obtain ⟨_, hst, hpp, hnext⟩ := slotA (cbs := cbs) (ex := ex) (rels := rels) hs
    exact windowInv_keep hpp (by rw [hnext]; rfl) (fun c _ => hst c) h
  | true =>
    rcases hr : (Rl t).running with _ | ⟨i, rem, r⟩
    · cases hb : bestOf cbs (pendingTimers cbs (Rl t).queue) with
      | some i =>
        obtain ⟨_, hst, hpp, hnext⟩ := slotC hs hr hb
        have hm := (mem_pendingTimers _ _ _).1 (bestOf_mem _ _ _ hb)
        refine windowInv_keep hpp (by rw [hnext]; rfl) ?_ h
        intro c hc
        refine Bool.eq_false_iff.2 fun hh => ?_
        have e := (hst c).1 hh
        subst e
        have := (h1.rPolled c hc).2
        rw [this] at hm; exact absurd hm.2.1 (by simp)
      | none =>
        by_cases hemp : (St t).ready = []
        · have hra := readyAt_of_pp (cbs := cbs) (ex := ex) (sigma := sigma) (rels := rels) hemp
          have hre : (Rl t).ready.isEmpty = true := List.isEmpty_iff.2 hemp
          cases hb2 : bestOf cbs (readyAt cbs ex sigma rels t) with
          | some i =>
            obtain ⟨_, hst, hpp, hnext⟩ := slotD hs hr hb hb2
            refine windowInv_pp h1 (hpp.trans hre) ?_
            intro c
            rw [hnext]
            show c ∈ (readyAt cbs ex sigma rels t).erase i ↔ _
            rw [(readyAt_nodup h1).mem_erase_iff, hra]
            constructor
            · rintro ⟨a, b⟩
              exact ⟨b, Bool.eq_false_iff.2 fun hh => a ((hst c).1 hh)⟩
            · rintro ⟨a, b⟩
              refine ⟨?_, a⟩
              intro e
              rw [(hst c).2 e] at b; cases b
          | none =>
            obtain ⟨_, hst, hpp, hnext⟩ := slotE hs hr hb hb2
            refine windowInv_pp h1 (hpp.trans hre) ?_
            intro c
            rw [hnext]
            show c ∈ readyAt cbs ex sigma rels t ↔ _
            rw [hra, hst c]
            simp
        · have hra := readyAt_of_not_pp (cbs := cbs) (ex := ex) (sigma := sigma) (rels := rels) hemp
          have hnpp : (Rl t).ready.isEmpty = false := List.isEmpty_eq_false_iff.2 hemp
          cases hb2 : bestOf cbs (readyAt cbs ex sigma rels t) with
          | some i =>
            obtain ⟨_, hst, hpp, hnext⟩ := slotD hs hr hb hb2
            refine windowInv_erase h1 (by rw [hpp, hnpp]) (i0 := i) ?_ hst h
            rw [hnext]
            show (readyAt cbs ex sigma rels t).erase i = _
            rw [hra]
          | none =>
            rw [bestOf_eq_none, hra] at hb2
            exact absurd hb2 hemp
    · obtain ⟨_, hst, hpp, hnext⟩ := slotB hs hr
      exact windowInv_keep hpp (by rw [hnext]; rfl) (fun c _ => hst c) h

theorem windowInv : ∀ t, WindowInv cbs ex sigma rels t
  | 0 => windowInv_zero cbs ex sigma rels
  | t + 1 => windowInv_succ hex (windowInv t)

end pollingWindows

section jobStatus
variable {cbs ex sigma rels H}

theorem job_task {i m k : ℕ} (hj : nthEventOf rels H i m = some k) : k < (Sy).n ∧ (Sy).task k = i :=
  ⟨((job_iff rels H i m k).1 hj).1, ((job_iff rels H i m k).1 hj).2.1⟩

theorem task_lt (hidx : ∀ t, ∀ i ∈ rels t, i < cbs.length) {k : ℕ} (hk : k < (Sy).n) :
    (Sy).task k < cbs.length :=
  hidx _ _ (events_getD rels hk)

theorem toSysX_job_exists {k : ℕ} (hk : k < (Sy).n) : ∃ m, nthEventOf rels H ((Sy).task k) m = some k :=
  job_exists rels H k hk

theorem job_cost_bounds (hidx : ∀ t, ∀ i ∈ rels t, i < cbs.length)
    (hex : ∀ k, k < cbs.length → ∀ t, 1 ≤ ex k t ∧ ex k t ≤ (cbs.getD k default).cost)
    {i m k : ℕ} (hj : nthEventOf rels H i m = some k) :
    1 ≤ (Sy).cost k ∧ (Sy).cost k ≤ (cbs.getD i default).cost := by
  have hjt := job_task (cbs := cbs) (ex := ex) (sigma := sigma) hj
  have hi : (Sy).task k < cbs.length := task_lt hidx hjt.1
  have := costX_bounds (sigma := sigma) hex (H := H) (k := k) hi
  have e : ((events rels H).getD k (0, 0)).2 = i := hjt.2
  rw [e] at this
  exact this

theorem toSysX_job_arr (hfin : ∀ t, H ≤ t → rels t = []) {i m k : ℕ} (hj : nthEventOf rels H i m = some k) (t : ℕ) :
    (Sy).arr k ≤ t ↔ m < cnt rels i (t + 1) := by
  rw [← job_arr rels H hfin hj (t + 1)]
  show ((events rels H).getD k (0, 0)).1 ≤ t ↔ _
  omega

/-- unstarted / complete / running -/
theorem status (hy : ChainRefineXLemmas.HypX cbs ex [] rels H)
    {i m k : ℕ} (hj : nthEventOf rels H i m = some k) (t : ℕ) :
    (sb i t ≤ m ∧ svc (Sy) k t = 0) ∨
    (m + 1 ≤ sb i t ∧ svc (Sy) k t = (Sy).cost k ∧ 1 ≤ svc (Sy) k t ∧
      (m + 1 = sb i t → ∀ rem r, (St t).running ≠ some (i, rem, r))) ∨
    (m + 1 = sb i t ∧ ∃ rem r, (St t).running = some (i, rem, r) ∧
      svc (Sy) k t + rem = (Sy).cost k ∧ 1 ≤ svc (Sy) k t ∧ 1 ≤ rem) := by
  have hjt := job_task (cbs := cbs) (ex := ex) (sigma := sigma) hj
  have hi : i < cbs.length := by rw [← hjt.2]; exact task_lt hy.hidx hjt.1
  have h := ChainRefineXLemmas.statusC (sigma := sigma) hy hi hj t
  rw [stateAtC_nil, startedBeforeC_nil, svc_nil] at h
  exact (costCX_nil cbs ex sigma rels H k) ▸ h

theorem sb_mono (c : ℕ) {a b : ℕ} (h : a ≤ b) : sb c a ≤ sb c b := by
  induction h with
  | refl => exact Nat.le_refl _
  | step _ ih => rw [sb_succ]; omega

theorem sb_const (c : ℕ) {a b : ℕ} (h : a ≤ b)
    (hns : ∀ u, a ≤ u → u < b → startsCb cbs ex sigma rels u c = false) : sb c b = sb c a := by
  induction h with
  | refl => rfl
  | @step m hm ih =>
    rw [sb_succ, hns m hm (by omega), ih (fun u x y => hns u x (by omega))]
    simp

theorem sb_lt_of_start {c u t : ℕ} (h : startsCb cbs ex sigma rels u c = true) (hu : u < t) :
    sb c u < sb c t := by
  have h1 : sb c (u + 1) = sb c u + 1 := by rw [sb_succ, h]; simp
  have := sb_mono (cbs := cbs) (ex := ex) (sigma := sigma) (rels := rels) c (show u + 1 ≤ t by omega)
  omega

end jobStatus

/-- slot `t` starts job `j`: nothing was running, and the callback of `j` is the one picked -/
structure StartInfo (t j : ℕ) : Prop where
  supplied : sigma t = true
  running : (St t).running = none
  starts : ∀ c, startsCb cbs ex sigma rels t c = true ↔ c = (Sy).task j
  lt : (Sy).task j < cbs.length
  queued : 0 < ((Rl t).queue.getD ((Sy).task j) []).length
  job : nthEventOf rels H ((Sy).task j) (sb ((Sy).task j) t) = some j
  best : bestOf cbs (pendingTimers cbs (Rl t).queue) = some ((Sy).task j) ∨
    (pendingTimers cbs (Rl t).queue = [] ∧ bestOf cbs (readyAt cbs ex sigma rels t) = some ((Sy).task j))

section schedShape
variable {cbs ex sigma rels H}

theorem sched_shape (hy : ChainRefineXLemmas.HypX cbs ex [] rels H) (t : ℕ) :
    ((Sy).sched t = none ∧ ∀ c, startsCb cbs ex sigma rels t c = false) ∨
    (∃ i j, (∀ c, startsCb cbs ex sigma rels t c = false) ∧ 1 ≤ sb i t ∧
      nthEventOf rels H i (sb i t - 1) = some j ∧ (Sy).sched t = some j) ∨
    ∃ j, (Sy).sched t = some j ∧ StartInfo cbs ex sigma rels H t j := by
  have hs : (toSysCX cbs ex [] sigma rels H).sched = (Sy).sched := schedCX_nil cbs ex sigma rels H
  rcases ChainRefineXLemmas.sched_shapeC (sigma := sigma) hy t with s | ⟨i, rem, r, j, s⟩ | ⟨i, r0, j, s⟩
  · have h := And.intro s.sched s.starts
    rw [hs, startsCbC_nil] at h
    exact Or.inl h
  · have h := And.intro s.starts (And.intro s.started (And.intro s.job s.sched))
    rw [hs, startsCbC_nil, startedBeforeC_nil] at h
    exact Or.inr (Or.inl ⟨i, j, h⟩)
  · have h := And.intro s.running (And.intro s.starts (And.intro s.queued
      (And.intro s.job (And.intro s.sched s.best))))
    rw [hs, stateAtC_nil, startsCbC_nil, startedBeforeC_nil, relAtC_nil, readyAtC_nil] at h
    obtain ⟨hr, hst, hq, hj, hsch, hb⟩ := h
    obtain rfl := (job_task (cbs := cbs) (ex := ex) (sigma := sigma) hj).2
    exact Or.inr (Or.inr ⟨j, hsch, s.supplied, hr, hst, s.lt, hq, hj, hb⟩)

end schedShape

section clauses
variable {cbs ex sigma rels H}
variable (hy : ChainRefineXLemmas.HypX cbs ex [] rels H)

include hy

theorem c_valid (t j : ℕ) (hs : (Sy).sched t = some j) :
    j < (Sy).n ∧ Pending (Sy) j t ∧ sigma t = true := by
  obtain ⟨hn, hp, hsg⟩ := ChainRefineXLemmas.c_validC (sigma := sigma) hy t j
    (by rw [← hs]; exact congrFun (schedCX_nil cbs ex sigma rels H) t)
  rw [n_nil] at hn
  exact ⟨hn, (pending_nil cbs ex sigma rels H hn t).1 hp, hsg⟩

theorem startsAt_info (t j : ℕ) (hs : StartsAt (Sy) j t) : StartInfo cbs ex sigma rels H t j := by
  obtain ⟨hs, h0⟩ := hs
  rcases sched_shape (sigma := sigma) hy t with ⟨h0, _⟩ | ⟨i, j', _, hsb, hj, hsch⟩ | ⟨j', hsch, s⟩
  · rw [h0] at hs; cases hs
  · rw [hsch] at hs; cases hs
    exfalso
    rcases status (sigma := sigma) hy hj t with h | h | h
    · omega
    · omega
    · obtain ⟨_, rem', r', _, h1, h2, h3⟩ := h
      omega
  · rw [hsch] at hs; cases hs
    exact s

omit hy in
theorem picked_from_ready {t i : ℕ} (hpol : (cbs.getD i default).isTimer = false)
    (hb : bestOf cbs (pendingTimers cbs (Rl t).queue) = some i ∨
      (pendingTimers cbs (Rl t).queue = [] ∧ bestOf cbs (readyAt cbs ex sigma rels t) = some i)) :
    pendingTimers cbs (Rl t).queue = [] ∧ bestOf cbs (readyAt cbs ex sigma rels t) = some i := by
  rcases hb with hb | hb
  · have := (mem_pendingTimers _ _ _).1 (bestOf_mem _ _ _ hb)
    rw [hpol] at this
    exact absurd this.2.1 (by simp)
  · exact hb

theorem startsAt_of (t i : ℕ) (hst : startsCb cbs ex sigma rels t i = true) :
    ∃ j, nthEventOf rels H i (sb i t) = some j ∧ StartsAt (Sy) j t := by
  rcases sched_shape (sigma := sigma) hy t with ⟨_, h0⟩ | ⟨i', j', hst', _⟩ | ⟨j', hsch, s⟩
  · rw [h0] at hst; cases hst
  · rw [hst'] at hst; cases hst
  · obtain rfl := (s.starts i).1 hst
    refine ⟨j', s.job, hsch, ?_⟩
    rcases status (sigma := sigma) hy s.job t with h | h | h
    · exact h.2
    · omega
    · omega

theorem pending_queue (t k : ℕ) (hk : k < (Sy).n) (hp : Pending (Sy) k t) (hr : (St t).running = none) :
    (Sy).task k < cbs.length ∧ 0 < ((Rl t).queue.getD ((Sy).task k) []).length := by
  have hi := task_lt (ex := ex) (sigma := sigma) (H := H) hy.hidx hk
  obtain ⟨m, hj⟩ := toSysX_job_exists (cbs := cbs) (ex := ex) (sigma := sigma) hk
  refine ⟨hi, ?_⟩
  have ha := (toSysX_job_arr (cbs := cbs) (ex := ex) (sigma := sigma) hy.hfin hj t).1 hp.1
  have hrq := (inv1 (sigma := sigma) (rels := rels) hy.hexec t).rq _ hi
  rcases status (sigma := sigma) hy hj t with h | h | h
  · omega
  · have := hp.2; omega
  · obtain ⟨_, rem', r', h1, _⟩ := h
    rw [hr] at h1; cases h1

theorem arr_mono {i m m' j k : ℕ} (hj : nthEventOf rels H i m = some j) (hk : nthEventOf rels H i m' = some k) (h : m ≤ m') :
    (Sy).arr j ≤ (Sy).arr k := by
  rcases Nat.lt_or_ge ((Sy).arr k) ((Sy).arr j) with hlt | hge
  · exfalso
    have h1 := (job_arr rels H hy.hfin hk ((Sy).arr j)).1 hlt
    have h2 := (job_arr rels H hy.hfin hj ((Sy).arr j))
    have : ¬ m < cnt rels i ((Sy).arr j) := fun hh => by
      have := h2.2 hh
      exact Nat.lt_irrefl _ this
    omega
  · exact hge

theorem c_nonpre (t j : ℕ) (hs : (Sy).sched t = some j) (k : ℕ) (hk : k < (Sy).n) (hkj : k ≠ j) :
    svc (Sy) k t = 0 ∨ svc (Sy) k t = (Sy).cost k := by
  have h := ChainRefineXLemmas.c_nonpreC (sigma := sigma) hy t j
    (by rw [← hs]; exact congrFun (schedCX_nil cbs ex sigma rels H) t) k
    (by rw [n_nil]; exact hk) hkj
  rw [svc_nil] at h
  exact (costCX_nil cbs ex sigma rels H k) ▸ h

theorem c_wc (t : ℕ) (hsg : sigma t = true) (hp : ∃ k < (Sy).n, Pending (Sy) k t) :
    ∃ j, (Sy).sched t = some j := by
  obtain ⟨k, hk, hp⟩ := hp
  obtain ⟨j, hj⟩ := ChainRefineXLemmas.c_wcC (sigma := sigma) hy t hsg
    ⟨k, by rw [n_nil]; exact hk, (pending_nil cbs ex sigma rels H hk t).2 hp⟩
  exact ⟨j, by rw [← hj]; exact (congrFun (schedCX_nil cbs ex sigma rels H) t).symm⟩

theorem c_fifo (t j : ℕ) (hs : StartsAt (Sy) j t) (k : ℕ) (hk : k < (Sy).n)
    (hkt : (Sy).task k = (Sy).task j) (_hp : Pending (Sy) k t) (h0 : svc (Sy) k t = 0) :
    (Sy).arr j ≤ (Sy).arr k := by
  obtain ⟨m, hjk⟩ := toSysX_job_exists (cbs := cbs) (ex := ex) (sigma := sigma) hk
  rw [hkt] at hjk
  refine arr_mono (ex := ex) (sigma := sigma) hy (startsAt_info hy t j hs).job hjk ?_
  rcases status (sigma := sigma) hy hjk t with h | h | h
  · exact h.1
  · omega
  · obtain ⟨_, _, _, _, _, h2, _⟩ := h
    omega

theorem c_ppIdle (t : ℕ) (hpp : isPP cbs ex sigma rels t = true) (k : ℕ) (hk : k < (Sy).n) :
    svc (Sy) k t = 0 ∨ svc (Sy) k t = (Sy).cost k := by
  obtain ⟨m, hj⟩ := toSysX_job_exists (cbs := cbs) (ex := ex) (sigma := sigma) hk
  rcases status (sigma := sigma) hy hj t with h | h | h
  · exact Or.inl h.2
  · exact Or.inr h.2.1
  · obtain ⟨_, _, _, h1, _⟩ := h
    rw [((isPP_iff t).1 hpp).2.1] at h1; cases h1

theorem c_timersFirst (t j : ℕ) (hs : StartsAt (Sy) j t)
    (hpol : (cbs.getD ((Sy).task j) default).isTimer = false) (k : ℕ) (hk : k < (Sy).n)
    (htm : (cbs.getD ((Sy).task k) default).isTimer = true) : ¬ Pending (Sy) k t := by
  intro hp
  have s := startsAt_info hy t j hs
  obtain ⟨hi, hq⟩ := pending_queue hy t k hk hp s.running
  have hmem : (Sy).task k ∈ pendingTimers cbs (Rl t).queue :=
    (mem_pendingTimers _ _ _).2 ⟨hi, htm, hq⟩
  rcases s.best with hb | ⟨hb, _⟩
  · have := (mem_pendingTimers _ _ _).1 (bestOf_mem _ _ _ hb)
    rw [hpol] at this
    exact absurd this.2.1 (by simp)
  · rw [hb] at hmem; cases hmem

omit hy in
theorem search (f : ℕ → Bool) (a : ℕ) : ∀ b,
    (∀ u, a ≤ u → u < b → f u = false) ∨ ∃ u, a ≤ u ∧ u < b ∧ f u = true :=
  Exec.RefineLemmas.search f a

omit hy in
theorem last_pp (p : ℕ) (hp : isPP cbs ex sigma rels p = true) (t : ℕ) (h : p < t) :
    ∃ q, p ≤ q ∧ q < t ∧ isPP cbs ex sigma rels q = true ∧
      ∀ u, q < u → u < t → isPP cbs ex sigma rels u = false :=
  RrSoundLemmas.ppIn_last (E := toInfoX cbs ex sigma rels) p t
    (Finset.card_pos.2 ⟨p, (RrSoundLemmas.mem_ppIn p t p).2 ⟨h, Nat.le_refl p, hp⟩⟩)

theorem c_inWindow (t j : ℕ) (hs : StartsAt (Sy) j t)
    (hpol : (cbs.getD ((Sy).task j) default).isTimer = false) :
    ∃ p, LastPP (toInfoX cbs ex sigma rels) p t ∧ (Sy).arr j ≤ p := by
  have s := startsAt_info hy t j hs
  have hb' := picked_from_ready hpol s.best
  by_cases he : (St t).ready = []
  · refine ⟨t, ⟨(isPP_iff t).2 ⟨s.supplied, s.running, hb'.1, he⟩, Nat.le_refl _, fun u a b => by omega⟩, ?_⟩
    exact (c_valid hy t j hs.1).2.1.1
  · have hmem : (Sy).task j ∈ (St t).ready := by
      have := bestOf_mem _ _ _ hb'.2
      rw [readyAt_of_not_pp he] at this; exact this
    obtain ⟨p, h1, h2, h3, h4, h5⟩ := (windowInv (sigma := sigma) (rels := rels) hy.hexec t).rWin _ hmem
    have hnpp : isPP cbs ex sigma rels t = false :=
      Bool.eq_false_iff.2 fun hh => he ((isPP_iff t).1 hh).2.2.2
    refine ⟨p, ⟨h2, by omega, ?_⟩, ?_⟩
    · exact fun u a b => forall_lt_succ h3 (fun _ => hnpp) u a (Nat.lt_succ_of_le b)
    · rw [toSysX_job_arr (cbs := cbs) (ex := ex) (sigma := sigma) hy.hfin s.job]
      rw [sb_const (cbs := cbs) (ex := ex) (sigma := sigma) (rels := rels) _ (show p ≤ t by omega) h4]
      exact h5

/-- a polled callback starts at most once per polling window -/
theorem not_started_twice (p t t' i : ℕ) (hp : LastPP (toInfoX cbs ex sigma rels) p t)
    (hp' : LastPP (toInfoX cbs ex sigma rels) p t') (hlt : t < t')
    (hst : startsCb cbs ex sigma rels t i = true) (j' : ℕ) (hs' : StartsAt (Sy) j' t')
    (htj : (Sy).task j' = i) (hpol : (cbs.getD i default).isTimer = false) : False := by
  have s := startsAt_info hy t' j' hs'
  subst htj
  have hb' := picked_from_ready hpol s.best
  have hnpp : isPP cbs ex sigma rels t' = false := hp'.2.2 t' (by have := hp.2.1; omega) (Nat.le_refl _)
  have he : (St t').ready ≠ [] := by
    intro he
    have := (isPP_iff t').2 ⟨s.supplied, s.running, hb'.1, he⟩
    rw [hnpp] at this; cases this
  have hmem : (Sy).task j' ∈ (St t').ready := by
    have := bestOf_mem _ _ _ hb'.2
    rw [readyAt_of_not_pp he] at this; exact this
  obtain ⟨q, h1, h2, h3, h4, _⟩ := (windowInv (sigma := sigma) (rels := rels) hy.hexec t').rWin _ hmem
  have hqp : q = p := by
    rcases Nat.lt_trichotomy q p with h | h | h
    · have := h3 p h (by have := hp.2.1; omega)
      have hh : isPP cbs ex sigma rels p = true := hp.1
      rw [hh] at this; cases this
    · exact h
    · have : isPP cbs ex sigma rels q = false := hp'.2.2 q h (by omega)
      rw [h2] at this; cases this
  subst hqp
  have := h4 t hp.2.1 hlt
  rw [hst] at this; cases this

theorem c_once (p t t' j j' : ℕ) (hp : LastPP (toInfoX cbs ex sigma rels) p t)
    (hp' : LastPP (toInfoX cbs ex sigma rels) p t') (hs : StartsAt (Sy) j t) (hs' : StartsAt (Sy) j' t')
    (hpol : (cbs.getD ((Sy).task j) default).isTimer = false) (htt : (Sy).task j = (Sy).task j') :
    j = j' := by
  rcases Nat.lt_trichotomy t t' with h | h | h
  · exact (not_started_twice hy p t t' _ hp hp' h (((startsAt_info hy t j hs).starts _).2 rfl) j' hs'
      htt.symm hpol).elim
  · subst h
    have := hs.1.symm.trans hs'.1
    cases this; rfl
  · exact (not_started_twice hy p t' t _ hp' hp h (((startsAt_info hy t' j' hs').starts _).2 rfl) j hs
      htt (by rw [← htt]; exact hpol)).elim

theorem c_served (p p' j : ℕ) (hp : isPP cbs ex sigma rels p = true) (hp' : isPP cbs ex sigma rels p' = true)
    (hlt : p < p') (hjn : j < (Sy).n)
    (hpol : (cbs.getD ((Sy).task j) default).isTimer = false) (harr : (Sy).arr j ≤ p)
    (h0 : svc (Sy) j p' = 0) :
    ∃ k u, k < (Sy).n ∧ k ≠ j ∧ (Sy).task k = (Sy).task j ∧ p ≤ u ∧ u < p' ∧ StartsAt (Sy) k u := by
  have hi := task_lt (ex := ex) (sigma := sigma) (H := H) hy.hidx hjn
  obtain ⟨m, hj⟩ := toSysX_job_exists (cbs := cbs) (ex := ex) (sigma := sigma) hjn
  have hm1 : sb ((Sy).task j) p' ≤ m := by
    rcases status (sigma := sigma) hy hj p' with h | h | h
    · exact h.1
    · omega
    · obtain ⟨_, _, _, _, _, h2, _⟩ := h
      omega
  have hm2 := (toSysX_job_arr (cbs := cbs) (ex := ex) (sigma := sigma) hy.hfin hj p).1 harr
  obtain ⟨q, hq1, hq2, hq3, hq4⟩ := last_pp (cbs := cbs) (ex := ex) (sigma := sigma) (rels := rels) p hp p' hlt
  rcases search (fun u => startsCb cbs ex sigma rels u ((Sy).task j)) q p' with hno | ⟨u, hu1, hu2, hu3⟩
  · exfalso
    have hsbq := sb_mono (cbs := cbs) (ex := ex) (sigma := sigma) (rels := rels) ((Sy).task j) (show q ≤ p' by omega)
    have hcq := cnt_mono rels ((Sy).task j) (show p + 1 ≤ q + 1 by omega)
    have := (windowInv (sigma := sigma) (rels := rels) hy.hexec p').rAll q hq2 hq3 hq4
      ((Sy).task j) hi hpol (by omega) hno
    rw [((isPP_iff p').1 hp').2.2.2] at this; cases this
  · obtain ⟨k, hk, hsk⟩ := startsAt_of hy u ((Sy).task j) hu3
    have hkt := job_task (cbs := cbs) (ex := ex) (sigma := sigma) hk
    refine ⟨k, u, hkt.1, ?_, hkt.2, by omega, hu2, hsk⟩
    intro e
    subst e
    have := (job_inj rels hk hj).2
    have := sb_lt_of_start (cbs := cbs) (ex := ex) (sigma := sigma) (rels := rels) hu3 hu2
    omega

theorem c_prioWin (p t j k : ℕ) (hp : LastPP (toInfoX cbs ex sigma rels) p t) (hs : StartsAt (Sy) j t)
    (hpol : (cbs.getD ((Sy).task j) default).isTimer = false) (hkn : k < (Sy).n)
    (hpolk : (cbs.getD ((Sy).task k) default).isTimer = false)
    (hprio : (cbs.getD ((Sy).task k) default).prio < (cbs.getD ((Sy).task j) default).prio)
    (harr : (Sy).arr k ≤ p) (h0 : svc (Sy) k p = 0) :
    ∃ k' u, k' < (Sy).n ∧ (Sy).task k' = (Sy).task k ∧ p ≤ u ∧ u < t ∧ StartsAt (Sy) k' u := by
  have hi := task_lt (ex := ex) (sigma := sigma) (H := H) hy.hidx hkn
  obtain ⟨m, hj⟩ := toSysX_job_exists (cbs := cbs) (ex := ex) (sigma := sigma) hkn
  have hm1 : sb ((Sy).task k) p ≤ m := by
    rcases status (sigma := sigma) hy hj p with h | h | h
    · exact h.1
    · omega
    · obtain ⟨_, _, _, _, _, h2, _⟩ := h
      omega
  have hm2 := (toSysX_job_arr (cbs := cbs) (ex := ex) (sigma := sigma) hy.hfin hj p).1 harr
  have hb' := picked_from_ready hpol (startsAt_info hy t j hs).best
  have hpp : isPP cbs ex sigma rels p = true := hp.1
  rcases search (fun u => startsCb cbs ex sigma rels u ((Sy).task k)) p t with hno | ⟨u, hu1, hu2, hu3⟩
  · exfalso
    have hmem : (Sy).task k ∈ readyAt cbs ex sigma rels t := by
      rcases Nat.lt_or_ge p t with hlt | hge
      · have hnpp : isPP cbs ex sigma rels t = false := hp.2.2 t hlt (Nat.le_refl _)
        have := (windowInv (sigma := sigma) (rels := rels) hy.hexec t).rAll p hlt hpp
          (fun u a b => hp.2.2 u a (by omega)) ((Sy).task k) hi hpolk (by omega) hno
        have he : (St t).ready ≠ [] := by
          intro he; rw [he] at this; cases this
        rw [readyAt_of_not_pp he]; exact this
      · have e : p = t := by have := hp.2.1; omega
        subst e
        rw [readyAt_of_pp ((isPP_iff p).1 hpp).2.2.2, mem_pendingPolled]
        refine ⟨hi, hpolk, ?_⟩
        have := (inv1 (sigma := sigma) (rels := rels) hy.hexec p).rq _ hi
        omega
    have := bestOf_min _ _ _ hb'.2 _ hmem
    omega
  · obtain ⟨k', hk, hsk⟩ := startsAt_of hy u ((Sy).task k) hu3
    have hkt := job_task (cbs := cbs) (ex := ex) (sigma := sigma) hk
    exact ⟨k', u, hkt.1, hkt.2, hu1, hu2, hsk⟩

theorem polling_legal : PollingExecLegal (Sy) sigma (toInfoX cbs ex sigma rels) where
  valid := c_valid hy
  nonpre := c_nonpre hy
  wc := c_wc hy
  fifo := c_fifo hy
  ppIdle := c_ppIdle hy
  timersFirst := c_timersFirst hy
  inWindow := c_inWindow hy
  once := c_once hy
  served := c_served hy
  prioWin := c_prioWin hy

theorem timer_legal (i : ℕ) (hti : (cbs.getD i default).isTimer = true)
    (hdist : ∀ k, k < cbs.length → k ≠ i → (cbs.getD k default).isTimer = true →
      (cbs.getD k default).prio ≠ (cbs.getD i default).prio) :
    SupplyTimerLegal (Sy) sigma i
      (fun k => (cbs.getD k default).isTimer = true ∧
        (cbs.getD k default).prio < (cbs.getD i default).prio) where
  valid := c_valid hy
  nonpre := c_nonpre hy
  wc := fun t h ⟨k, hk, _, hp⟩ => c_wc hy t h ⟨k, hk, hp⟩
  prioOther := by
    intro t j hs h0 hnr k hk hrel hp
    have s := startsAt_info hy t j ⟨hs, h0⟩
    obtain ⟨hi', hq⟩ := pending_queue hy t k hk hp s.running
    have htk : (cbs.getD ((Sy).task k) default).isTimer = true := by
      rcases hrel with e | e
      · rw [e]; exact hti
      · exact e.1
    have hmem : (Sy).task k ∈ pendingTimers cbs (Rl t).queue :=
      (mem_pendingTimers _ _ _).2 ⟨hi', htk, hq⟩
    rcases s.best with hb | ⟨hb, _⟩
    · have hc := (mem_pendingTimers _ _ _).1 (bestOf_mem _ _ _ hb)
      have hmin := bestOf_min _ _ _ hb _ hmem
      have hnr' : ¬ ((Sy).task j = i ∨ ((cbs.getD ((Sy).task j) default).isTimer = true ∧
          (cbs.getD ((Sy).task j) default).prio < (cbs.getD i default).prio)) := hnr
      have h2 : ¬ (cbs.getD ((Sy).task j) default).prio < (cbs.getD i default).prio :=
        fun e => hnr' (Or.inr ⟨hc.2.1, e⟩)
      have h3 := hdist _ hc.1 (fun e => hnr' (Or.inl e)) hc.2.1
      rcases hrel with e | e
      · rw [e] at hmin; omega
      · have := e.2; omega
    · rw [hb] at hmem; cases hmem
  prioOwn := by
    intro t j hs h0 hji k hk hki hp
    by_cases hkj : k = j
    · subst hkj; exact Nat.le_refl _
    · rcases c_nonpre hy t j hs k hk hkj with h | h
      · exact c_fifo hy t j ⟨hs, h0⟩ k hk (by rw [hki, hji]) hp h
      · have := hp.2; omega

end clauses

/-- the completion reported by slot `u` of the infinite run -/
def outAt (u : ℕ) : Option (ℕ × ℕ × ℕ) :=
  (step cbs ex (fun _ => none) u (sigma u) (rels u) (St u)).2

theorem outAtC_nil : ChainRefineXLemmas.outAtC cbs ex [] sigma rels = outAt cbs ex sigma rels := by
  funext u; unfold ChainRefineXLemmas.outAtC outAt; rw [stateAtC_nil]; rfl

theorem go_mem (o : ℕ × ℕ × ℕ) (m t : ℕ)
    (h : o ∈ run.go cbs ex (fun _ => none) rels ((List.range' t m).map sigma) t (St t)) :
    ∃ u, outAt cbs ex sigma rels u = some o := by
  have e := ChainRefineXLemmas.go_eq cbs ex [] sigma rels m t
  rw [stateAtC_nil, outAtC_nil] at e
  have h' : o ∈ (List.range' t m).filterMap (outAt cbs ex sigma rels) := e ▸ h
  obtain ⟨u, _, hu⟩ := List.mem_filterMap.1 h'
  exact ⟨u, hu⟩

theorem outAt_some {u : ℕ} {o : ℕ × ℕ × ℕ} (h : outAt cbs ex sigma rels u = some o) :
    sigma u = true ∧ ∃ i rem r, (pickedAt cbs ex sigma rels u).running = some (i, rem, r) ∧
      rem ≤ 1 ∧ o = (i, r, u + 1) := by
  have e := ChainRefineXLemmas.outAtC_eq cbs ex [] sigma rels u
  rw [outAtC_nil, pickedAtC_nil, h] at e
  cases hs : sigma u with
  | false => rw [hs] at e; simp at e
  | true =>
    rw [hs, if_pos rfl] at e
    refine ⟨rfl, ?_⟩
    rcases hr : (pickedAt cbs ex sigma rels u).running with _ | ⟨i, rem, r⟩
    · rw [hr] at e; cases e
    · rw [hr] at e
      simp only at e
      split at e
      · rename_i hrem
        exact ⟨i, rem, r, rfl, hrem, Option.some.inj e⟩
      · cases e

theorem addReleases_content (rel : List ℕ) (t i : ℕ) : ∀ q : List (List ℕ), i < q.length →
    (addReleases q rel t).getD i [] = q.getD i [] ++ List.replicate (rel.count i) t := by
  induction rel with
  | nil => intro q _; simp [addReleases]
  | cons a rel ih =>
    intro q hi
    simp only [addReleases, List.foldl_cons] at ih ⊢
    rw [ih _ (by simpa using hi), getD_set_len _ _ _ _ hi, List.count_cons]
    by_cases h : a = i
    · subst h
      simp
      rw [← List.replicate_succ, List.replicate_succ']
    · have : ¬ (a == i) = true := by simpa using h
      simp [h]

/-- `x` is the release time of the `m`-th release event of callback `i` -/
def IsRel (i m x : ℕ) : Prop := cnt rels i x ≤ m ∧ m < cnt rels i (x + 1)

/-- queue `i` holds, in order, the release times of the instances `sb i t`, `sb i t + 1`, … of `i`;
the running instance carries its own -/
structure QueueInv (t : ℕ) : Prop where
  q : ∀ i, i < cbs.length → ∀ p x, ((St t).queue.getD i [])[p]? = some x →
    IsRel rels i (sb i t + p) x
  run : ∀ i rem r, (St t).running = some (i, rem, r) → IsRel rels i (sb i t - 1) r

theorem queueInv_zero : QueueInv cbs ex sigma rels 0 where
  q := fun i hi p x h => by
    simp [stateAt, State.init, List.getD_eq_getElem?_getD, hi] at h
  run := fun i rem r h => by simp [stateAt, State.init] at h

section queueContents
variable {cbs ex sigma rels}
variable (hex : ∀ k, k < cbs.length → ∀ t, 1 ≤ ex k t ∧ ex k t ≤ (cbs.getD k default).cost)
include hex

theorem queueInv_rel {t : ℕ} (h : QueueInv cbs ex sigma rels t) : ∀ i, i < cbs.length → ∀ p x,
    ((Rl t).queue.getD i [])[p]? = some x → IsRel rels i (sb i t + p) x := by
  intro i hi p x hx
  have h1 := inv1 (sigma := sigma) (rels := rels) hex t
  have hc : (Rl t).queue.getD i [] =
      (St t).queue.getD i [] ++ List.replicate ((rels t).count i) t :=
    addReleases_content _ _ _ _ (by rw [h1.qlen]; exact hi)
  rw [hc, List.getElem?_append] at hx
  split at hx
  · exact h.q i hi p x hx
  · rename_i hp
    rcases List.getElem?_eq_some_iff.1 hx with ⟨hlt, hv⟩
    simp only [List.getElem_replicate] at hv
    simp only [List.length_replicate] at hlt
    subst hv
    have hq := h1.q i hi
    refine ⟨by omega, ?_⟩
    show _ < cnt rels i t + (rels t).count i
    omega

theorem queueInv_keep {t : ℕ} (h : QueueInv cbs ex sigma rels t)
    (hst : ∀ c, startsCb cbs ex sigma rels t c = false)
    (hq : (St (t + 1)).queue = (Rl t).queue)
    (hrun : ∀ i rem r, (St (t + 1)).running = some (i, rem, r) →
      ∃ rem0, (St t).running = some (i, rem0, r)) :
    QueueInv cbs ex sigma rels (t + 1) := by
  have hsb : ∀ i, sb i (t + 1) = sb i t := fun i => by rw [sb_succ, hst]; simp
  refine ⟨?_, ?_⟩
  · intro i hi p x hx
    rw [hq] at hx
    rw [hsb]
    exact queueInv_rel hex h i hi p x hx
  · intro i rem r hr
    obtain ⟨rem0, h0⟩ := hrun i rem r hr
    rw [hsb]
    exact h.run i rem0 r h0

theorem queueInv_pop {t : ℕ} (h : QueueInv cbs ex sigma rels t) (i0 : ℕ)
    (hst : ∀ c, startsCb cbs ex sigma rels t c = true ↔ c = i0)
    (hi0 : i0 < cbs.length) (hq0 : 0 < ((Rl t).queue.getD i0 []).length)
    (ready' : List ℕ)
    (hnext : St (t + 1) =
      { queue := (Rl t).queue.set i0 (((Rl t).queue.getD i0 []).drop 1),
        ready := ready',
        running := if ex i0 t ≤ 1 then none else
          some (i0, ex i0 t - 1, ((Rl t).queue.getD i0 []).headD 0) }) :
    QueueInv cbs ex sigma rels (t + 1) := by
  have h1 := inv1 (sigma := sigma) (rels := rels) hex t
  have hsb : ∀ i, sb i (t + 1) = sb i t + if i = i0 then 1 else 0 := fun i => by
    rw [sb_succ]
    by_cases e : i = i0
    · rw [if_pos ((hst i).2 e), if_pos e]
    · rw [if_neg (fun hh => e ((hst i).1 hh)), if_neg e]
  have hlen : (Rl t).queue.length = cbs.length := by rw [relAt_qlen, h1.qlen]
  refine ⟨?_, ?_⟩
  · intro i hi p x hx
    rw [hnext] at hx
    simp only at hx
    rw [getD_set_len _ _ _ _ (by rw [hlen]; exact hi)] at hx
    rw [hsb]
    by_cases e : i0 = i
    · subst e
      rw [if_pos rfl, List.getElem?_drop] at hx
      have := queueInv_rel hex h i0 hi (1 + p) x hx
      simp only [if_true]
      have e2 : sb i0 t + 1 + p = sb i0 t + (1 + p) := by omega
      rw [e2]; exact this
    · rw [if_neg e] at hx
      rw [if_neg (fun hh => e hh.symm), Nat.add_zero]
      exact queueInv_rel hex h i hi p x hx
  · intro i rem r hr
    rw [hnext] at hr
    simp only at hr
    split at hr
    · cases hr
    · cases hr
      rw [hsb]
      simp only [if_true]
      have hx : ((Rl t).queue.getD i0 [])[0]? = some (((Rl t).queue.getD i0 []).headD 0) := by
        cases hl : (Rl t).queue.getD i0 [] with
        | nil => rw [hl] at hq0; simp at hq0
        | cons a l => simp
      have := queueInv_rel hex h i0 hi0 0 _ hx
      have e2 : sb i0 t + 1 - 1 = sb i0 t + 0 := by omega
      rw [e2]; exact this

theorem queueInv_succ {t : ℕ} (h : QueueInv cbs ex sigma rels t) : QueueInv cbs ex sigma rels (t + 1) := by
  have h1 := inv1 (sigma := sigma) (rels := rels) hex t
  cases hs : sigma t with
  | false =>
    obtain ⟨_, hst, _, hnext⟩ := slotA (cbs := cbs) (ex := ex) (rels := rels) hs
    exact queueInv_keep hex h hst (by rw [hnext]) (fun i rem r hr => ⟨rem, by rw [hnext] at hr; exact hr⟩)
  | true =>
    rcases hr : (Rl t).running with _ | ⟨i, rem, r⟩
    · cases hb : bestOf cbs (pendingTimers cbs (Rl t).queue) with
      | some i =>
        obtain ⟨_, hst, _, hnext⟩ := slotC hs hr hb
        have hm := (mem_pendingTimers _ _ _).1 (bestOf_mem _ _ _ hb)
        exact queueInv_pop hex h i hst hm.1 hm.2.2 _ hnext
      | none =>
        cases hb2 : bestOf cbs (readyAt cbs ex sigma rels t) with
        | some i =>
          obtain ⟨_, hst, _, hnext⟩ := slotD hs hr hb hb2
          have hm := readyAt_mem h1 i (bestOf_mem _ _ _ hb2)
          exact queueInv_pop hex h i hst hm.1 hm.2.2 _ hnext
        | none =>
          obtain ⟨_, hst, _, hnext⟩ := slotE hs hr hb hb2
          refine queueInv_keep hex h hst (by rw [hnext]) ?_
          intro i rem r hr'
          rw [hnext] at hr'
          simp only at hr'
          rw [hr] at hr'; cases hr'
    · obtain ⟨_, hst, _, hnext⟩ := slotB hs hr
      refine queueInv_keep hex h hst (by rw [hnext]) ?_
      intro i' rem' r' hr'
      rw [hnext] at hr'
      simp only at hr'
      split at hr'
      · cases hr'
      · cases hr'
        exact ⟨rem, hr⟩

theorem queueInv : ∀ t, QueueInv cbs ex sigma rels t
  | 0 => queueInv_zero cbs ex sigma rels
  | t + 1 => queueInv_succ hex (queueInv t)

end queueContents

section reportedCompletion
variable {cbs ex sigma rels H}

theorem arr_of_isRel (hfin : ∀ t, H ≤ t → rels t = []) {i m k x : ℕ} (hj : nthEventOf rels H i m = some k)
    (hx : IsRel rels i m x) : (Sy).arr k = x := by
  have h1 := job_arr rels H hfin hj x
  have h2 := job_arr rels H hfin hj (x + 1)
  have e : (Sy).arr k = ((events rels H).getD k (0, 0)).1 := rfl
  rw [e]
  obtain ⟨a, b⟩ := hx
  have := h2.2 b
  have : ¬ ((events rels H).getD k (0, 0)).1 < x := fun hh => by
    have := h1.1 hh; omega
  omega

theorem out_job (hy : ChainRefineXLemmas.HypX cbs ex [] rels H) {u i r c : ℕ}
    (h : outAt cbs ex sigma rels u = some (i, r, c)) :
    c = u + 1 ∧ ∃ k, k < (Sy).n ∧ (Sy).task k = i ∧ (Sy).arr k = r ∧ svc (Sy) k u < (Sy).cost k := by
  obtain ⟨hs, i', rem, r', hrun, hrem, e⟩ := outAt_some cbs ex sigma rels h
  cases e
  refine ⟨rfl, ?_⟩
  have h1 := inv1 (sigma := sigma) (rels := rels) hy.hexec u
  have hq := queueInv (sigma := sigma) (rels := rels) hy.hexec u
  rw [pickedAt_eq, if_pos hs] at hrun
  -- common conclusion from an index `m`
  have fin : ∀ m, i < cbs.length → IsRel rels i m r →
      (∀ k, nthEventOf rels H i m = some k → svc (Sy) k u < (Sy).cost k) →
      ∃ k, k < (Sy).n ∧ (Sy).task k = i ∧ (Sy).arr k = r ∧ svc (Sy) k u < (Sy).cost k := by
    intro m hi hx hsv
    obtain ⟨k, hj⟩ := job_some rels H i m
      (by have := cnt_le_H (rels := rels) hy.hfin i (r + 1); have := hx.2; omega)
    have hjt := job_task (cbs := cbs) (ex := ex) (sigma := sigma) hj
    exact ⟨k, hjt.1, hjt.2, arr_of_isRel hy.hfin hj hx, hsv k hj⟩
  rcases hr : (Rl u).running with _ | ⟨i0, rem0, r0⟩
  · rw [hr] at hrun
    simp only at hrun
    have pop : ∀ i0, i0 < cbs.length → 0 < ((Rl u).queue.getD i0 []).length →
        (some (i0, ex i0 u, ((Rl u).queue.getD i0 []).headD 0) : Option (ℕ × ℕ × ℕ))
          = some (i, rem, r) →
        ∃ k, k < (Sy).n ∧ (Sy).task k = i ∧ (Sy).arr k = r ∧ svc (Sy) k u < (Sy).cost k := by
      intro i0 hi0 hq0 he
      cases he
      have hx : ((Rl u).queue.getD i [])[0]? = some (((Rl u).queue.getD i []).headD 0) := by
        cases hl : (Rl u).queue.getD i [] with
        | nil => rw [hl] at hq0; simp at hq0
        | cons a l => simp
      have hrel := queueInv_rel hy.hexec hq i hi0 0 _ hx
      refine fin (sb i u) hi0 (by simpa using hrel) ?_
      intro k hj
      rcases status (sigma := sigma) hy hj u with hh | hh | hh
      · rw [hh.2]
        exact (job_cost_bounds (sigma := sigma) hy.hidx hy.hexec hj).1
      · omega
      · omega
    cases hb : bestOf cbs (pendingTimers cbs (Rl u).queue) with
    | some i0 =>
      rw [pick_timer cbs ex u _ i0 hb] at hrun
      have hm := (mem_pendingTimers _ _ _).1 (bestOf_mem _ _ _ hb)
      exact pop i0 hm.1 hm.2.2 hrun
    | none =>
      cases hb2 : bestOf cbs (readyAt cbs ex sigma rels u) with
      | some i0 =>
        rw [pick_polled cbs ex u _ i0 hb hb2] at hrun
        have hm := readyAt_mem h1 i0 (bestOf_mem _ _ _ hb2)
        exact pop i0 hm.1 hm.2.2 hrun
      | none =>
        rw [pick_none cbs ex u _ hb hb2] at hrun
        simp only at hrun
        rw [hr] at hrun; cases hrun
  · rw [hr] at hrun
    simp only at hrun
    rw [hr] at hrun
    cases hrun
    have hr' : (St u).running = some (i, rem, r) := hr
    obtain ⟨hi, hsb1, hrem1⟩ := h1.runOk i rem r hr'
    refine fin (sb i u - 1) hi (hq.run i rem r hr') ?_
    intro k hj
    rcases status (sigma := sigma) hy hj u with hh | hh | hh
    · omega
    · exact absurd hr' (hh.2.2.2 (by omega) rem r)
    · obtain ⟨_, rem', r'', hr2, h2, _, h3⟩ := hh
      omega

end reportedCompletion

end RefineXLemmas

theorem toSysX_cost_le (H : ℕ) (hidx : ∀ t, ∀ i ∈ rels t, i < cbs.length)
    (hex : ∀ k, k < cbs.length → ∀ t, 1 ≤ ex k t ∧ ex k t ≤ (cbs.getD k default).cost)
    (k : ℕ) (hk : k < (toSysX cbs ex sigma rels H).n) :
    (toSysX cbs ex sigma rels H).cost k ≤ (cbs.getD ((toSysX cbs ex sigma rels H).task k) default).cost :=
  (RefineXLemmas.costX_bounds (sigma := sigma) hex (H := H) (k := k)
    (RefineXLemmas.task_lt (ex := ex) (sigma := sigma) (H := H) hidx hk)).2

theorem toSysX_cost_pos (H : ℕ) (hidx : ∀ t, ∀ i ∈ rels t, i < cbs.length)
    (hex : ∀ k, k < cbs.length → ∀ t, 1 ≤ ex k t ∧ ex k t ≤ (cbs.getD k default).cost)
    (k : ℕ) (hk : k < (toSysX cbs ex sigma rels H).n) :
    1 ≤ (toSysX cbs ex sigma rels H).cost k :=
  (RefineXLemmas.costX_bounds (sigma := sigma) hex (H := H) (k := k)
    (RefineXLemmas.task_lt (ex := ex) (sigma := sigma) (H := H) hidx hk)).1

theorem toSysX_cost_eq (H k t : ℕ) (h1 : (toSysX cbs ex sigma rels H).sched t = some k)
    (h2 : ∀ u, u < t → (toSysX cbs ex sigma rels H).sched u ≠ some k) :
    (toSysX cbs ex sigma rels H).cost k = ex ((toSysX cbs ex sigma rels H).task k) t :=
  RefineXLemmas.costX_first h1 h2

/-- every run of the executor transition system satisfies the polling-point Spec -/
theorem run_polling_legal_x (H : ℕ)
    (hidx : ∀ t, ∀ i ∈ rels t, i < cbs.length)
    (hfin : ∀ t, H ≤ t → rels t = [])
    (hex : ∀ k, k < cbs.length → ∀ t, 1 ≤ ex k t ∧ ex k t ≤ (cbs.getD k default).cost) :
    PollingExecLegal (toSysX cbs ex sigma rels H) sigma (toInfoX cbs ex sigma rels) :=
  RefineXLemmas.polling_legal (RefineXLemmas.hypX_nil hidx hfin hex)

/-- for a timer `i` whose priority value is shared by no other timer, the timer Spec with
the timers of smaller priority value as higher-priority timers -/
theorem run_timer_legal_x (H : ℕ) (i : ℕ) (hti : (cbs.getD i default).isTimer = true)
    (hidx : ∀ t, ∀ i ∈ rels t, i < cbs.length)
    (hfin : ∀ t, H ≤ t → rels t = [])
    (hex : ∀ k, k < cbs.length → ∀ t, 1 ≤ ex k t ∧ ex k t ≤ (cbs.getD k default).cost)
    (hdist : ∀ k, k < cbs.length → k ≠ i → (cbs.getD k default).isTimer = true →
      (cbs.getD k default).prio ≠ (cbs.getD i default).prio) :
    SupplyTimerLegal (toSysX cbs ex sigma rels H) sigma i
      (fun k => (cbs.getD k default).isTimer = true ∧ (cbs.getD k default).prio < (cbs.getD i default).prio) :=
  RefineXLemmas.timer_legal (RefineXLemmas.hypX_nil hidx hfin hex) i hti hdist

open RefineXLemmas in
/-- if every job of callback `i` has received its full service (its actual execution time) within
`R` of its release, then every completion `(i, release, completion)` that `ExecX.run` reports on any
finite prefix of the supply process satisfies `completion ≤ release + R` -/
theorem run_meets_of_sys_x (cbs : List Cb) (ex : ℕ → ℕ → ℕ) (sigma : ℕ → Bool) (rels : ℕ → List ℕ) (H : ℕ)
    (hidx : ∀ t, ∀ i ∈ rels t, i < cbs.length)
    (hfin : ∀ t, H ≤ t → rels t = [])
    (hex : ∀ k, k < cbs.length → ∀ t, 1 ≤ ex k t ∧ ex k t ≤ (cbs.getD k default).cost)
    (i R : ℕ)
    (hmeets : ∀ j, j < (toSysX cbs ex sigma rels H).n → (toSysX cbs ex sigma rels H).task j = i →
      MeetsBound (toSysX cbs ex sigma rels H) j R)
    (n : ℕ) :
    ∀ o ∈ ExecX.run cbs ex (fun _ => none) ((List.range n).map sigma) rels, o.1 = i → o.2.2 ≤ o.2.1 + R := by
  intro o ho hoi
  have ho' : o ∈ run.go cbs ex (fun _ => none) rels ((List.range' 0 n).map sigma) 0
      (stateAt cbs ex sigma rels 0) := by
    rw [← List.range_eq_range']
    exact ho
  obtain ⟨u, hu⟩ := go_mem cbs ex sigma rels o n 0 ho'
  obtain ⟨i', r, c⟩ := o
  simp only at hoi
  subst hoi
  obtain ⟨hc, k, hk, hkt, hka, hsv⟩ := out_job (hypX_nil hidx hfin hex) hu
  have hm : svc (toSysX cbs ex sigma rels H) k ((toSysX cbs ex sigma rels H).arr k + R) =
      (toSysX cbs ex sigma rels H).cost k := hmeets k hk hkt
  show c ≤ r + R
  rcases Nat.lt_or_ge u ((toSysX cbs ex sigma rels H).arr k + R) with hlt | hge
  · omega
  · have := svc_mono (s := toSysX cbs ex sigma rels H) k hge
    omega

end RTA.ExecX
