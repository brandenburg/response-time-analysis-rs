import RTA.Lemmas.ExecJobs
import RTA.Lemmas.ChainSound
/-! The executor transition system WITH a linear chain `c₀ → c₁ → … → c_k` (the completion of an
instance of `c_x` releases an instance of `c_{x+1}`; only `c₀` is released externally): the run,
its job system `toSysC` — every callback instance of the chain carries as its arrival time the
arrival time of the source event of its chain instance — and what does not depend on the
execution times: the structure of the chain, the bookkeeping invariant `Good` of a state and how
the operations of a slot preserve it, the numbering `jobC` of the jobs. -/

open Finset

namespace RTA.Exec
open RTA RTA.Sched

variable (cbs : List Cb) (ch : List ℕ) (sigma : ℕ → Bool) (rels : ℕ → List ℕ)

/-- the `chain` function of the transition system for the linear chain `ch = [c₀, …, c_k]` -/
def chainFn (i : ℕ) : Option ℕ :=
  match ch.findIdx? (· = i) with
  | some x => ch[x + 1]?
  | none => none

/-- the state at the beginning of slot `t` -/
def stateAtC : ℕ → State
  | 0 => State.init cbs.length
  | t + 1 => (step cbs (chainFn ch) t (sigma t) (rels t) (stateAtC t)).1

/-- state of slot `t` after recording the releases and picking -/
def pickedAtC (t : ℕ) : State :=
  let s1 := { stateAtC cbs ch sigma rels t with
    queue := addReleases (stateAtC cbs ch sigma rels t).queue (rels t) t }
  if !sigma t then s1 else
  match s1.running with
  | some _ => s1
  | none => pick cbs s1

def servedCbC (t : ℕ) : Option ℕ :=
  if !sigma t then none else (pickedAtC cbs ch sigma rels t).running.map (·.1)

def startsCbC (t i : ℕ) : Bool :=
  sigma t && (({ stateAtC cbs ch sigma rels t with
      queue := addReleases (stateAtC cbs ch sigma rels t).queue (rels t) t } : State).running.isNone) &&
    (servedCbC cbs ch sigma rels t == some i)

def startedBeforeC (i : ℕ) : ℕ → ℕ
  | 0 => 0
  | t + 1 => startedBeforeC i t + (if startsCbC cbs ch sigma rels t i then 1 else 0)

/-- number of source events (external releases of `c₀`) before `H` -/
def nSrc (H : ℕ) : ℕ := ((events rels H).filter fun e => some e.2 = ch.head?).length

/-- the jobs of a run with a chain: first the external release events, then,
for every later stage `x = 1 … k` of the chain and every source event `m`, the instance of
`c_x` that belongs to the `m`-th chain instance.  Every job of the chain carries the arrival
time of its source event. -/
def toSysC (H : ℕ) : Sys where
  n := (events rels H).length + (ch.length - 1) * nSrc ch rels H
  task := fun k =>
    if k < (events rels H).length then ((events rels H).getD k (0, 0)).2
    else ch.getD ((k - (events rels H).length) / nSrc ch rels H + 1) 0
  arr := fun k =>
    if k < (events rels H).length then ((events rels H).getD k (0, 0)).1
    else
      match nthEventOf rels H (ch.headD 0) ((k - (events rels H).length) % nSrc ch rels H) with
      | some e => ((events rels H).getD e (0, 0)).1
      | none => 0
  cost := fun k =>
    (cbs.getD (if k < (events rels H).length then ((events rels H).getD k (0, 0)).2
               else ch.getD ((k - (events rels H).length) / nSrc ch rels H + 1) 0) default).cost
  np := fun _ _ => False
  sched := fun t =>
    match servedCbC cbs ch sigma rels t with
    | none => none
    | some i =>
      let m0 := startedBeforeC cbs ch sigma rels i t
      let m := if startsCbC cbs ch sigma rels t i then m0 else m0 - 1
      match ch.findIdx? (· = i) with
      | some (x + 1) => some ((events rels H).length + x * nSrc ch rels H + m)
      | _ => nthEventOf rels H i m

/-- the release times of callback `i` in time order (releases before `H`) -/
def relTimes (rels : ℕ → List ℕ) (H i : ℕ) : List ℕ :=
  ((events rels H).filter fun e => e.2 = i).map (·.1)

/-- the completions of callback `l` that a run reports, in the order reported -/
def completionsOf (outs : List (ℕ × ℕ × ℕ)) (l : ℕ) : List ℕ :=
  (outs.filter fun o => o.1 = l).map (·.2.2)

namespace ChainRefineLemmas
open RefineLemmas

section chain
variable (ch : List ℕ)

def cAt (x : ℕ) : ℕ := ch.getD x 0

theorem cAt_eq {x : ℕ} (hx : x < ch.length) : cAt ch x = ch[x] := by
  simp [cAt, List.getD_eq_getElem?_getD, List.getElem?_eq_getElem hx]

theorem idx_some {i x : ℕ} (h : ch.findIdx? (· = i) = some x) : x < ch.length ∧ cAt ch x = i := by
  rw [List.findIdx?_eq_some_iff_getElem] at h
  obtain ⟨hx, h1, _⟩ := h
  exact ⟨hx, by rw [cAt_eq ch hx]; simpa using h1⟩

theorem idx_none {i : ℕ} (h : ch.findIdx? (· = i) = none) : i ∉ ch := by
  rw [List.findIdx?_eq_none_iff] at h
  intro hi
  simpa using h i hi

variable {ch}

theorem idx_cAt (hnd : ch.Nodup) {x : ℕ} (hx : x < ch.length) :
    ch.findIdx? (· = cAt ch x) = some x := by
  rw [List.findIdx?_eq_some_iff_getElem]
  refine ⟨hx, by simp [cAt_eq ch hx], ?_⟩
  intro j hj
  rw [cAt_eq ch hx]
  have : ch[j] ≠ ch[x] := fun e => by
    have := (hnd.getElem_inj_iff (hi := by omega) (hj := hx)).1 e
    omega
  simpa using this

theorem cAt_inj (hnd : ch.Nodup) {x y : ℕ} (hx : x < ch.length) (hy : y < ch.length)
    (h : cAt ch x = cAt ch y) : x = y := by
  rw [cAt_eq ch hx, cAt_eq ch hy] at h
  exact (hnd.getElem_inj_iff).1 h

theorem cAt_mem {x : ℕ} (hx : x < ch.length) : cAt ch x ∈ ch := by
  rw [cAt_eq ch hx]; exact List.getElem_mem _

theorem mem_ch {i : ℕ} : i ∈ ch ↔ ∃ x, x < ch.length ∧ i = cAt ch x := by
  rw [List.mem_iff_getElem]
  constructor
  · rintro ⟨x, hx, e⟩; exact ⟨x, hx, by rw [cAt_eq ch hx, e]⟩
  · rintro ⟨x, hx, e⟩; exact ⟨x, hx, by rw [e, cAt_eq ch hx]⟩

theorem mem_tail {i : ℕ} : i ∈ ch.tail ↔ ∃ x, x + 1 < ch.length ∧ i = cAt ch (x + 1) := by
  rw [List.mem_iff_getElem]
  constructor
  · rintro ⟨x, hx, e⟩
    have hx' : x + 1 < ch.length := by simp at hx; omega
    exact ⟨x, hx', by rw [cAt_eq ch hx', ← e, List.getElem_tail]⟩
  · rintro ⟨x, hx, e⟩
    have hx' : x < ch.tail.length := by simp; omega
    exact ⟨x, hx', by rw [e, cAt_eq ch hx, List.getElem_tail]⟩

theorem head_not_tail (hnd : ch.Nodup) (h0 : 0 < ch.length) : cAt ch 0 ∉ ch.tail := by
  rw [mem_tail]
  rintro ⟨x, hx, e⟩
  have := cAt_inj hnd h0 hx e
  omega

theorem chainFn_cAt (hnd : ch.Nodup) {x : ℕ} (hx : x + 1 < ch.length) :
    chainFn ch (cAt ch x) = some (cAt ch (x + 1)) := by
  unfold chainFn
  rw [idx_cAt hnd (by omega)]
  simp only
  rw [cAt_eq ch hx, List.getElem?_eq_getElem hx]

theorem chainFn_some {i j : ℕ} (h : chainFn ch i = some j) :
    ∃ x, x + 1 < ch.length ∧ i = cAt ch x ∧ j = cAt ch (x + 1) := by
  unfold chainFn at h
  split at h
  · rename_i x hx
    obtain ⟨h1, h2⟩ := List.getElem?_eq_some_iff.1 h
    exact ⟨x, h1, (idx_some ch hx).2.symm, by rw [cAt_eq ch h1, h2]⟩
  · cases h

theorem chainFn_iff (hnd : ch.Nodup) {i x : ℕ} (hx : x + 1 < ch.length) :
    chainFn ch i = some (cAt ch (x + 1)) ↔ i = cAt ch x := by
  constructor
  · intro h
    obtain ⟨y, hy, e1, e2⟩ := chainFn_some h
    have := cAt_inj hnd hx hy e2
    have : x = y := by omega
    subst this; exact e1
  · intro e; subst e; exact chainFn_cAt hnd hx

theorem chainFn_tail {i j : ℕ} (h : chainFn ch i = some j) : j ∈ ch.tail := by
  obtain ⟨y, hy, _, e2⟩ := chainFn_some h
  exact mem_tail.2 ⟨y, hy, e2⟩

end chain

section slotEnd
variable (cbs : List Cb) (ch : List ℕ) (sigma : ℕ → Bool) (rels : ℕ → List ℕ)

/-- the queues after the completion of an instance of `i` at the end of slot `t` -/
def chq (i : ℕ) (q : List (List ℕ)) (t : ℕ) : List (List ℕ) :=
  match chainFn ch i with
  | some j => addReleases q [j] (t + 1)
  | none => q

/-- the end of a supplied slot -/
def fin (t : ℕ) (s2 : State) : State :=
  match s2.running with
  | none => s2
  | some (i, rem, r) =>
    if rem ≤ 1 then { s2 with queue := chq ch i s2.queue t, running := none }
    else { s2 with running := some (i, rem - 1, r) }

theorem fin_aux (t : ℕ) (s2 : State) :
    (match s2.running with
      | none => ((s2, none) : State × Option (ℕ × ℕ × ℕ))
      | some (i, rem, r) =>
        if rem ≤ 1 then
          let q := match chainFn ch i with
            | some j => addReleases s2.queue [j] (t + 1)
            | none => s2.queue
          ({ s2 with queue := q, running := none }, some (i, r, t + 1))
        else ({ s2 with running := some (i, rem - 1, r) }, none)).1 = fin ch t s2 := by
  unfold fin
  rcases s2.running with _ | ⟨i, rem, r⟩
  · rfl
  · simp only
    split <;> rfl

theorem fin_running (t : ℕ) (s2 : State) : (fin ch t s2).running =
    match s2.running with
    | none => none
    | some (i, rem, r) => if rem ≤ 1 then none else some (i, rem - 1, r) := by
  unfold fin
  rcases h : s2.running with _ | ⟨i, rem, r⟩
  · simp [h]
  · simp only
    split <;> rfl

theorem fin_ready (t : ℕ) (s2 : State) : (fin ch t s2).ready = s2.ready := by
  unfold fin
  rcases h : s2.running with _ | ⟨i, rem, r⟩
  · rfl
  · simp only
    split <;> rfl

theorem chq_length (i : ℕ) (q : List (List ℕ)) (t : ℕ) : (chq ch i q t).length = q.length := by
  unfold chq
  split
  · exact addReleases_length _ _ _
  · rfl

theorem chq_getD (i : ℕ) (q : List (List ℕ)) (t j : ℕ) (hj : j < q.length) :
    ((chq ch i q t).getD j []).length =
      (q.getD j []).length + if chainFn ch i = some j then 1 else 0 := by
  unfold chq
  split
  · rename_i j' hj'
    rw [addReleases_getD _ _ _ _ hj]
    by_cases e : j' = j
    · subst e; simp [hj']
    · simp [e, hj']
  · rename_i h; simp [h]

end slotEnd

section bookkeeping
variable (cbs : List Cb) (ch : List ℕ)

/-- the bookkeeping invariant of a state: `started i` = instances of `i` started so far, `cn i` =
external releases of `i` recorded so far -/
structure Good (s : State) (started cn : ℕ → ℕ) : Prop where
  qlen : s.queue.length = cbs.length
  qExt : ∀ i, i < cbs.length → i ∉ ch.tail → (s.queue.getD i []).length + started i = cn i
  qCh : ∀ x, x + 1 < ch.length →
    (s.queue.getD (cAt ch (x + 1)) []).length + started (cAt ch (x + 1)) +
      (if s.running.map (·.1) = some (cAt ch x) then 1 else 0) = started (cAt ch x)
  runOk : ∀ i rem r, s.running = some (i, rem, r) → i < cbs.length ∧ 1 ≤ started i ∧ 1 ≤ rem
  rNodup : s.ready.Nodup
  rPolled : ∀ c ∈ s.ready, c < cbs.length ∧ (cbs.getD c default).isTimer = false
  rPend : ∀ c ∈ s.ready, 0 < (s.queue.getD c []).length

variable {cbs ch}

theorem Good.congr {s : State} {started cn started' cn' : ℕ → ℕ} (g : Good cbs ch s started cn)
    (h1 : ∀ i, started' i = started i) (h2 : ∀ i, cn' i = cn i) : Good cbs ch s started' cn' := by
  have e1 : started' = started := funext h1
  have e2 : cn' = cn := funext h2
  rw [e1, e2]; exact g

variable (hmem : ∀ i ∈ ch, i < cbs.length)
include hmem

theorem good_rel {s : State} {started cn : ℕ → ℕ} (g : Good cbs ch s started cn) (rel : List ℕ) (t : ℕ)
    (hext : ∀ i ∈ rel, i ∉ ch.tail) :
    Good cbs ch { s with queue := addReleases s.queue rel t } started (fun i => cn i + rel.count i) := by
  have hget : ∀ i, i < cbs.length → ((addReleases s.queue rel t).getD i []).length =
      (s.queue.getD i []).length + rel.count i := fun i hi =>
    addReleases_getD _ _ _ _ (by rw [g.qlen]; exact hi)
  refine ⟨by simp only [addReleases_length]; exact g.qlen, ?_, ?_, g.runOk, g.rNodup, g.rPolled, ?_⟩
  · intro i hi hnt
    simp only
    rw [hget i hi]
    have := g.qExt i hi hnt
    omega
  · intro x hx
    have hi := hmem _ (cAt_mem hx)
    have hc : rel.count (cAt ch (x + 1)) = 0 :=
      List.count_eq_zero.2 (fun hin => hext _ hin (mem_tail.2 ⟨x, hx, rfl⟩))
    simp only
    rw [hget _ hi, hc]
    exact g.qCh x hx
  · intro c hc
    simp only
    rw [hget c (g.rPolled c hc).1]
    have := g.rPend c hc
    omega

omit hmem in
theorem good_ready {s : State} {started cn : ℕ → ℕ} (g : Good cbs ch s started cn) (ready' : List ℕ)
    (hnd : ready'.Nodup)
    (hr : ∀ c ∈ ready', c < cbs.length ∧ (cbs.getD c default).isTimer = false ∧
      0 < (s.queue.getD c []).length) :
    Good cbs ch { s with ready := ready' } started cn :=
  ⟨g.qlen, g.qExt, g.qCh, g.runOk, hnd, fun c hc => ⟨(hr c hc).1, (hr c hc).2.1⟩,
    fun c hc => (hr c hc).2.2⟩

theorem good_pop {s : State} {started cn : ℕ → ℕ} (g : Good cbs ch s started cn) (hrun : s.running = none)
    (i0 : ℕ) (hi0 : i0 < cbs.length) (hq0 : 0 < (s.queue.getD i0 []).length)
    (ready' : List ℕ) (rem0 r0 : ℕ) (hrem : 1 ≤ rem0) (hnd : ready'.Nodup)
    (hready : ∀ c ∈ ready', c ≠ i0 ∧ c < cbs.length ∧ (cbs.getD c default).isTimer = false ∧
      0 < (s.queue.getD c []).length) :
    Good cbs ch { queue := s.queue.set i0 ((s.queue.getD i0 []).drop 1), ready := ready',
                  running := some (i0, rem0, r0) }
      (fun i => started i + if i = i0 then 1 else 0) cn := by
  have hget : ∀ j, j < cbs.length →
      ((s.queue.set i0 ((s.queue.getD i0 []).drop 1)).getD j []).length =
        (s.queue.getD j []).length - if j = i0 then 1 else 0 := by
    intro j hj
    rw [getD_set_len _ _ _ _ (by rw [g.qlen]; exact hj)]
    by_cases e : i0 = j
    · subst e; simp
    · rw [if_neg e, if_neg (fun hh => e hh.symm)]; rfl
  refine ⟨by simpa using g.qlen, ?_, ?_, ?_, hnd, ?_, ?_⟩
  · intro i hi hnt
    simp only
    rw [hget i hi]
    have := g.qExt i hi hnt
    by_cases e : i = i0
    · subst e; simp only [if_true] at *; omega
    · simp only [if_neg e]; omega
  · intro x hx
    have ha := hmem _ (cAt_mem hx)
    have h0 := g.qCh x hx
    rw [hrun] at h0
    simp only [Option.map_none] at h0
    rw [if_neg (by simp)] at h0
    simp only [Option.map_some, Option.some.injEq, eq_comm (a := i0)]
    rw [hget _ ha]
    -- on both sides: 1 if the instance that starts is one of `cAt ch x`
    generalize (if cAt ch x = i0 then 1 else 0) = b
    by_cases e1 : cAt ch (x + 1) = i0
    · rw [if_pos e1]; rw [e1] at h0 ⊢; omega
    · rw [if_neg e1]; omega
  · intro i rem r hr
    cases hr
    simp only [if_true]
    exact ⟨hi0, by omega, hrem⟩
  · intro c hc
    have := hready c hc
    exact ⟨this.2.1, this.2.2.1⟩
  · intro c hc
    have := hready c hc
    simp only
    rw [hget c this.2.1, if_neg this.1]
    exact this.2.2.2

theorem good_fin (hnd : ch.Nodup) {s : State} {started cn : ℕ → ℕ} (g : Good cbs ch s started cn) (t : ℕ) :
    Good cbs ch (fin ch t s) started cn := by
  unfold fin
  rcases hr : s.running with _ | ⟨i, rem, r⟩
  · exact g
  · simp only
    have hok := g.runOk i rem r hr
    split
    · have hget : ∀ j, j < cbs.length → ((chq ch i s.queue t).getD j []).length =
          (s.queue.getD j []).length + if chainFn ch i = some j then 1 else 0 := fun j hj =>
        chq_getD ch i s.queue t j (by rw [g.qlen]; exact hj)
      refine ⟨by simp only [chq_length]; exact g.qlen, ?_, ?_, ?_, g.rNodup, g.rPolled, ?_⟩
      · intro j hj hnt
        simp only
        rw [hget j hj, if_neg (fun h => hnt (chainFn_tail h))]
        exact g.qExt j hj hnt
      · intro x hx
        have ha := hmem _ (cAt_mem hx)
        have h0 := g.qCh x hx
        rw [hr] at h0
        simp only [Option.map_some, Option.some.injEq] at h0
        simp only [Option.map_none]
        rw [hget _ ha, if_neg (show ¬ (none : Option ℕ) = some (cAt ch x) by simp)]
        by_cases e : i = cAt ch x
        · rw [if_pos ((chainFn_iff hnd hx).2 e)]; rw [if_pos e] at h0; omega
        · rw [if_neg (fun h => e ((chainFn_iff hnd hx).1 h))]; rw [if_neg e] at h0; omega
      · intro i' rem' r' h; cases h
      · intro c hc
        simp only
        rw [hget c (g.rPolled c hc).1]
        have := g.rPend c hc
        omega
    · refine ⟨g.qlen, g.qExt, ?_, ?_, g.rNodup, g.rPolled, g.rPend⟩
      · intro x hx
        have h0 := g.qCh x hx
        rw [hr] at h0
        exact h0
      · intro i' rem' r' h
        cases h
        exact ⟨hok.1, hok.2.1, by omega⟩

end bookkeeping

section readySet
variable {cbs : List Cb} {ch : List ℕ}

theorem good_rdy_nodup {s : State} {started cn : ℕ → ℕ} (g : Good cbs ch s started cn) :
    (if s.ready.isEmpty then pendingPolled cbs s.queue else s.ready).Nodup := by
  split
  · exact nodup_pendingPolled _ _
  · exact g.rNodup

theorem good_rdy_mem {s : State} {started cn : ℕ → ℕ} (g : Good cbs ch s started cn) :
    ∀ c ∈ (if s.ready.isEmpty then pendingPolled cbs s.queue else s.ready),
      c < cbs.length ∧ (cbs.getD c default).isTimer = false ∧ 0 < (s.queue.getD c []).length := by
  intro c hc
  split at hc
  · exact (mem_pendingPolled _ _ _).1 hc
  · exact ⟨(g.rPolled c hc).1, (g.rPolled c hc).2, g.rPend c hc⟩

theorem getD_replicate_nil (n i : ℕ) : ((List.replicate n ([] : List ℕ))[i]?).getD [] = [] := by
  rw [List.getElem?_replicate]; split <;> rfl

end readySet

section startedAlongChain
variable {cbs : List Cb} {ch : List ℕ}

/-- the callback whose external releases feed callback `i` -/
def src (ch : List ℕ) (i : ℕ) : ℕ := if i ∈ ch then ch.headD 0 else i

theorem headD_eq (ch : List ℕ) : ch.headD 0 = cAt ch 0 := by
  cases ch <;> rfl

variable (hnd : ch.Nodup) (hmem : ∀ i ∈ ch, i < cbs.length)
variable {s : State} {started cn : ℕ → ℕ} (g : Good cbs ch s started cn)
include hnd hmem g

theorem chain_le : ∀ x, x < ch.length → started (cAt ch x) ≤ cn (cAt ch 0) := by
  intro x
  induction x with
  | zero =>
    intro hx
    have := g.qExt _ (hmem _ (cAt_mem hx)) (head_not_tail hnd hx)
    omega
  | succ x ih =>
    intro hx
    have := g.qCh x hx
    have := ih (by omega)
    omega

theorem chain_lt {x : ℕ} (hx : x < ch.length) (hq : 0 < (s.queue.getD (cAt ch x) []).length) :
    started (cAt ch x) < cn (cAt ch 0) := by
  cases x with
  | zero =>
    have := g.qExt _ (hmem _ (cAt_mem hx)) (head_not_tail hnd hx)
    omega
  | succ x =>
    have := g.qCh x hx
    have := chain_le hnd hmem g x (by omega)
    omega

theorem chain_eq (hrun : s.running = none)
    (hq : ∀ x, x < ch.length → (s.queue.getD (cAt ch x) []).length = 0) :
    ∀ x, x < ch.length → started (cAt ch x) = cn (cAt ch 0) := by
  intro x
  induction x with
  | zero =>
    intro hx
    have := g.qExt _ (hmem _ (cAt_mem hx)) (head_not_tail hnd hx)
    have := hq 0 hx
    omega
  | succ x ih =>
    intro hx
    have h0 := g.qCh x hx
    rw [hrun] at h0
    simp only [Option.map_none] at h0
    rw [if_neg (by simp)] at h0
    have := ih (by omega)
    have := hq (x + 1) hx
    omega

theorem sb_le_src {i : ℕ} (hi : i < cbs.length) : started i ≤ cn (src ch i) := by
  unfold src
  split
  · rename_i h
    obtain ⟨x, hx, e⟩ := mem_ch.1 h
    rw [e, headD_eq]; exact chain_le hnd hmem g x hx
  · rename_i h
    have := g.qExt i hi (fun h' => h (List.mem_of_mem_tail h'))
    omega

theorem sb_lt_src {i : ℕ} (hi : i < cbs.length) (hq : 0 < (s.queue.getD i []).length) :
    started i < cn (src ch i) := by
  unfold src
  split
  · rename_i h
    obtain ⟨x, hx, e⟩ := mem_ch.1 h
    rw [e, headD_eq]; rw [e] at hq; exact chain_lt hnd hmem g hx hq
  · rename_i h
    have := g.qExt i hi (fun h' => h (List.mem_of_mem_tail h'))
    omega

theorem sb_eq_src (hrun : s.running = none)
    (hq : ∀ j, j < cbs.length → (s.queue.getD j []).length = 0) {i : ℕ} (hi : i < cbs.length) :
    started i = cn (src ch i) := by
  unfold src
  split
  · rename_i h
    obtain ⟨x, hx, e⟩ := mem_ch.1 h
    rw [e, headD_eq]
    exact chain_eq hnd hmem g hrun (fun y hy => hq _ (hmem _ (cAt_mem hy))) x hx
  · rename_i h
    have := g.qExt i hi (fun h' => h (List.mem_of_mem_tail h'))
    have := hq i hi
    omega

end startedAlongChain

section jobs
variable (cbs : List Cb) (ch : List ℕ) (sigma : ℕ → Bool) (rels : ℕ → List ℕ) (H : ℕ)

/-- the job that is the `m`-th instance of callback `i` -/
def jobC (i m : ℕ) : Option ℕ :=
  match ch.findIdx? (· = i) with
  | some (x + 1) =>
    if m < nSrc ch rels H then some ((events rels H).length + x * nSrc ch rels H + m) else none
  | _ => nthEventOf rels H i m

variable {cbs ch sigma rels H}

theorem src_of_not_tail {i : ℕ} (h : i ∉ ch.tail) : src ch i = i := by
  unfold src
  split
  · rename_i hm
    cases ch with
    | nil => cases hm
    | cons a l =>
      rcases List.mem_cons.1 hm with e | e
      · rw [e]; rfl
      · exact absurd e h
  · rfl

theorem src_of_tail {i : ℕ} (h : i ∈ ch.tail) : src ch i = cAt ch 0 := by
  unfold src
  rw [if_pos (List.mem_of_mem_tail h), headD_eq]

theorem nSrc_eq (hne : 0 < ch.length) : nSrc ch rels H = cnt rels (cAt ch 0) H := by
  unfold nSrc
  rw [← countP_events, ← List.countP_eq_length_filter]
  apply List.countP_congr
  intro e _
  cases ch with
  | nil => simp at hne
  | cons a l => simp [cAt]

theorem jobC_ext {i : ℕ} (hi : i ∉ ch.tail) (m : ℕ) : jobC ch rels H i m = nthEventOf rels H i m := by
  unfold jobC
  split
  · rename_i x hx
    have := idx_some ch hx
    exact absurd (mem_tail.2 ⟨x, this.1, this.2.symm⟩) hi
  · rfl

theorem jobC_stage (hnd : ch.Nodup) {x : ℕ} (hx : x + 1 < ch.length) (m : ℕ) :
    jobC ch rels H (cAt ch (x + 1)) m =
      if m < nSrc ch rels H then some ((events rels H).length + x * nSrc ch rels H + m) else none := by
  unfold jobC
  rw [idx_cAt hnd hx]

theorem ext_facts {k : ℕ} (hk : k < (events rels H).length) :
    (toSysC cbs ch sigma rels H).task k = ((events rels H).getD k (0, 0)).2 ∧ (toSysC cbs ch sigma rels H).arr k = ((events rels H).getD k (0, 0)).1 := by
  constructor
  · show (if _ then _ else _) = _
    rw [if_pos hk]
  · show (if _ then _ else _) = _
    rw [if_pos hk]

theorem stage_index {E M x m : ℕ} (hm : m < M) :
    ¬ E + x * M + m < E ∧ (E + x * M + m - E) / M = x ∧ (E + x * M + m - E) % M = m := by
  have hsub : E + x * M + m - E = M * x + m := by rw [Nat.mul_comm]; omega
  rw [hsub, Nat.mul_add_div (by omega), Nat.div_eq_of_lt hm, Nat.mul_add_mod, Nat.mod_eq_of_lt hm]
  exact ⟨by omega, rfl, rfl⟩

theorem stage_facts (hfin : ∀ t, H ≤ t → rels t = []) {x m : ℕ} (hx : x + 1 < ch.length)
    (hm : m < nSrc ch rels H) :
    (events rels H).length + x * nSrc ch rels H + m < (toSysC cbs ch sigma rels H).n ∧
    (toSysC cbs ch sigma rels H).task ((events rels H).length + x * nSrc ch rels H + m) = cAt ch (x + 1) ∧
    ∀ t, (toSysC cbs ch sigma rels H).arr ((events rels H).length + x * nSrc ch rels H + m) ≤ t ↔
      m < cnt rels (cAt ch 0) (t + 1) := by
  obtain ⟨hnot, hdiv, hmod⟩ := stage_index (E := (events rels H).length) (x := x) hm
  refine ⟨?_, ?_, ?_⟩
  · show _ < (events rels H).length + (ch.length - 1) * nSrc ch rels H
    have h1 : (x + 1) * nSrc ch rels H ≤ (ch.length - 1) * nSrc ch rels H :=
      Nat.mul_le_mul_right _ (by omega)
    rw [Nat.succ_mul] at h1
    omega
  · show (if _ then _ else ch.getD (_ / nSrc ch rels H + 1) 0) = _
    rw [if_neg hnot, hdiv]; rfl
  · intro t
    have hm' : m < cnt rels (ch.headD 0) H := by
      rw [headD_eq, ← nSrc_eq (by omega)]; exact hm
    obtain ⟨e, he⟩ := job_some rels H (ch.headD 0) m hm'
    have : (toSysC cbs ch sigma rels H).arr ((events rels H).length + x * nSrc ch rels H + m) =
        ((events rels H).getD e (0, 0)).1 := by
      show (if _ then _ else (match nthEventOf rels H (ch.headD 0) (_ % nSrc ch rels H) with
        | some e => ((events rels H).getD e (0, 0)).1
        | none => 0)) = _
      rw [if_neg hnot, hmod, he]
    rw [this, ← headD_eq, ← job_arr rels H hfin he (t + 1)]
    omega

variable (hnd : ch.Nodup) (hfin : ∀ t, H ≤ t → rels t = [])

include hnd hfin in
theorem jobC_facts {i m k : ℕ} (hj : jobC ch rels H i m = some k) :
    k < (toSysC cbs ch sigma rels H).n ∧ (toSysC cbs ch sigma rels H).task k = i ∧ ∀ t, (toSysC cbs ch sigma rels H).arr k ≤ t ↔ m < cnt rels (src ch i) (t + 1) := by
  by_cases hi : i ∈ ch.tail
  · obtain ⟨x, hx, e⟩ := mem_tail.1 hi
    subst e
    rw [jobC_stage hnd hx] at hj
    split at hj
    · rename_i hm
      cases hj
      rw [src_of_tail hi]
      exact stage_facts hfin hx hm
    · cases hj
  · rw [jobC_ext hi] at hj
    have h := (job_iff rels H i m k).1 hj
    have hf := ext_facts (cbs := cbs) (ch := ch) (sigma := sigma) h.1
    refine ⟨Nat.lt_of_lt_of_le h.1 (Nat.le_add_right _ _), by rw [hf.1]; exact h.2.1, ?_⟩
    intro t
    rw [src_of_not_tail hi, hf.2, ← job_arr rels H hfin hj (t + 1)]
    omega

include hnd hfin in
theorem jobC_inj {i m k i' m' : ℕ} (h : jobC ch rels H i m = some k)
    (h' : jobC ch rels H i' m' = some k) : i = i' ∧ m = m' := by
  -- the callback of a job of `toSysC` does not depend on the table or the supply: any instance serves
  have e : i = i' := by
    rw [← (jobC_facts (cbs := []) (sigma := fun _ => false) hnd hfin h).2.1,
      (jobC_facts (cbs := []) (sigma := fun _ => false) hnd hfin h').2.1]
  subst e
  refine ⟨rfl, ?_⟩
  by_cases hi : i ∈ ch.tail
  · obtain ⟨x, hx, e⟩ := mem_tail.1 hi
    subst e
    rw [jobC_stage hnd hx] at h h'
    split at h
    · split at h'
      · cases h; simp only [Option.some.injEq] at h'; omega
      · cases h'
    · cases h
  · rw [jobC_ext hi] at h h'
    exact (job_inj rels h h').2

include hnd in
theorem jobC_some {i m : ℕ} (hm : m < cnt rels (src ch i) H) : ∃ k, jobC ch rels H i m = some k := by
  by_cases hi : i ∈ ch.tail
  · obtain ⟨x, hx, e⟩ := mem_tail.1 hi
    subst e
    rw [src_of_tail hi, ← nSrc_eq (by omega)] at hm
    rw [jobC_stage hnd hx, if_pos hm]
    exact ⟨_, rfl⟩
  · rw [src_of_not_tail hi] at hm
    rw [jobC_ext hi]
    exact job_some rels H i m hm

include hnd in
theorem jobC_exists (hmem : ∀ i ∈ ch, i < cbs.length) (hidx : ∀ t, ∀ i ∈ rels t, i < cbs.length)
    (hext : ∀ t, ∀ i ∈ rels t, i ∉ ch.tail) {k : ℕ} (hk : k < (toSysC cbs ch sigma rels H).n) :
    ∃ i m, i < cbs.length ∧ jobC ch rels H i m = some k := by
  have hk' : k < (events rels H).length + (ch.length - 1) * nSrc ch rels H := hk
  rcases Nat.lt_or_ge k (events rels H).length with hlt | hge
  · have hev := events_getD rels hlt
    obtain ⟨m, hm⟩ := job_exists rels H k hlt
    exact ⟨((events rels H).getD k (0, 0)).2, m, hidx _ _ hev, by rw [jobC_ext (hext _ _ hev)]; exact hm⟩
  · have hM : 0 < nSrc ch rels H := by
      rcases Nat.eq_zero_or_pos (nSrc ch rels H) with h0 | h0
      · rw [h0] at hk'; omega
      · exact h0
    have hd : k - (events rels H).length < nSrc ch rels H * (ch.length - 1) := by
      rw [Nat.mul_comm]; omega
    have hx : (k - (events rels H).length) / nSrc ch rels H < ch.length - 1 :=
      Nat.div_lt_of_lt_mul hd
    have hx' : (k - (events rels H).length) / nSrc ch rels H + 1 < ch.length :=
      Nat.add_lt_of_lt_sub hx
    have hmod := Nat.mod_lt (k - (events rels H).length) hM
    refine ⟨cAt ch ((k - (events rels H).length) / nSrc ch rels H + 1),
      (k - (events rels H).length) % nSrc ch rels H, hmem _ (cAt_mem hx'), ?_⟩
    rw [jobC_stage hnd hx', if_pos hmod]
    have := Nat.div_add_mod (k - (events rels H).length) (nSrc ch rels H)
    rw [Nat.mul_comm] at this
    congr 1
    omega

end jobs

theorem filter_map_getD {α β} (l : List α) (p : α → Bool) (f : α → β) (d : α) :
    (l.filter p).map f =
      ((List.range l.length).filter (fun k => p (l.getD k d))).map (fun k => f (l.getD k d)) := by
  induction l with
  | nil => simp
  | cons a l ih =>
    rw [List.length_cons, List.range_succ_eq_map, List.filter_cons, List.filter_cons, List.filter_map]
    have e0 : (a :: l).getD 0 d = a := rfl
    rw [e0]
    have e1 : (List.filter p l).map f = List.map (fun k => f ((a :: l).getD k d)) (List.map Nat.succ
        (List.filter ((fun k => p ((a :: l).getD k d)) ∘ Nat.succ) (List.range l.length))) := by
      rw [List.map_map]; exact ih
    cases p a
    · simpa using e1
    · simp only [if_true, List.map_cons, e0, e1]

theorem relTimes_get (rels : ℕ → List ℕ) (H i m e : ℕ) (h : nthEventOf rels H i m = some e) :
    (relTimes rels H i)[m]? = some ((events rels H).getD e (0, 0)).1 := by
  unfold relTimes
  rw [filter_map_getD (events rels H) (fun e => decide (e.2 = i)) (·.1) (0, 0), List.getElem?_map]
  have h' : ((List.range (events rels H).length).filter
      fun k => decide (((events rels H).getD k (0, 0)).2 = i))[m]? = some e := h
  rw [h']
  rfl

theorem relTimes_length (rels : ℕ → List ℕ) (H i : ℕ) :
    (relTimes rels H i).length = cnt rels i H := by
  unfold relTimes
  rw [List.length_map, ← countP_events, List.countP_eq_length_filter]

variable (ch : List ℕ) in
theorem fin_out (t : ℕ) (s2 : State) :
    (match s2.running with
      | none => ((s2, none) : State × Option (ℕ × ℕ × ℕ))
      | some (i, rem, r) =>
        if rem ≤ 1 then
          let q := match chainFn ch i with
            | some j => addReleases s2.queue [j] (t + 1)
            | none => s2.queue
          ({ s2 with queue := q, running := none }, some (i, r, t + 1))
        else ({ s2 with running := some (i, rem - 1, r) }, none)).2 =
    match s2.running with
    | none => none
    | some (i, rem, r) => if rem ≤ 1 then some (i, r, t + 1) else none := by
  rcases s2.running with _ | ⟨i, rem, r⟩
  · rfl
  · simp only
    split <;> rfl

end ChainRefineLemmas

end RTA.Exec
