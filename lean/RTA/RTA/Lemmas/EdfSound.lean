import RTA.Lemmas.PruneEDF
import RTA.Lemmas.JlfpSound
/-! C02: from the result of the EDF analyses to "every job of the task under analysis
completes within `R` of its release", for every legal EDF schedule. -/

open Finset Classical

namespace RTA.Sched
open RTA RTA.Spec RTA.Sched.J

/-- job-level priority order of EDF: earlier-or-equal absolute deadline (`Dl` = relative
deadline of a task); jobs with equal absolute deadlines are mutually `hep`, so ties may be
broken arbitrarily by the schedule -/
def hepEDF (s : Sys) (Dl : ℕ → ℕ) (a b : ℕ) : Prop :=
  s.arr a + Dl (s.task a) ≤ s.arr b + Dl (s.task b)

/-- the setting of the EDF analyses for task `i` with relative deadline `D`: `ids[m]` is the
task id of `others[m]`; every job belongs to task `i` or to one of the other tasks; per-task
workload bounds; every run of consecutive non-preemptable service levels of a job of
`others[m]` is at most `others[m].seg - 1` long -/
structure EdfSetting (s : Sys) (Dl : ℕ → ℕ) (i D : ℕ) (tua : RB) (others : List EdfTask)
    (ids : List ℕ) : Prop where
  legal : JlfpLegal s (hepEDF s Dl)
  ordered : ∀ a b, a < s.n → b < s.n → s.task a = s.task b → a ≤ b → s.arr a ≤ s.arr b
  ids_len : ids.length = others.length
  ids_ne : ∀ m, m < ids.length → ids.getD m 0 ≠ i
  ids_inj : ∀ m m', m < ids.length → m' < ids.length → ids.getD m 0 = ids.getD m' 0 → m = m'
  task_mem : ∀ k, k < s.n → s.task k = i ∨ ∃ m, m < ids.length ∧ s.task k = ids.getD m 0
  dl_tua : Dl i = D
  dl_other : ∀ m, m < ids.length → Dl (ids.getD m 0) = (others.getD m default).D
  w_tua : ∀ t d, workOf s (fun x => x = i) t (t + d) ≤ tua.need d
  w_other : ∀ m, m < ids.length → ∀ t d,
      workOf s (fun x => x = ids.getD m 0) t (t + d) ≤ (others.getD m default).rb.need d
  seg : ∀ m, m < ids.length → ∀ l, l < s.n → s.task l = ids.getD m 0 →
      ∀ x len, (∀ k, k < len → s.np l (x + k)) → len ≤ (others.getD m default).seg - 1
  cost_pos : ∀ k, k < s.n → 1 ≤ s.cost k

theorem hepEDF_trans (s : Sys) (Dl : ℕ → ℕ) (a b c : ℕ) (h1 : hepEDF s Dl a b) (h2 : hepEDF s Dl b c) :
    hepEDF s Dl a c := by
  unfold hepEDF at *
  omega

theorem hepEDF_refl (s : Sys) (Dl : ℕ → ℕ) (a : ℕ) : hepEDF s Dl a a := by
  unfold hepEDF
  omega

namespace EdfSoundLemmas
open RTA.PruneCoreLemmas RTA.PruneFPLemmas RTA.PruneEDFLemmas FpSoundLemmas

theorem wk_exists_le (s : Sys) (P : ℕ → ℕ → Prop) (N : ℕ) :
    wk s (fun k => ∃ m, m < N ∧ P m k) ≤ ∑ m ∈ range N, wk s (P m) := by
  induction N with
  | zero =>
    have : wk s (fun k => ∃ m, m < 0 ∧ P m k) = 0 := by
      unfold wk
      apply sum_eq_zero
      intro k _
      rw [if_neg]
      rintro ⟨m, hm, _⟩
      omega
    rw [this]
    exact Nat.zero_le _
  | succ N ih =>
    rw [sum_range_succ]
    have h1 : wk s (fun k => ∃ m, m < N + 1 ∧ P m k)
        ≤ wk s (fun k => (∃ m, m < N ∧ P m k) ∨ P N k) := by
      apply wk_imp
      rintro k _ ⟨m, hm, hp⟩
      by_cases h : m = N
      · subst h; exact Or.inr hp
      · exact Or.inl ⟨m, by omega, hp⟩
    exact le_trans h1 (le_trans (wk_or_le _ _) (Nat.add_le_add_right ih _))

theorem sum_le_sumList {α : Type} [Inhabited α] (l : List α) (g : α → ℕ) (W : ℕ → ℕ)
    (h : ∀ m, m < l.length → W m ≤ g (l.getD m default)) :
    ∑ m ∈ range l.length, W m ≤ sumList (l.map g) := by
  induction l generalizing W with
  | nil => simp [sumList]
  | cons x xs ih =>
    rw [List.length_cons, sum_range_succ']
    simp only [List.map_cons, sumList]
    have h0 := h 0 (by simp)
    have hs := ih (fun m => W (m + 1)) (fun m hm => by
      have := h (m + 1) (by simp only [List.length_cons]; omega)
      simpa using this)
    simp only [List.getD_cons_zero] at h0
    omega

theorem wk_others_le {s : Sys} {Dl : ℕ → ℕ} {i D : ℕ} {tua : RB} {others : List EdfTask}
    {ids : List ℕ} (hS : EdfSetting s Dl i D tua others ids) (t : ℕ) (dd : EdfTask → ℕ) :
    wk s (fun k => ∃ m, m < ids.length ∧ (s.task k = ids.getD m 0 ∧ t ≤ s.arr k ∧
        s.arr k < t + dd (others.getD m default)))
      ≤ sumList (others.map fun o => o.rb.need (dd o)) := by
  refine le_trans (wk_exists_le s _ _) ?_
  rw [hS.ids_len]
  refine sum_le_sumList others (fun o => o.rb.need (dd o)) _ ?_
  intro m hm
  have h := hS.w_other m (by rw [hS.ids_len]; exact hm) t (dd (others.getD m default))
  rw [workOf_eq_wk] at h
  exact h

end EdfSoundLemmas
open EdfSoundLemmas FpSoundLemmas

theorem edf_total_work (s : Sys) (Dl : ℕ → ℕ) (i D : ℕ) (tua : RB) (others : List EdfTask) (ids : List ℕ)
    (hS : EdfSetting s Dl i D tua others ids) (t d : ℕ) :
    work s t (t + d) ≤ sumNeed (others.map (·.rb)) d + tua.need d := by
  rw [work_eq_wk]
  have h1 : wk s (fun k => t ≤ s.arr k ∧ s.arr k < t + d)
      ≤ wk s (fun k => (s.task k = i ∧ t ≤ s.arr k ∧ s.arr k < t + d) ∨
          (∃ m, m < ids.length ∧ (s.task k = ids.getD m 0 ∧ t ≤ s.arr k ∧ s.arr k < t + d))) := by
    apply wk_imp
    rintro k hk ⟨ha, hb⟩
    rcases hS.task_mem k hk with h | ⟨m, hm, h⟩
    · exact Or.inl ⟨h, ha, hb⟩
    · exact Or.inr ⟨m, hm, h, ha, hb⟩
  have h2 := hS.w_tua t d
  rw [workOf_eq_wk] at h2
  have h3 := wk_others_le hS t (fun _ => d)
  have h4 : sumNeed (others.map (·.rb)) d = sumList (others.map fun o => o.rb.need d) := by
    unfold sumNeed
    rw [List.map_map]
    rfl
  rw [h4]
  have := le_trans h1 (le_trans (wk_or_le _ _) (Nat.add_le_add h2 h3))
  omega

/-- the offset of a job inside its (priority-level) busy window is smaller than the length
`L` of the longest busy window of the whole task set -/
theorem edf_offset_lt_L (s : Sys) (Dl : ℕ → ℕ) (i D : ℕ) (tua : RB) (others : List EdfTask) (ids : List ℕ)
    (hS : EdfSetting s Dl i D tua others ids) (L : ℕ) (hL : 0 < L)
    (hfix : sumNeed (others.map (·.rb)) L + tua.need L ≤ L)
    (j t0 : ℕ) (hmax : ∀ t, t0 < t → t ≤ s.arr j → ¬ J.Quiet s (hepEDF s Dl) j t) :
    s.arr j - t0 < L := by
  -- the last time `g ≤ t0` at which all released jobs are complete, and the next one
  obtain ⟨g, hgle, hgq, hgmax⟩ := exists_last_quiet s (fun _ => True) t0
  obtain ⟨g', h1, h2, h3⟩ := next_quiet (σ := fun _ => true) hS.legal.servesPending
    (fun t j h => (hS.legal.valid t j h).1) (fun t _ h => hS.legal.wc t h) g L hL hgq
    (le_trans (le_trans (edf_total_work s Dl i D tua others ids hS g L) hfix)
      (service_true g L).ge)
  have h4 : t0 < g' := by
    by_contra h
    exact hgmax g' h1 (by omega) h3
  have h5 : s.arr j < g' := by
    by_contra h
    exact hmax g' h4 (by omega) fun k hk _ ha => h3 k hk trivial ha
  omega

namespace EdfSoundLemmas
open RTA.PruneCoreLemmas RTA.PruneFPLemmas RTA.PruneEDFLemmas FpSoundLemmas

theorem edfCore_extract (tua : RB) (D : ℕ) (others : List EdfTask) (rem : ℕ) (wb : Bool)
    (limit R : ℕ) (hwf : tua.ArrWF) (hex : tua.Exact) (ho : EdfOthersOK others)
    (hpos : 0 < tua.need 1)
    (hstep : ∀ A, tua.need A < tua.need (A + 1) → tua.need A + rem < tua.need (A + 1))
    (hR : edfCore tua D others rem wb limit = .ok R) :
    ∃ L, 0 < L ∧ sumNeed (others.map (·.rb)) L + tua.need L ≤ L ∧
      ∀ A, A < L → ∃ AF, (if wb then edfBlocking others D A else 0) + (tua.need (A + 1) - rem) +
          edfHepWorkload others D A (max AF 1) ≤ AF ∧ AF - A + rem ≤ R := by
  have hl : 1 ≤ limit := by
    by_contra h0
    obtain rfl : limit = 0 := by omega
    rw [edfCore_eq, search_limit_zero] at hR
    cases hR
  rw [edfCore_eq_naive tua D others rem wb limit hwf hex ho hl hpos hstep, naiveEdf_eq] at hR
  exact naive_offsets_ok _ (edfRhs tua D others rem wb) _ rem limit R (fun _ => rfl) (by omega) hR

theorem edfCore_guard_ne_ok (tua : RB) (D : ℕ) (others : List EdfTask) (rem : ℕ) (wb : Bool)
    (limit R : ℕ) : edfCore tua D others rem wb limit true ≠ .ok R := by
  rw [edfCore_eq]
  cases search .dedicated limit (fun L => sumNeed (others.map (·.rb)) L + tua.need L) with
  | ok L => intro h; simp at h
  | div o l => intro h; cases h
  | panic => intro h; cases h

theorem edfNonpreemptive_ok {a : Arr} {C D : ℕ} {others : List EdfTask} {limit R : ℕ}
    (hR : edfNonpreemptive a C D others limit = .ok R) :
    1 ≤ C ∧ edfCore (.rbf a (.scalar C)) D others (C - 1) true limit = .ok R := by
  unfold edfNonpreemptive at hR
  by_cases hC : C < 1
  · rw [decide_eq_true hC] at hR
    exact absurd hR (edfCore_guard_ne_ok _ _ _ _ _ _ _)
  · rw [decide_eq_false hC] at hR
    exact ⟨by omega, hR⟩

theorem edfLimited_ok {a : Arr} {C D last : ℕ} {others : List EdfTask} {limit R : ℕ}
    (hlast1 : 1 ≤ last) (hlastC : last ≤ C) (hR : edfLimited a C D last others limit = .ok R) :
    edfCore (.rbf a (.scalar C)) D others (last - 1) true limit = .ok R := by
  unfold edfLimited at hR
  rwa [decide_eq_false (by omega : ¬ (last < 1 ∨ C < last - 1)),
    show C - (C - (last - 1)) = last - 1 by omega] at hR

variable {s : Sys} {Dl : ℕ → ℕ} {i D : ℕ} {tua : RB} {others : List EdfTask} {ids : List ℕ}

/-- a job that is not `hep` has a later absolute deadline than `j`: it belongs to another task
with `D_o > D + A` and positive request bound, one of those `edfBlocking` ranges over -/
theorem edf_Hb (hS : EdfSetting s Dl i D tua others ids) (wb : Bool)
    (hnp : wb = false → ∀ l x, ¬ s.np l x) (j : ℕ) (hji : s.task j = i) (t0 : ℕ)
    (ht0 : t0 ≤ s.arr j) :
    ∀ l < s.n, ¬ hepEDF s Dl l j → s.arr l < t0 → ∀ x len, (∀ i < len, s.np l (x + i)) →
      len ≤ (if wb then edfBlocking others D (s.arr j - t0) else 0) := by
  intro l hl hn harr x len h
  cases wb with
  | false =>
    by_contra hlen
    exact hnp rfl l (x + 0) (h 0 (by simp at hlen; omega))
  | true =>
    simp only [if_true]
    unfold hepEDF at hn
    rw [hji, hS.dl_tua] at hn
    rcases hS.task_mem l hl with hi | ⟨m, hm, hlm⟩
    · rw [hi, hS.dl_tua] at hn
      omega
    · rw [hlm, hS.dl_other m hm] at hn
      refine le_trans (hS.seg m hm l hl hlm x len h) ?_
      unfold edfBlocking
      apply le_maxList_of_mem
      rw [List.mem_map]
      refine ⟨others.getD m default, ?_, rfl⟩
      rw [List.mem_filter]
      refine ⟨getD_mem others m (hS.ids_len ▸ hm), ?_⟩
      simp only [Bool.and_eq_true, decide_eq_true_eq]
      refine ⟨by omega, ?_⟩
      have h1 := hS.w_other m hm (s.arr l) 1
      rw [workOf_eq_wk, ← wk_split s _ l hl ⟨hlm, le_refl _, Nat.lt_succ_self _⟩] at h1
      have := hS.cost_pos l hl
      omega

/-- another task `o` interferes with its jobs released in the window whose absolute deadline is
at most that of `j`: window length `min AF (A + 1 + D - o.D)` -/
theorem edf_hep_work (hS : EdfSetting s Dl i D tua others ids) (j : ℕ) (hji : s.task j = i)
    (t0 AF : ℕ) (ht0 : t0 ≤ s.arr j) :
    wk s (fun k => k ≠ j ∧ (hepEDF s Dl k j ∧ t0 ≤ s.arr k ∧ s.arr k < t0 + AF))
      ≤ wk s (fun k => k ≠ j ∧ (s.task k = i ∧ t0 ≤ s.arr k ∧ s.arr k < s.arr j + 1))
        + edfHepWorkload others D (s.arr j - t0) AF := by
  refine le_trans (wk_imp _ _ ?_) (le_trans (wk_or_le _ _) (Nat.add_le_add_left
    (wk_others_le hS t0 (fun o => min AF ((s.arr j - t0 + 1 + D) - o.D))) _))
  rintro k hk ⟨hkj, hh, ha, hb⟩
  unfold hepEDF at hh
  rw [hji, hS.dl_tua] at hh
  rcases hS.task_mem k hk with hi | ⟨m, hm, hkm⟩
  · rw [hi, hS.dl_tua] at hh
    exact Or.inl ⟨hkj, hi, ha, by omega⟩
  · rw [hkm, hS.dl_other m hm] at hh
    exact Or.inr ⟨m, hm, hkm, ha, by omega⟩

/-- the common part of the soundness proofs: from service level `rt` on job `j` is not
preempted, and `rem` bounds what it then still needs -/
theorem edf_sound_core (hS : EdfSetting s Dl i D tua others ids) (hwf : tua.ArrWF) (hex : tua.Exact)
    (ho : EdfOthersOK others) (wb : Bool) (hnpb : wb = false → ∀ l x, ¬ s.np l x)
    (rem limit R : ℕ)
    (hstep : ∀ A, tua.need A < tua.need (A + 1) → tua.need A + rem < tua.need (A + 1))
    (hR : edfCore tua D others rem wb limit = .ok R)
    (j : ℕ) (hj : j < s.n) (hji : s.task j = i) (rt : ℕ) (hrt : rt ≤ s.cost j) (hrt0 : 0 < rt)
    (hnp : ∀ x, rt ≤ x → x < s.cost j → s.np j x) (hrem : s.cost j ≤ rt + rem)
    (hown : ∀ t0, t0 ≤ s.arr j →
      wk s (fun k => k ≠ j ∧ (s.task k = i ∧ t0 ≤ s.arr k ∧ s.arr k < s.arr j + 1))
        + rt + rem ≤ tua.need (s.arr j - t0 + 1)) :
    MeetsBound s j R := by
  have hpos : 0 < tua.need 1 := by
    have := own_work_le s i tua hS.w_tua j hj hji (s.arr j) (le_refl _)
    rw [Nat.sub_self, Nat.zero_add] at this
    have := hS.cost_pos j hj
    omega
  obtain ⟨L, hLpos, hfix, hall⟩ :=
    edfCore_extract tua D others rem wb limit R hwf hex ho hpos hstep hR
  refine meets_of_busy_window hS.legal (hepEDF_trans s Dl) (hepEDF_refl s Dl) j hj rt R hrt hrt0
    hnp fun t0 hq ht0 hmax => ?_
  obtain ⟨AF, hAF, hAFR⟩ := hall (s.arr j - t0)
    (edf_offset_lt_L s Dl i D tua others ids hS L hLpos hfix j t0 hmax)
  have ho' := hown t0 ht0
  rw [solution_pos hAF ho' hrt0] at hAF
  obtain ⟨h1, h2⟩ := solution_arith hAF hAFR ho' hrem ht0
  exact ⟨_, _, AF, edf_Hb hS wb hnpb j hji t0 ht0, edf_hep_work hS j hji t0 AF ht0, h1, h2⟩

end EdfSoundLemmas
open EdfSoundLemmas

/-- C02 for the analyses without a run-to-completion remainder: fully preemptive EDF
(`wb = false`, no non-preemptable states at all) and EDF with floating non-preemptive
regions (`wb = true`) -/
theorem edf_sound_rem0 (s : Sys) (Dl : ℕ → ℕ) (i D : ℕ) (tua : RB) (others : List EdfTask) (ids : List ℕ)
    (hS : EdfSetting s Dl i D tua others ids) (hwf : tua.ArrWF) (hex : tua.Exact)
    (ho : EdfOthersOK others) (wb : Bool) (hnp : wb = false → ∀ l x, ¬ s.np l x)
    (limit R : ℕ) (hR : edfCore tua D others 0 wb limit = .ok R) :
    ∀ j, j < s.n → s.task j = i → MeetsBound s j R := fun j hj hji =>
  edf_sound_core hS hwf hex ho wb hnp 0 limit R (fun _ h => h) hR j hj hji (s.cost j) (le_refl _)
    (hS.cost_pos j hj) (fun _ h1 h2 => absurd h1 (Nat.not_le.2 h2)) (Nat.le_add_right _ _)
    (own_work_le s i tua hS.w_tua j hj hji)

/-- C02 for the analyses with scalar WCET `C` and remainder `rem < C` (fully
non-preemptive EDF: `rem = C - 1`; limited-preemptive EDF: `rem = last - 1`) -/
theorem edf_sound_scalar (s : Sys) (Dl : ℕ → ℕ) (i D : ℕ) (a : Arr) (C rem : ℕ) (others : List EdfTask)
    (ids : List ℕ) (hS : EdfSetting s Dl i D (.rbf a (.scalar C)) others ids) (hwf : a.WF) (hex : a.Exact)
    (ho : EdfOthersOK others) (hrem : rem < C)
    (hcnt : ∀ t d, cntOf s (fun x => x = i) t (t + d) ≤ a.N d)
    (hown : ∀ j, j < s.n → s.task j = i → s.cost j ≤ C ∧
      ∀ x, max 1 (s.cost j - rem) ≤ x → x < s.cost j → s.np j x)
    (limit R : ℕ) (hR : edfCore (.rbf a (.scalar C)) D others rem true limit = .ok R) :
    ∀ j, j < s.n → s.task j = i → MeetsBound s j R := by
  intro j hj hji
  have hcj := hS.cost_pos j hj
  obtain ⟨hcC, hnp⟩ := hown j hj hji
  refine edf_sound_core hS hwf ⟨hex, Cost.scalar_strictPos C (by omega)⟩ ho true
    (fun h => by cases h) rem limit R (scalar_hstep a C rem hrem) hR j hj hji
    (max 1 (s.cost j - rem)) (by omega) (by omega) hnp (by omega) fun t0 ht0 => ?_
  have := own_work_le_scalar s i a C hcnt (fun k hk hki => (hown k hk hki).1) j hj hji t0 ht0
  omega

end RTA.Sched
