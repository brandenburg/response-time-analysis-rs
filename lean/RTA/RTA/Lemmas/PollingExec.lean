import RTA.Lemmas.TimerSound
/-! C05: the schedule-level Spec of the ROS 2 executor with polling points, and the window
argument that the round-robin-aware (`RrSound`) and the busy-window (`BwSound`) analyses share.

Spec (`PollingExecLegal`): callbacks are timers or polled callbacks; some slots are *polling
points* (the ready set is refreshed; only when nothing is running).
* non-preemptive, progress only in supplied slots, no idling in a supplied slot while anything
  is pending, instances of one callback start in release order;
* a polled callback is never started while a timer instance is pending;
* a polled instance starts only in the window of a polling point at which it was already
  pending, at most one instance per polled callback and window;
* starvation freedom: an instance of a polled callback that was pending at a polling point `p`
  and is still unstarted at a later polling point `p'` has seen another instance of its
  callback start in `[p, p')`;
* priority inside a window: before a polled instance starts in the window of `p`, every
  polled callback of higher priority that had an unstarted pending instance at `p` has
  started an instance in that window.

Shared argument: the polling points in a window (`ppIn`) and the instances of a callback started
in it (`StSet`) bound each other (`one_per_window`, `pp_chain`); the instances that can delay a
job (`ActSet`) are counted per callback against the arrival bounds (`Ana`); a job is complete
once the supply of a window covers its own cost and the service of the others in it
(`window_job_done`), and the assumed bounds `rtb` are discharged by induction on the deadline
(`all_done_of`). -/

open Finset

namespace RTA.Sched
open RTA RTA.Spec

/-- per callback (task): timer or polled, the actual priority among polled callbacks
(smaller = higher); per slot: polling point or not -/
structure ExecInfo where
  isTimer : ℕ → Bool
  prio : ℕ → ℕ
  pp : ℕ → Bool

/-- job `j` starts in slot `t` -/
def StartsAt (s : Sys) (j t : ℕ) : Prop := s.sched t = some j ∧ svc s j t = 0

/-- `p` is the last polling point at or before `t` -/
def LastPP (E : ExecInfo) (p t : ℕ) : Prop :=
  E.pp p = true ∧ p ≤ t ∧ ∀ u, p < u → u ≤ t → E.pp u = false

structure PollingExecLegal (s : Sys) (σ : ℕ → Bool) (E : ExecInfo) : Prop where
  valid : ∀ t j, s.sched t = some j → j < s.n ∧ Pending s j t ∧ σ t = true
  nonpre : ∀ t j, s.sched t = some j → ∀ k < s.n, k ≠ j → svc s k t = 0 ∨ svc s k t = s.cost k
  wc : ∀ t, σ t = true → (∃ k < s.n, Pending s k t) → ∃ j, s.sched t = some j
  fifo : ∀ t j, StartsAt s j t → ∀ k < s.n, s.task k = s.task j → Pending s k t → svc s k t = 0 →
      s.arr j ≤ s.arr k
  /-- polling happens only when nothing is running -/
  ppIdle : ∀ t, E.pp t = true → ∀ k < s.n, svc s k t = 0 ∨ svc s k t = s.cost k
  timersFirst : ∀ t j, StartsAt s j t → E.isTimer (s.task j) = false →
      ∀ k < s.n, E.isTimer (s.task k) = true → ¬ Pending s k t
  inWindow : ∀ t j, StartsAt s j t → E.isTimer (s.task j) = false → ∃ p, LastPP E p t ∧ s.arr j ≤ p
  once : ∀ p t t' j j', LastPP E p t → LastPP E p t' → StartsAt s j t → StartsAt s j' t' →
      E.isTimer (s.task j) = false → s.task j = s.task j' → j = j'
  served : ∀ p p' j, E.pp p = true → E.pp p' = true → p < p' → j < s.n →
      E.isTimer (s.task j) = false → s.arr j ≤ p → svc s j p' = 0 →
      ∃ k u, k < s.n ∧ k ≠ j ∧ s.task k = s.task j ∧ p ≤ u ∧ u < p' ∧ StartsAt s k u
  prioWin : ∀ p t j k, LastPP E p t → StartsAt s j t → E.isTimer (s.task j) = false →
      k < s.n → E.isTimer (s.task k) = false → E.prio (s.task k) < E.prio (s.task j) →
      s.arr k ≤ p → svc s k p = 0 →
      ∃ k' u, k' < s.n ∧ s.task k' = s.task k ∧ p ≤ u ∧ u < t ∧ StartsAt s k' u

/-- the kinds in the analysed workload agree with the executor: timers are timers, polled
callbacks are polled, a known priority is the actual one; event sources are not covered -/
def KindsAgree (wl : List Callback) (E : ExecInfo) : Prop :=
  ∀ i, i < wl.length →
    match (wl.getD i default).kind with
    | .timer => E.isTimer i = true
    | .eventSource => False
    | .polledUnknown => E.isTimer i = false
    | .polled p => E.isTimer i = false ∧ E.prio i = p

theorem PollingExecLegal.servesPending {s : Sys} {σ : ℕ → Bool} {E : ExecInfo}
    (hl : PollingExecLegal s σ E) : ServesPending s := fun t j h => (hl.valid t j h).2.1

namespace RrSoundLemmas
open Classical TimerSoundLemmas

variable {s : Sys} {σ : ℕ → Bool} {E : ExecInfo}

/-- for every callback `i` the executor Spec gives the timer Spec with every other callback
as interference; its `valid`/`nonpre` fields are the same -/
theorem toTimer (hl : PollingExecLegal s σ E) (i : ℕ) :
    SupplyTimerLegal s σ i (fun k => k ≠ i) where
  valid := hl.valid
  nonpre := hl.nonpre
  wc := fun t h ⟨k, hk, _, hp⟩ => hl.wc t h ⟨k, hk, hp⟩
  prioOther := fun t j _ _ hnr => absurd (Decidable.em (s.task j = i)) hnr
  prioOwn := by
    intro t j hs h0 hji k hk hki hp
    by_cases hkj : k = j
    · subst hkj; exact le_refl _
    · rcases hl.nonpre t j hs k hk hkj with h | h
      · exact hl.fifo t j ⟨hs, h0⟩ k hk (by rw [hki, hji]) hp h
      · have := hp.2; omega

theorem start_in (k x y : ℕ) (h0 : svc s k x = 0) (hy : 0 < svc s k y) :
    ∃ u, x ≤ u ∧ u < y ∧ StartsAt s k u := by
  obtain ⟨u, hu, hs, hz⟩ := exists_start (s := s) k y hy
  refine ⟨u, ?_, hu, hs, hz⟩
  rcases Nat.lt_or_ge u x with h | h
  · have h1 := svc_succ_of_eq (s := s) k u hs
    have h2 := svc_mono (s := s) k (show u + 1 ≤ x by omega)
    omega
  · exact h

theorem startsAt_svc (k u y : ℕ) (h : StartsAt s k u) (hy : u < y) : 0 < svc s k y := by
  have h1 := svc_succ_of_eq (s := s) k u h.1
  have h2 := svc_mono (s := s) k (show u + 1 ≤ y by omega)
  omega

theorem startsAt_zero (k u x : ℕ) (h : StartsAt s k u) (hx : x ≤ u) : svc s k x = 0 := by
  have h2 := svc_mono (s := s) k hx
  have := h.2
  omega

/-- polling points in `[x, y)` -/
noncomputable def ppIn (E : ExecInfo) (x y : ℕ) : Finset ℕ :=
  (range y).filter (fun v => x ≤ v ∧ E.pp v = true)

theorem mem_ppIn (x y v : ℕ) : v ∈ ppIn E x y ↔ (v < y ∧ x ≤ v ∧ E.pp v = true) := by
  unfold ppIn; rw [mem_filter, mem_range]

theorem ppIn_subset (x x' y y' : ℕ) (h : ∀ v, x ≤ v → v < y → E.pp v = true → x' ≤ v ∧ v < y') :
    (ppIn E x y).card ≤ (ppIn E x' y').card := by
  apply card_le_card
  intro v hv
  rw [mem_ppIn] at hv ⊢
  have := h v hv.2.1 hv.1 hv.2.2
  exact ⟨this.2, this.1, hv.2.2⟩

theorem ppIn_card_succ (x q y : ℕ) (h1 : x ≤ q) (h2 : q < y) (hq : E.pp q = true) :
    (ppIn E x q).card + 1 ≤ (ppIn E x y).card := by
  have hn : q ∉ ppIn E x q := by rw [mem_ppIn]; omega
  rw [← card_insert_of_notMem hn]
  apply card_le_card
  intro v hv
  rw [mem_insert] at hv
  rw [mem_ppIn]
  rcases hv with rfl | hv
  · exact ⟨h2, h1, hq⟩
  · rw [mem_ppIn] at hv; exact ⟨by omega, hv.2⟩

theorem ppIn_card_last (x q y : ℕ)
    (hno : ∀ v, q < v → v < y → E.pp v = false) :
    (ppIn E x y).card ≤ (ppIn E x q).card + 1 := by
  have hn : q ∉ ppIn E x q := by rw [mem_ppIn]; omega
  rw [← card_insert_of_notMem hn]
  apply card_le_card
  intro v hv
  rw [mem_ppIn] at hv
  rw [mem_insert, mem_ppIn]
  rcases Nat.lt_trichotomy v q with h | h | h
  · exact Or.inr ⟨h, hv.2⟩
  · exact Or.inl h
  · have := hno v h hv.1; rw [hv.2.2] at this; cases this

theorem ppIn_last (x : ℕ) : ∀ y, 0 < (ppIn E x y).card →
    ∃ q, x ≤ q ∧ q < y ∧ E.pp q = true ∧ (∀ v, q < v → v < y → E.pp v = false) := by
  intro y
  induction y with
  | zero =>
    intro h
    obtain ⟨v, hv⟩ := card_pos.1 h
    rw [mem_ppIn] at hv; omega
  | succ y ih =>
    intro h
    by_cases hy : x ≤ y ∧ E.pp y = true
    · exact ⟨y, hy.1, by omega, hy.2, fun v h1 h2 => by omega⟩
    · have hsub := ppIn_subset (E := E) x x (y + 1) y (fun v h1 h2 h3 =>
        ⟨h1, Nat.lt_of_le_of_ne (Nat.le_of_lt_succ h2) (fun e => hy ⟨e ▸ h1, e ▸ h3⟩)⟩)
      obtain ⟨q, h1, h2, h3, h4⟩ := ih (Nat.lt_of_lt_of_le h hsub)
      refine ⟨q, h1, by omega, h3, fun v hv1 hv2 => ?_⟩
      rcases Nat.lt_succ_iff_lt_or_eq.1 hv2 with h' | rfl
      · exact h4 v hv1 h'
      · exact Bool.eq_false_iff.2 (fun hp => hy ⟨by omega, hp⟩)

theorem lastPP_shift (p u u' : ℕ) (h : LastPP E p u) (hu : u ≤ u')
    (hno : ∀ v, u < v → v ≤ u' → E.pp v = false) : LastPP E p u' := by
  refine ⟨h.1, by have := h.2.1; omega, ?_⟩
  intro v h1 h2
  rcases Nat.lt_or_ge u v with h' | h'
  · exact hno v h' h2
  · exact h.2.2 v h1 h'

/-- instances of callback `c` that start in `[x, y)` -/
noncomputable def StSet (s : Sys) (c x y : ℕ) : Finset ℕ :=
  (range s.n).filter (fun K => s.task K = c ∧ svc s K x = 0 ∧ 0 < svc s K y)

theorem mem_StSet (c x y K : ℕ) :
    K ∈ StSet s c x y ↔ (K < s.n ∧ s.task K = c ∧ svc s K x = 0 ∧ 0 < svc s K y) := by
  unfold StSet; rw [mem_filter, mem_range]

theorem StSet_mono (c x y y' : ℕ) (h : y ≤ y') : StSet s c x y ⊆ StSet s c x y' := by
  intro K hK
  rw [mem_StSet] at hK ⊢
  have := svc_mono (s := s) K h
  exact ⟨hK.1, hK.2.1, hK.2.2.1, by omega⟩

theorem one_per_window (hl : PollingExecLegal s σ E) (c x y : ℕ) (hc : E.isTimer c = false)
    (hno : ∀ v, x < v → v < y → E.pp v = false) : (StSet s c x y).card ≤ 1 := by
  have key : ∀ K K' u u', s.task K = c → s.task K' = c → x ≤ u → u ≤ u' → u' < y →
      StartsAt s K u → StartsAt s K' u' → K = K' := by
    intro K K' u u' hK hK' h1 h2 h3 hs hs'
    obtain ⟨p, hp, _⟩ := hl.inWindow u K hs (by rw [hK]; exact hc)
    have hp' := lastPP_shift p u u' hp h2 (fun v a b => hno v (by omega) (by omega))
    exact hl.once p u u' K K' hp hp' hs hs' (by rw [hK]; exact hc) (by rw [hK, hK'])
  apply card_le_one.2
  intro K hK K' hK'
  rw [mem_StSet] at hK hK'
  obtain ⟨u, hu1, hu2, hs⟩ := start_in K x y hK.2.2.1 hK.2.2.2
  obtain ⟨u', hu1', hu2', hs'⟩ := start_in K' x y hK'.2.2.1 hK'.2.2.2
  rcases Nat.le_total u u' with h | h
  · exact key K K' u u' hK.2.1 hK'.2.1 hu1 h hu2' hs hs'
  · exact (key K' K u' u hK'.2.1 hK.2.1 hu1' h hu2 hs' hs).symm

theorem StSet_card_succ (c x y y' k : ℕ) (h : y ≤ y') (hk : k ∈ StSet s c x y')
    (hn : k ∉ StSet s c x y) : (StSet s c x y).card + 1 ≤ (StSet s c x y').card := by
  rw [← card_insert_of_notMem hn]
  apply card_le_card
  intro v hv
  rw [mem_insert] at hv
  rcases hv with rfl | hv
  · exact hk
  · exact StSet_mono c x y y' h hv

theorem StSet_card_start (c x q y k u : ℕ) (hk : k < s.n) (hkc : s.task k = c)
    (hst : StartsAt s k u) (hxq : x ≤ q) (h1 : q ≤ u) (h2 : u < y) :
    (StSet s c x q).card + 1 ≤ (StSet s c x y).card := by
  refine StSet_card_succ c x q y k (by omega) ?_ ?_
  · rw [mem_StSet]
    exact ⟨hk, hkc, startsAt_zero k u x hst (by omega), startsAt_svc k u y hst h2⟩
  · rw [mem_StSet]
    intro h
    have := startsAt_zero k u q hst h1
    omega

/-- while an instance `J` of a polled callback waits unstarted, every polling point after the
first is preceded by the start of another instance of its callback since the polling point before -/
theorem pp_le_starts_at (hl : PollingExecLegal s σ E) (J : ℕ) (hJ : J < s.n)
    (hpol : E.isTimer (s.task J) = false) : ∀ q, E.pp q = true → s.arr J ≤ q → svc s J q = 0 →
    (ppIn E (s.arr J) q).card ≤ (StSet s (s.task J) (s.arr J) q).card := by
  intro q
  induction q using Nat.strongRecOn with
  | _ q ih =>
    intro hq haq h0
    rcases Nat.eq_zero_or_pos (ppIn E (s.arr J) q).card with h | h
    · omega
    · obtain ⟨p, h1, h2, h3, h4⟩ := ppIn_last (s.arr J) q h
      have := ih p h2 h3 h1 (Nat.le_zero.1 (h0 ▸ svc_mono J (Nat.le_of_lt h2)))
      have := ppIn_card_last (E := E) (s.arr J) p q h4
      obtain ⟨k, u, hk, _, hkt, hu1, hu2, hst⟩ := hl.served p q J h3 hq h2 hJ hpol h1 h0
      have := StSet_card_start (s.task J) (s.arr J) p q k u hk hkt hst h1 hu1 hu2
      omega

theorem pp_chain (hl : PollingExecLegal s σ E) (J : ℕ) (hJ : J < s.n)
    (hpol : E.isTimer (s.task J) = false) : ∀ len, svc s J (s.arr J + len) = 0 →
    (ppIn E (s.arr J) (s.arr J + len)).card = 0 ∨
    ∃ q, s.arr J ≤ q ∧ q < s.arr J + len ∧ E.pp q = true ∧
      (∀ v, q < v → v < s.arr J + len → E.pp v = false) ∧
      (ppIn E (s.arr J) (s.arr J + len)).card ≤ (StSet s (s.task J) (s.arr J) q).card + 1 := by
  intro len h0
  rcases Nat.eq_zero_or_pos (ppIn E (s.arr J) (s.arr J + len)).card with h | h
  · exact Or.inl h
  · obtain ⟨q, h1, h2, h3, h4⟩ := ppIn_last (s.arr J) _ h
    have := pp_le_starts_at hl J hJ hpol q h3 h1 (Nat.le_zero.1 (h0 ▸ svc_mono J (Nat.le_of_lt h2)))
    have := ppIn_card_last (E := E) (s.arr J) q _ h4
    exact Or.inr ⟨q, h1, h2, h3, h4, by omega⟩

/-- what the schedule-level argument needs: callbacks `0 … nT-1` with kinds `kind`, arrival
bounds `N c`, WCETs `C c` -/
structure Ana (s : Sys) (σ : ℕ → Bool) (E : ExecInfo) (nT : ℕ) (kind : ℕ → CbKind)
    (N : ℕ → ℕ → ℕ) (C : ℕ → ℕ) : Prop where
  hl : PollingExecLegal s σ E
  htask : ∀ k, k < s.n → s.task k < nT
  hkinds : ∀ i, i < nT →
    match kind i with
    | .timer => E.isTimer i = true
    | .eventSource => False
    | .polledUnknown => E.isTimer i = false
    | .polled p => E.isTimer i = false ∧ E.prio i = p
  hprio : ∀ i j, i < nT → j < nT → E.isTimer i = false → E.isTimer j = false →
      E.prio i = E.prio j → i = j
  hN : ∀ i t d, countOf s i t (t + d) ≤ N i d
  hNmono : ∀ i a b, a ≤ b → N i a ≤ N i b
  hcost : ∀ k, k < s.n → 1 ≤ s.cost k ∧ s.cost k ≤ C (s.task k)

/-- the job under analysis: every job whose assumed bound expires at or before the release
of `J` is complete by then -/
structure JobCtx (s : Sys) (rtb : ℕ → ℕ) (J : ℕ) : Prop where
  hJ : J < s.n
  old : ∀ K, K < s.n → s.arr K + rtb (s.task K) ≤ s.arr J → svc s K (s.arr J) = s.cost K
  hrtb : 1 ≤ rtb (s.task J)

variable {nT : ℕ} {kind : ℕ → CbKind} {N : ℕ → ℕ → ℕ} {C rtb : ℕ → ℕ} {J : ℕ}

theorem countOf_window (A : Ana s σ E nT kind N C) (c lo hi d : ℕ) (h : hi ≤ lo + d) :
    countOf s c lo hi ≤ N c d := by
  rcases Nat.lt_or_ge hi lo with h' | h'
  · have : countOf s c lo hi = 0 := by
      unfold countOf
      apply card_eq_zero.2
      apply filter_eq_empty_iff.2
      intro k _ hk
      omega
    omega
  · have h1 := A.hN c lo (hi - lo)
    have e : lo + (hi - lo) = hi := by omega
    rw [e] at h1
    exact Nat.le_trans h1 (A.hNmono c _ _ (by omega))

/-- the own instances started while `J` waits, and `J`, were released in `(a - rtb, a]` -/
theorem own_window (A : Ana s σ E nT kind N C) (jc : JobCtx s rtb J) (T : ℕ)
    (hT0 : svc s J T = 0) :
    (StSet s (s.task J) (s.arr J) T).card + 1 ≤ N (s.task J) (rtb (s.task J)) := by
  have hn : J ∉ StSet s (s.task J) (s.arr J) T := by
    rw [mem_StSet]; intro h; omega
  rw [← card_insert_of_notMem hn]
  refine Nat.le_trans ?_ (countOf_window A (s.task J) (s.arr J + 1 - rtb (s.task J)) (s.arr J + 1)
    (rtb (s.task J)) (by omega))
  unfold countOf
  apply card_le_card
  intro k hk
  rw [mem_insert] at hk
  rw [mem_filter, mem_range]
  rcases hk with rfl | hk
  · exact ⟨jc.hJ, rfl, by have := jc.hrtb; omega, by omega⟩
  · rw [mem_StSet] at hk
    obtain ⟨hkn, hkt, hk0, hkT⟩ := hk
    obtain ⟨u, hu1, hu2, hst⟩ := start_in k _ _ hk0 hkT
    have hJu : svc s J u = 0 := by
      have := svc_mono (s := s) J (show u ≤ T by omega); omega
    have hcJ := (A.hcost J jc.hJ).1
    have hfifo := A.hl.fifo u k hst J jc.hJ hkt.symm ⟨hu1, by omega⟩ hJu
    refine ⟨hkn, hkt, ?_, by omega⟩
    rcases Nat.lt_or_ge (s.arr J) (s.arr k + rtb (s.task J)) with h | h
    · omega
    · have := jc.old k hkn (by rw [hkt]; exact h)
      have := (A.hcost k hkn).1
      omega

/-- the instances of callback `c`, other than `J`, that receive service in `[a, T)` -/
noncomputable def ActSet (s : Sys) (J c a T : ℕ) : Finset ℕ :=
  (range s.n).filter (fun K => K ≠ J ∧ s.task K = c ∧ svc s K a < svc s K T)

theorem mem_ActSet (c a T K : ℕ) :
    K ∈ ActSet s J c a T ↔ (K < s.n ∧ K ≠ J ∧ s.task K = c ∧ svc s K a < svc s K T) := by
  unfold ActSet; rw [mem_filter, mem_range]

theorem pp_le_starts (hl : PollingExecLegal s σ E) (hJ : J < s.n)
    (hpol : E.isTimer (s.task J) = false) (T : ℕ) (hT : s.arr J ≤ T) (hT0 : svc s J T = 0) :
    (ppIn E (s.arr J) T).card ≤ (StSet s (s.task J) (s.arr J) T).card + 1 := by
  obtain ⟨len, rfl⟩ := Nat.exists_eq_add_of_le hT
  rcases pp_chain hl J hJ hpol len hT0 with h | ⟨q, h1, h2, h3, h4, h5⟩
  · omega
  · have := card_le_card (StSet_mono (s := s) (s.task J) (s.arr J) q (s.arr J + len) (by omega))
    omega

theorem act_card_le (A : Ana s σ E nT kind N C) (c a T lo hi d : ℕ) (h : hi ≤ lo + d)
    (hwin : ∀ K, K ∈ ActSet s J c a T → lo ≤ s.arr K ∧ s.arr K < hi) :
    (ActSet s J c a T).card ≤ N c d := by
  refine Nat.le_trans ?_ (countOf_window A c lo hi d h)
  unfold countOf
  apply card_le_card
  intro K hK
  have hw := hwin K hK
  rw [mem_ActSet] at hK
  exact mem_filter.2 ⟨mem_range.2 hK.1, hK.2.2.1, hw⟩

theorem act_own_card_le (A : Ana s σ E nT kind N C) (hJ : J < s.n) (a T lo hi d : ℕ)
    (h : hi ≤ lo + d) (hJw : lo ≤ s.arr J ∧ s.arr J < hi)
    (hwin : ∀ K, K ∈ ActSet s J (s.task J) a T → lo ≤ s.arr K ∧ s.arr K < hi) :
    (ActSet s J (s.task J) a T).card + 1 ≤ N (s.task J) d := by
  have hn : J ∉ ActSet s J (s.task J) a T := fun h => ((mem_ActSet _ _ _ _).1 h).2.1 rfl
  rw [← card_insert_of_notMem hn]
  refine Nat.le_trans ?_ (countOf_window A (s.task J) lo hi d h)
  unfold countOf
  apply card_le_card
  intro K hK
  rcases mem_insert.1 hK with rfl | hK
  · exact mem_filter.2 ⟨mem_range.2 hJ, rfl, hJw⟩
  · have hw := hwin K hK
    rw [mem_ActSet] at hK
    exact mem_filter.2 ⟨mem_range.2 hK.1, hK.2.2.1, hw⟩

theorem act_sum_le (A : Ana s σ E nT kind N C) (c a T : ℕ) :
    (∑ K ∈ range s.n, if s.task K = c then (if K ≠ J then svc s K T - svc s K a else 0) else 0)
      ≤ C c * (ActSet s J c a T).card := by
  have h1 : ∀ K ∈ range s.n,
      (if s.task K = c then (if K ≠ J then svc s K T - svc s K a else 0) else 0) ≤
      (if (K ≠ J ∧ s.task K = c ∧ svc s K a < svc s K T) then C c else 0) := by
    intro K hK
    have hKn := mem_range.1 hK
    by_cases h : K ≠ J ∧ s.task K = c ∧ svc s K a < svc s K T
    · rw [if_pos h, if_pos h.2.1, if_pos h.1]
      have := A.hl.servesPending.svc_le_cost K T
      have := (A.hcost K hKn).2
      rw [h.2.1] at this
      omega
    · rw [if_neg h]
      by_cases h1 : s.task K = c
      · rw [if_pos h1]
        by_cases h2 : K ≠ J
        · rw [if_pos h2]
          have : ¬ svc s K a < svc s K T := fun h3 => h ⟨h2, h1, h3⟩
          omega
        · rw [if_neg h2]
      · rw [if_neg h1]
  refine Nat.le_trans (sum_le_sum h1) ?_
  rw [← sum_filter]
  unfold ActSet
  rw [sum_const_nat (m := C c) (fun _ _ => rfl), Nat.mul_comm]

theorem sv_diff_le (A : Ana s σ E nT kind N C) (a T : ℕ) (hT : a ≤ T) :
    sv s (fun K => K ≠ J) T ≤
      sv s (fun K => K ≠ J) a + ∑ c ∈ range nT, C c * (ActSet s J c a T).card := by
  have e1 : ∀ K ∈ range s.n, (if K ≠ J then svc s K T else 0) =
      (if K ≠ J then svc s K a else 0) +
        ∑ c ∈ range nT, if s.task K = c then (if K ≠ J then svc s K T - svc s K a else 0) else 0 := by
    intro K hK
    rw [sum_ite_eq (range nT) (s.task K) (fun _ => if K ≠ J then svc s K T - svc s K a else 0)]
    rw [if_pos (mem_range.2 (A.htask K (mem_range.1 hK)))]
    have := svc_mono (s := s) K hT
    split <;> omega
  have e0 : ∀ t, sv s (fun K => K ≠ J) t = ∑ K ∈ range s.n, if K ≠ J then svc s K t else 0 := by
    intro t
    unfold sv
    refine sum_congr rfl (fun k _ => ?_)
    split_ifs <;> rfl
  rw [e0, e0, sum_congr rfl e1, sum_add_distrib, sum_comm]
  exact Nat.add_le_add_left (sum_le_sum (fun c _ => act_sum_le A c a T)) _

/-- The window argument of the rr and the bw analysis.  `J` is unstarted at `w`; every supplied
slot from `w` on in which `J` is incomplete serves some job; while `J` is unstarted, up to
`w + S`, the other jobs gain at most `I` service over what they had at `w`.  A supply of `S`
slots that exceeds `I` makes `J` start before `w + S`; from its start on `J` runs alone, so it
is complete at `w + f` once `f` slots supply `sbf S - 1` (what can have gone to the others)
plus the cost of `J`. -/
theorem window_job_done (hl : PollingExecLegal s σ E) (sbf : ℕ → ℕ)
    (hsbf : ∀ t d, sbf d ≤ service σ t d) (J w S f I C : ℕ) (hJ : J < s.n) (hcJ : s.cost J ≤ C)
    (hJ0 : svc s J w = 0)
    (hbusy : ∀ u, w ≤ u → σ u = true → svc s J u < s.cost J → ∃ j', s.sched u = some j')
    (hoth : ∀ T, w ≤ T → T ≤ w + S → svc s J T = 0 →
      sv s (fun K => K ≠ J) T ≤ sv s (fun K => K ≠ J) w + I)
    (hW : 1 + I ≤ sbf S) (hR : sbf S - 1 + C ≤ sbf f) : svc s J (w + f) = s.cost J := by
  apply Classical.byContradiction
  intro hne
  have hlt := Nat.lt_of_le_of_ne (hl.servesPending.svc_le_cost J (w + f)) hne
  -- `J` starts before `w + S`
  have hstarted : 0 < svc s J (w + S) := by
    apply Nat.pos_of_ne_zero
    intro h0
    have hb := sv_supply (s := s) (σ := σ) (fun K => K ≠ J) w S (by
      intro u h1 h2 h3
      have hJu : svc s J u = 0 := Nat.le_zero.1 (h0 ▸ svc_mono J (Nat.le_of_lt h2))
      obtain ⟨j', hj'⟩ := hbusy u h1 h3 (by omega)
      refine ⟨j', hj', (hl.valid u j' hj').1, ?_⟩
      rintro rfl
      have := svc_succ_of_eq (s := s) j' u hj'
      have := svc_mono (s := s) j' (show u + 1 ≤ w + S by omega)
      omega)
    have ho := hoth (w + S) (Nat.le_add_right _ _) (le_refl _) h0
    have := hsbf w S
    omega
  obtain ⟨st, hstle, hst0, hpos⟩ := exists_last_unstarted s J (w + S)
  have hwst : w ≤ st := Nat.le_of_not_lt (fun h => by
    have := hpos w h (Nat.le_add_right _ _); omega)
  have hstlt : st < w + S := Nat.lt_of_le_of_ne hstle (fun e => by rw [e] at hst0; omega)
  -- from its start on only `J` is served
  have alone := runs_alone (toTimer hl 0) J st (w + f) hJ hst0
    (fun u h1 _ => Nat.lt_of_lt_of_le (hpos (st + 1) (Nat.lt_succ_self _) hstlt) (svc_mono J h1)) hlt
  have hafter : sv s (fun K => K ≠ J) (w + f) ≤ sv s (fun K => K ≠ J) st := by
    unfold sv
    refine sum_le_sum (fun K _ => ?_)
    by_cases hK : K ≠ J
    · rw [if_pos hK, if_pos hK]
      rcases Nat.le_total (w + f) st with h | h
      · exact svc_mono K h
      · exact le_of_eq (svc_const K st _ h (fun u h1 h2 hs => hK (alone u h1 h2 K hs)))
    · rw [if_neg hK, if_neg hK]
  have ho := hoth st hwst (Nat.le_of_lt hstlt) hst0
  have hb := sv_supply (s := s) (σ := σ) (fun K => K ≠ J ∨ K = J) w f (by
    intro u h1 h2 h3
    obtain ⟨j', hj'⟩ := hbusy u h1 h3 (Nat.lt_of_le_of_lt (svc_mono J (Nat.le_of_lt h2)) hlt)
    exact ⟨j', hj', (hl.valid u j' hj').1, (Decidable.em _).symm⟩)
  have hdisj : ∀ t, sv s (fun K => K ≠ J ∨ K = J) t = sv s (fun K => K ≠ J) t + svc s J t :=
    fun t => by rw [sv_or_disj _ _ t (fun k h1 h2 => h1 h2), sv_single J t hJ]
  rw [hdisj, hdisj] at hb
  have := hsbf w f
  omega

/-- Induction over the expiry times of the assumed bounds: it suffices to bound the response
time of a job `j` for which every job whose assumed bound expires at or before the release of
`j` is complete by then. -/
theorem all_done_of (hv : ServesPending s) (rtb : ℕ → ℕ)
    (hjob : ∀ j, j < s.n → (1 ≤ rtb (s.task j) → JobCtx s rtb j) →
      svc s j (s.arr j + rtb (s.task j)) = s.cost j) :
    ∀ j, j < s.n → svc s j (s.arr j + rtb (s.task j)) = s.cost j := by
  -- induction on the deadline `arr j + rtb (task j)`
  suffices h : ∀ D j, j < s.n → s.arr j + rtb (s.task j) = D →
      svc s j (s.arr j + rtb (s.task j)) = s.cost j from fun j hj => h _ j hj rfl
  intro D
  induction D using Nat.strongRecOn with
  | _ D ih =>
    intro j hj hD
    refine hjob j hj (fun hr => ⟨hj, fun K hK hKa => ?_, hr⟩)
    exact hv.done_mono K hKa (ih (s.arr K + rtb (s.task K)) (by omega) K hK rfl)

theorem sumList_snoc (l : List ℕ) (x : ℕ) : sumList (l ++ [x]) = sumList l + x := by
  induction l with
  | nil => simp [sumList]
  | cons a as ih => simp only [List.cons_append, sumList, ih]; omega

theorem sumList_range (f : ℕ → ℕ) (n : ℕ) :
    sumList ((List.range n).map f) = ∑ c ∈ range n, f c := by
  induction n with
  | zero => simp [sumList]
  | succ n ih =>
    rw [List.range_succ, List.map_append, List.map_singleton, sumList_snoc, ih, sum_range_succ]

theorem mem_getD (wl : List Callback) (cb : Callback) (h : cb ∈ wl) :
    ∃ i, i < wl.length ∧ wl.getD i default = cb := by
  obtain ⟨i, hi, e⟩ := List.mem_iff_getElem.1 h
  refine ⟨i, hi, ?_⟩
  rw [List.getD_eq_getElem?_getD, List.getElem?_eq_getElem hi]
  exact e

theorem sum_ite_split (n i : ℕ) (hi : i < n) (X : ℕ → ℕ) (Y : ℕ) :
    (∑ c ∈ range n, if c = i then 0 else X c) + Y = ∑ c ∈ range n, if c = i then Y else X c := by
  have e1 : ∀ c ∈ range n, (if c = i then Y else X c) =
      (if c = i then 0 else X c) + (if c = i then Y else 0) := by
    intro c _
    by_cases h : c = i <;> simp [h]
  rw [sum_congr rfl e1, sum_add_distrib, sum_ite_eq' (range n) i (fun _ => Y)]
  simp [hi]

theorem scalar_ofJobs_succ_sub (c n : ℕ) :
    Cost.ofJobs (.scalar c) (n + 1) - Cost.ofJobs (.scalar c) n = c := by
  simp only [Cost.ofJobs]
  rw [Nat.mul_add, Nat.mul_one]
  omega

theorem monoN_of_scalar (wl : List Callback) (C : ℕ → ℕ)
    (hscalar : ∀ i, i < wl.length → (wl.getD i default).cost = .scalar (C i)) :
    ∀ cb ∈ wl, MonoN cb.cost.ofJobs := by
  intro cb hcb
  obtain ⟨c, hc, e⟩ := mem_getD wl cb hcb
  rw [← e, hscalar c hc]
  exact fun a b hab => Nat.mul_le_mul_left _ hab

theorem sumPPBound_singleton (wl : List Callback) (i : ℕ) :
    sumPPBound wl [i] = (wl.getD i default).arr.N (wl.getD i default).rtb := by
  simp [sumPPBound, sumList, Callback.ppBound]

theorem ana_of_workload (hl : PollingExecLegal s σ E) (wl : List Callback) (C : ℕ → ℕ)
    (hwf : ∀ cb ∈ wl, cb.arr.WF) (htask : ∀ k, k < s.n → s.task k < wl.length)
    (hkinds : KindsAgree wl E)
    (hprio : ∀ i j, i < wl.length → j < wl.length → E.isTimer i = false → E.isTimer j = false →
      E.prio i = E.prio j → i = j)
    (hN : ∀ i t d, countOf s i t (t + d) ≤ (wl.getD i default).arr.N d)
    (hcost : ∀ k, k < s.n → 1 ≤ s.cost k ∧ s.cost k ≤ C (s.task k)) :
    Ana s σ E wl.length (fun c => (wl.getD c default).kind)
      (fun c d => (wl.getD c default).arr.N d) C := by
  refine ⟨hl, htask, hkinds, hprio, hN, ?_, hcost⟩
  intro i a b hab
  by_cases hi : i < wl.length
  · exact Arr.N_mono _ (hwf _ (getD_mem wl i hi)) a b hab
  · have e : wl.getD i default = default := by
      rw [List.getD_eq_getElem?_getD, List.getElem?_eq_none (by omega)]
      rfl
    rw [e]
    exact Nat.le_of_eq rfl

end RrSoundLemmas

end RTA.Sched
