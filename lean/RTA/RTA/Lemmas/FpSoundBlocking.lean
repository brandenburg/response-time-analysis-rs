import RTA.Lemmas.FpSoundCompliant
/-! The blocking bound the crate's documentation prescribes: the longest non-preemptive segment
of any lower-priority task, minus one, computed from per-task maximal segment lengths
(`lpBlocking`), and the blocking hypothesis of `FpEqSetting.of_compliant` derived from segment
bounds (`hblock_of_segments`); used by Props/C01. -/

open Finset Classical

namespace RTA.Sched
open RTA RTA.Spec RTA.Sched.J

/-- `sg x` = longest non-preemptive segment of task `x`; 0 if there is no lower-priority task -/
def lpBlocking (n : ℕ) (pr sg : ℕ → ℕ) (i : ℕ) : ℕ :=
  ((List.range n).filter (fun x => decide (pr i < pr x))).foldr (fun x m => max (sg x - 1) m) 0

namespace FpSoundBlockingLemmas

theorem le_foldr_max (f : ℕ → ℕ) (x : ℕ) :
    ∀ l : List ℕ, x ∈ l → f x ≤ l.foldr (fun y m => max (f y) m) 0 := by
  intro l
  induction l with
  | nil => intro h; exact absurd h List.not_mem_nil
  | cons y l ih =>
    intro h
    rw [List.foldr_cons]
    rcases List.mem_cons.1 h with h | h
    · rw [h]; exact Nat.le_max_left _ _
    · exact Nat.le_trans (ih h) (Nat.le_max_right _ _)

end FpSoundBlockingLemmas
open FpSoundBlockingLemmas

theorem le_lpBlocking (n : ℕ) (pr sg : ℕ → ℕ) (i x : ℕ) (hx : x < n) (hlp : pr i < pr x) :
    sg x - 1 ≤ lpBlocking n pr sg i := by
  unfold lpBlocking
  apply le_foldr_max (fun y => sg y - 1) x
  rw [List.mem_filter]
  exact ⟨List.mem_range.2 hx, decide_eq_true hlp⟩

/-- every run of consecutive non-preemptable service levels of a job of task `x` is at most
`sg x - 1` long -/
def SegmentsBounded (s : Sys) (sg : ℕ → ℕ) : Prop :=
  ∀ l, l < s.n → ∀ x len, (∀ k, k < len → s.np l (x + k)) → len ≤ sg (s.task l) - 1

theorem hblock_of_segments (s : Sys) (n : ℕ) (pr sg : ℕ → ℕ) (i : ℕ)
    (htask : ∀ k, k < s.n → s.task k < n) (hseg : SegmentsBounded s sg) :
    ∀ l, l < s.n → pr i < pr (s.task l) → ∀ x len, (∀ k, k < len → s.np l (x + k)) →
      len ≤ lpBlocking n pr sg i :=
  fun l hl hlp x len h =>
    Nat.le_trans (hseg l hl x len h) (le_lpBlocking n pr sg i (s.task l) (htask l hl) hlp)

end RTA.Sched
