import RTA.Lemmas.EdfSoundCompliant
import RTA.Lemmas.FpSoundCompliantExample
/-! The EDF facts that `C02.task_set_nonvacuous` needs about the concrete system `eqSys` of
`FpSoundEqExample` with equal relative deadlines (an EDF tie, broken against the analysed
task): its schedule is legal for EDF, and the analysis result for the task set `eqTs`. -/

open Finset Classical

namespace RTA.Sched.FpEqExample
open RTA RTA.Spec RTA.Sched RTA.Sched.J

/-- both tasks have relative deadline 5: equal absolute deadlines, an EDF tie -/
def eqDl : ℕ → ℕ := fun _ => 5

/-- longest non-preemptive segment of either task (fully preemptive) -/
def eqSg : ℕ → ℕ := fun _ => 1

theorem eqSys_edf_legal : JlfpLegal eqSys (hepEDF eqSys eqDl) :=
  { toValid := eqSys_legal.toValid
    cont := eqSys_legal.cont
    prio := fun _ _ _ => Or.inr (fun _ _ _ => by simp [hepEDF, eqSys, eqDl]) }

/-- the analysis result for task 0: interference of one job of task 1 with the same absolute
deadline -/
theorem eqSys_edf_result :
    edfPreemptive (taskRB eqTs 0) (eqDl 0) (edfOthersOf eqTs eqDl eqSg 0) 100 = .ok 2 := by
  decide +kernel

end RTA.Sched.FpEqExample
