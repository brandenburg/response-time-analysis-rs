import RTA.Lemmas.SchedFifo
import RTA.Lemmas.RosNaive
import RTA.Lemmas.RBSteps
import RTA.Spec.SupplyProc
/-! C04, event source: FIFO processing on a processor whose time is delivered by a
reservation (supply process `σ`): the bound of `rta_event_source` is never exceeded, for
every budget placement allowed by the reservation. -/

open Finset

namespace RTA.Sched
open RTA RTA.Spec

namespace SupplyFifoLemmas

/-- a least solution of `w (max S 1) ≤ sbf S` is positive when `w 1` is -/
theorem nss_ok_pos (sup : Supply) (hs : sup.WF) (w : ℕ → ℕ) (limit S : ℕ) (hw : 0 < w 1)
    (h : naiveSolveSup sup.sbf 0 w limit = .ok S) : 0 < S ∧ w S ≤ sup.sbf S := by
  have h' := ((RosNaiveLemmas.nss_ok_iff _ _ _ _ _).1 h).2.1
  rw [Nat.zero_add] at h'
  rcases Nat.eq_zero_or_pos S with rfl | hp
  · rw [Supply.sbf_zero sup hs] at h'
    exact absurd (show w 1 ≤ 0 from h') (Nat.not_le.2 hw)
  · rw [Nat.max_eq_left hp] at h'
    exact ⟨hp, h'⟩

end SupplyFifoLemmas
open SupplyFifoLemmas

/-- what `rta_event_source = Ok(R)` means: a busy-window bound `L` and, for every offset
`A ≤ L`, coverage of `rbf(A+1)` by the supply within `A + R` -/
theorem eventSource_extract (sup : Supply) (hs : sup.WF) (demand : RB) (hwf : demand.ArrWF)
    (hex : demand.Exact) (limit R : ℕ) (hR : rosEventSource sup demand limit = .ok R)
    (hpos : 0 < demand.need 1) :
    ∃ L, 0 < L ∧ demand.need L ≤ sup.sbf L ∧ ∀ A, A ≤ L → demand.need (A + 1) ≤ sup.sbf (A + R) := by
  have hlim : 1 ≤ limit := by
    rcases Nat.eq_zero_or_pos limit with h0 | h
    · subst h0
      unfold rosEventSource rosBound search at hR
      rw [searchWithOffset_limit_zero] at hR
      cases hR
    · exact h
  rw [eventSource_eq_naive sup hs demand hwf hex limit hlim] at hR
  unfold naiveEventSource naiveRosBound at hR
  rcases RosNaiveLemmas.nss_cases sup.sbf 0 (fun d => demand.need d) limit with ⟨L, h⟩ | h
  · rw [h] at hR
    simp only [] at hR
    obtain ⟨hLpos, hL2⟩ := nss_ok_pos sup hs _ limit L hpos h
    refine ⟨L, hLpos, hL2, ?_⟩
    intro A hA
    obtain ⟨v, hv, hvR⟩ := (PruneCoreLemmas.naiveMax_ok_elim _ R hR).1
      (naiveSolveSup sup.sbf A (fun _ => demand.need (A + 1)) limit)
      (List.mem_map.2 ⟨A, List.mem_range.2 (by omega), rfl⟩)
    have hv2 : demand.need (A + 1) ≤ sup.sbf (A + v) := ((RosNaiveLemmas.nss_ok_iff _ _ _ _ _).1 hv).2.1
    exact Nat.le_trans hv2 (RosNaiveLemmas.sbf_mono sup hs _ _ (by omega))
  · rw [h] at hR
    cases hR

/-- the event-source analysis on any supply whose bound function `sbf` is sound for `σ` -/
theorem eventSource_sound_of_sbf (s : Sys) (sup : Supply) (hs : sup.WF) (σ : ℕ → Bool)
    (hsbf : ∀ t d, sup.sbf d ≤ service σ t d) (hl : SupplyFifoLegal s σ)
    (demand : RB) (hwf : demand.ArrWF) (hex : demand.Exact)
    (hwork : ∀ t d, work s t (t + d) ≤ demand.need d) (limit R : ℕ)
    (hR : rosEventSource sup demand limit = .ok R) :
    ∀ j, j < s.n → MeetsBound s j R := by
  intro j hj
  show svc s j (s.arr j + R) = s.cost j
  -- a job of cost 0 is complete from the start; otherwise the demand is positive
  rcases Nat.eq_zero_or_pos (s.cost j) with hc | hc
  · have := hl.servesPending.svc_le_cost j (s.arr j + R)
    omega
  · have hpos : 0 < demand.need 1 := by
      have h1 := cost_le_work s j hj
      have h2 := hwork (s.arr j) 1
      omega
    obtain ⟨L, hLpos, hLfix, hA⟩ := eventSource_extract sup hs demand hwf hex limit R hR hpos
    exact supply_fifo_sound s σ hl sup.sbf demand.need hsbf hwork L R hLfix hLpos hA j hj

/-- C04 (event source): for a deadline-constrained reservation `(Q, D, P)` (periodic: `D = P`),
every compliant budget placement `σ`, every FIFO schedule on `σ` of a job set whose
workload is bounded by `demand`: `Ok(R)` from `rta_event_source` bounds every response time -/
theorem eventSource_sound (s : Sys) (Q D P : ℕ) (hQ : 1 ≤ Q) (hQD : Q ≤ D) (hDP : D ≤ P)
    (σ : ℕ → Bool) (hσ : Compliant Q D P σ) (hl : SupplyFifoLegal s σ)
    (demand : RB) (hwf : demand.ArrWF) (hex : demand.Exact)
    (hwork : ∀ t d, work s t (t + d) ≤ demand.need d) (limit R : ℕ)
    (hR : rosEventSource (.constrained Q D P) demand limit = .ok R) :
    ∀ j, j < s.n → MeetsBound s j R :=
  eventSource_sound_of_sbf s (.constrained Q D P) ⟨hQ, hQD, hDP⟩ σ
    (cSbf_sound Q D P hQ hQD hDP σ hσ) hl demand hwf hex hwork limit R hR

/-- a periodic reservation is the constrained one with deadline = period: the two have the same
supply-bound function and the same service times, which is all the search looks at -/
theorem rosEventSource_periodic (Q P : ℕ) (hQ : 1 ≤ Q) (hQP : Q ≤ P) (demand : RB) (limit : ℕ) :
    rosEventSource (.periodic Q P) demand limit
      = rosEventSource (.constrained Q P P) demand limit := by
  have h2 : (Supply.periodic Q P).st? = (Supply.constrained Q P P).st? := by
    funext x; simp only [Supply.st?]; rw [cSt_eq_pSt Q P hQ hQP x]
  simp only [rosEventSource, rosBound, search, searchWithOffset, h2]

/-- the same on a dedicated processor (every slot delivers service) -/
theorem eventSource_sound_dedicated (s : Sys) (hl : SupplyFifoLegal s (fun _ => true))
    (demand : RB) (hwf : demand.ArrWF) (hex : demand.Exact)
    (hwork : ∀ t d, work s t (t + d) ≤ demand.need d) (limit R : ℕ)
    (hR : rosEventSource .dedicated demand limit = .ok R) :
    ∀ j, j < s.n → MeetsBound s j R :=
  eventSource_sound_of_sbf s .dedicated trivial (fun _ => true)
    (fun t d => (service_true t d).ge) hl demand hwf hex hwork limit R hR

end RTA.Sched
