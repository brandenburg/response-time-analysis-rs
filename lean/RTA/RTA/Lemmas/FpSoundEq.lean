import RTA.Lemmas.JlfpSound
/-! C01: from the result of the fixed-priority analyses to "every job of the task under
analysis completes within `R` of its release", for every legal schedule.  Several tasks may
share a priority level (ties among equal-priority jobs broken by release time, simultaneous
releases arbitrarily); distinct priorities are the special case of `FpSound`. -/

open Finset Classical

namespace RTA.Sched
open RTA RTA.Spec RTA.Sched.J

/-- job-level priority order of FP scheduling when several tasks may share a priority level:
strictly higher task priority (smaller `pr`), or equal priority level and earlier-or-equal release;
equal-priority jobs released simultaneously are mutually `hep`, so such ties may be broken
arbitrarily by the schedule -/
def hepFPe (s : Sys) (pr : ℕ → ℕ) (a b : ℕ) : Prop :=
  pr (s.task a) < pr (s.task b) ∨ (pr (s.task a) = pr (s.task b) ∧ s.arr a ≤ s.arr b)

/-- the setting of the fixed-priority analyses for task `i` when priorities need not be
distinct: a legal schedule for the order with ties; the workload of task `i` is bounded by
`tua`; every run of consecutive non-preemptable service levels of a lower-priority job is at
most `B` long -/
structure FpEqSetting (s : Sys) (pr : ℕ → ℕ) (i : ℕ) (tua : RB) (others : List RB) (B : ℕ) : Prop where
  legal : JlfpLegal s (hepFPe s pr)
  w_tua : ∀ t d, workOf s (fun x => x = i) t (t + d) ≤ tua.need d
  /-- `others` bounds the workload of ALL OTHER tasks of higher OR EQUAL priority -/
  w_hep : ∀ t d, workOf s (fun x => pr x ≤ pr i ∧ x ≠ i) t (t + d) ≤ sumNeed others d
  blocking : ∀ l, l < s.n → pr i < pr (s.task l) → ∀ x len, (∀ k, k < len → s.np l (x + k)) → len ≤ B
  cost_pos : ∀ k, k < s.n → 1 ≤ s.cost k

theorem hepFPe_trans (s : Sys) (pr : ℕ → ℕ) (a b c : ℕ) (h1 : hepFPe s pr a b) (h2 : hepFPe s pr b c) :
    hepFPe s pr a c := by
  unfold hepFPe at *
  omega

theorem hepFPe_refl (s : Sys) (pr : ℕ → ℕ) (a : ℕ) : hepFPe s pr a a := by
  right; exact ⟨rfl, le_refl _⟩

open FpSoundLemmas RTA.PruneCoreLemmas RTA.PruneFPLemmas

namespace FpSoundEqLemmas

theorem fpCore_extract (tua : RB) (others : List RB) (B rem limit R : ℕ)
    (hwf : tua.ArrWF) (hex : tua.Exact) (ho : OthersOK others) (hpos : 0 < tua.need 1)
    (hstep : ∀ A, tua.need A < tua.need (A + 1) → tua.need A + rem < tua.need (A + 1))
    (hR : fpCore tua others B rem limit = .ok R) :
    ∃ L, 0 < L ∧ B + sumNeed others L + tua.need L ≤ L ∧
      ∀ A, A < L → ∃ AF, B + (tua.need (A + 1) - rem) + sumNeed others (max AF 1) ≤ AF ∧
        AF - A + rem ≤ R := by
  have hl : 1 ≤ limit := by
    by_contra h0
    obtain rfl : limit = 0 := by omega
    rw [fpCore_eq, search_limit_zero] at hR
    cases hR
  rw [fpCore_eq_naive tua others B rem limit hwf hex ho hl hpos hstep, naiveFp_eq] at hR
  exact naive_offsets_ok _ (fun A AF => B + (tua.need (A + 1) - rem) + sumNeed others AF)
    _ rem limit R (fun _ => rfl) (by omega) hR

theorem fpCore_guard_ne_ok (tua : RB) (others : List RB) (B rem limit R : ℕ) :
    fpCore tua others B rem limit true ≠ .ok R := by
  unfold fpCore
  cases search .dedicated limit (fun L => B + sumNeed others L + tua.need L) with
  | ok L => intro h; simp at h
  | div o l => intro h; cases h
  | panic => intro h; cases h

theorem fpNonpreemptive_ok {a : Arr} {C B : ℕ} {others : List RB} {limit R : ℕ}
    (hR : fpNonpreemptive a C B others limit = .ok R) :
    1 ≤ C ∧ fpCore (.rbf a (.scalar C)) others B (C - 1) limit = .ok R := by
  unfold fpNonpreemptive at hR
  by_cases hC : C < 1
  · rw [decide_eq_true hC] at hR
    exact absurd hR (fpCore_guard_ne_ok _ _ _ _ _ _)
  · rw [decide_eq_false hC] at hR
    exact ⟨by omega, hR⟩

theorem fpLimited_ok {a : Arr} {C last B : ℕ} {others : List RB} {limit R : ℕ} (hlast1 : 1 ≤ last)
    (hlastC : last ≤ C) (hR : fpLimited a C last B others limit = .ok R) :
    fpCore (.rbf a (.scalar C)) others B (last - 1) limit = .ok R := by
  unfold fpLimited at hR
  rwa [decide_eq_false (by omega : ¬ (last < 1 ∨ C < last - 1)),
    show C - (C - (last - 1)) = last - 1 by omega] at hR

variable {s : Sys} {pr : ℕ → ℕ} {i : ℕ} {tua : RB} {others : List RB} {B : ℕ}

/-- a job that is not `hep` and was released before `j` has strictly lower priority (the
equal-priority disjunct is excluded by its earlier release), so it blocks for at most `B` -/
theorem fpe_Hb (hS : FpEqSetting s pr i tua others B) (j : ℕ) (hji : s.task j = i)
    (t0 : ℕ) (ht0 : t0 ≤ s.arr j) :
    ∀ l < s.n, ¬ hepFPe s pr l j → s.arr l < t0 → ∀ x len, (∀ i < len, s.np l (x + i)) → len ≤ B := by
  intro l hl hn harr x len h
  refine hS.blocking l hl ?_ x len h
  unfold hepFPe at hn
  rw [hji] at hn
  omega

theorem fpe_hep_cases {j : ℕ} (hji : s.task j = i) {k : ℕ} (h : hepFPe s pr k j) :
    (s.task k = i ∧ s.arr k ≤ s.arr j) ∨ (pr (s.task k) ≤ pr i ∧ s.task k ≠ i) := by
  unfold hepFPe at h
  rw [hji] at h
  by_cases hki : s.task k = i
  · rw [hki] at h
    exact Or.inl ⟨hki, by omega⟩
  · exact Or.inr ⟨by omega, hki⟩

theorem fpe_hep_work (hS : FpEqSetting s pr i tua others B) (j : ℕ) (hji : s.task j = i)
    (t0 AF : ℕ) :
    wk s (fun k => k ≠ j ∧ (hepFPe s pr k j ∧ t0 ≤ s.arr k ∧ s.arr k < t0 + AF))
      ≤ wk s (fun k => k ≠ j ∧ (s.task k = i ∧ t0 ≤ s.arr k ∧ s.arr k < s.arr j + 1))
        + sumNeed others AF := by
  have h4 := hS.w_hep t0 AF
  rw [workOf_eq_wk] at h4
  refine le_trans (wk_imp _ _ ?_) (le_trans (wk_or_le _ _) (Nat.add_le_add_left h4 _))
  rintro k _ ⟨hkj, hh, ha, hb⟩
  rcases fpe_hep_cases hji hh with h | h
  · exact Or.inl ⟨hkj, h.1, ha, by omega⟩
  · exact Or.inr ⟨h, ha, hb⟩

end FpSoundEqLemmas
open FpSoundEqLemmas

theorem fpe_offset_lt_L (s : Sys) (pr : ℕ → ℕ) (i : ℕ) (tua : RB) (others : List RB) (B : ℕ)
    (hS : FpEqSetting s pr i tua others B) (L : ℕ) (hL : 0 < L)
    (hfix : B + sumNeed others L + tua.need L ≤ L)
    (j : ℕ) (hji : s.task j = i) (t0 : ℕ) (hq : Quiet s (hepFPe s pr) j t0)
    (ht0 : t0 ≤ s.arr j) (hmax : ∀ t, t0 < t → t ≤ s.arr j → ¬ Quiet s (hepFPe s pr) j t) :
    s.arr j - t0 < L := by
  refine offset_lt hS.legal (hepFPe_trans s pr) j t0 L B hL hq hmax (fpe_Hb hS j hji t0 ht0) ?_
  have h3 := hS.w_tua t0 L
  have h4 := hS.w_hep t0 L
  rw [workOf_eq_wk] at h3 h4
  refine le_trans (Nat.add_le_add_left (le_trans (wk_imp _ _ ?_)
    (le_trans (wk_or_le _ _) (Nat.add_le_add h3 h4))) B) (by omega)
  rintro k _ ⟨hh, ha, hb⟩
  rcases fpe_hep_cases hji hh with h | h
  · exact Or.inl ⟨h.1, ha, hb⟩
  · exact Or.inr ⟨h, ha, hb⟩

namespace FpSoundEqLemmas

/-- the common part of the soundness proofs: from service level `rt` on job `j` is not
preempted, and `rem` bounds what it then still needs -/
theorem fpe_sound_core {s : Sys} {pr : ℕ → ℕ} {i : ℕ} {tua : RB} {others : List RB} {B : ℕ}
    (hS : FpEqSetting s pr i tua others B) (hwf : tua.ArrWF) (hex : tua.Exact) (ho : OthersOK others)
    (rem limit R : ℕ)
    (hstep : ∀ A, tua.need A < tua.need (A + 1) → tua.need A + rem < tua.need (A + 1))
    (hR : fpCore tua others B rem limit = .ok R)
    (j : ℕ) (hj : j < s.n) (hji : s.task j = i) (rt : ℕ) (hrt : rt ≤ s.cost j) (hrt0 : 0 < rt)
    (hnp : ∀ x, rt ≤ x → x < s.cost j → s.np j x) (hrem : s.cost j ≤ rt + rem)
    (hown : ∀ t0, t0 ≤ s.arr j →
      wk s (fun k => k ≠ j ∧ (s.task k = i ∧ t0 ≤ s.arr k ∧ s.arr k < s.arr j + 1))
        + rt + rem ≤ tua.need (s.arr j - t0 + 1)) :
    MeetsBound s j R := by
  have hpos : 0 < tua.need 1 := by
    have := own_work_le s i tua hS.w_tua j hj hji (s.arr j) (le_refl _)
    rw [Nat.sub_self, Nat.zero_add] at this
    have := hS.cost_pos j hj
    omega
  obtain ⟨L, hLpos, hfix, hall⟩ :=
    fpCore_extract tua others B rem limit R hwf hex ho hpos hstep hR
  refine meets_of_busy_window hS.legal (hepFPe_trans s pr) (hepFPe_refl s pr) j hj rt R hrt hrt0
    hnp fun t0 hq ht0 hmax => ?_
  obtain ⟨AF, hAF, hAFR⟩ := hall (s.arr j - t0)
    (fpe_offset_lt_L s pr i tua others B hS L hLpos hfix j hji t0 hq ht0 hmax)
  have ho' := hown t0 ht0
  rw [solution_pos hAF ho' hrt0] at hAF
  obtain ⟨h1, h2⟩ := solution_arith hAF hAFR ho' hrem ht0
  exact ⟨B, _, AF, fpe_Hb hS j hji t0 ht0, fpe_hep_work hS j hji t0 AF, h1, h2⟩

end FpSoundEqLemmas

/-- C01 for the analyses without a run-to-completion remainder (fully preemptive: `B = 0`
and no non-preemptable states; floating non-preemptive regions: arbitrary placement, runs
bounded by the segment bounds): `Ok(R)` bounds the response time of every job of the task -/
theorem fpe_sound_rem0 (s : Sys) (pr : ℕ → ℕ) (i : ℕ) (tua : RB) (others : List RB) (B : ℕ)
    (hS : FpEqSetting s pr i tua others B) (hwf : tua.ArrWF) (hex : tua.Exact) (ho : OthersOK others)
    (limit R : ℕ) (hR : fpCore tua others B 0 limit = .ok R) :
    ∀ j, j < s.n → s.task j = i → MeetsBound s j R := fun j hj hji =>
  fpe_sound_core hS hwf hex ho 0 limit R (fun _ h => h) hR j hj hji (s.cost j) (le_refl _)
    (hS.cost_pos j hj) (fun _ h1 h2 => absurd h1 (Nat.not_le.2 h2)) (Nat.le_add_right _ _)
    (own_work_le s i tua hS.w_tua j hj hji)

/-- C01 for the analyses with scalar WCET `C` and remainder `rem < C` (fully
non-preemptive: `rem = C - 1`; limited-preemptive with last segment `ℓ`: `rem = ℓ - 1`): a job
is non-preemptable from service level `max 1 (cost - rem)` on -/
theorem fpe_sound_scalar (s : Sys) (pr : ℕ → ℕ) (i : ℕ) (a : Arr) (C rem : ℕ) (others : List RB) (B : ℕ)
    (hS : FpEqSetting s pr i (.rbf a (.scalar C)) others B) (hwf : a.WF) (hex : a.Exact)
    (ho : OthersOK others) (hrem : rem < C)
    (hcnt : ∀ t d, cntOf s (fun x => x = i) t (t + d) ≤ a.N d)
    (hown : ∀ j, j < s.n → s.task j = i → s.cost j ≤ C ∧
      ∀ x, max 1 (s.cost j - rem) ≤ x → x < s.cost j → s.np j x)
    (limit R : ℕ) (hR : fpCore (.rbf a (.scalar C)) others B rem limit = .ok R) :
    ∀ j, j < s.n → s.task j = i → MeetsBound s j R := by
  intro j hj hji
  have hcj := hS.cost_pos j hj
  obtain ⟨hcC, hnp⟩ := hown j hj hji
  refine fpe_sound_core hS hwf ⟨hex, Cost.scalar_strictPos C (by omega)⟩ ho rem limit R
    (scalar_hstep a C rem hrem) hR j hj hji (max 1 (s.cost j - rem)) (by omega) (by omega) hnp
    (by omega) fun t0 ht0 => ?_
  have := own_work_le_scalar s i a C hcnt (fun k hk hki => (hown k hk hki).1) j hj hji t0 ht0
  omega

theorem fpe_preemptive_sound (s : Sys) (pr : ℕ → ℕ) (i : ℕ) (tua : RB) (others : List RB)
    (hS : FpEqSetting s pr i tua others 0) (hwf : tua.ArrWF) (hex : tua.Exact) (ho : OthersOK others)
    (limit R : ℕ) (hR : fpPreemptive tua others limit = .ok R) :
    ∀ j, j < s.n → s.task j = i → MeetsBound s j R :=
  fpe_sound_rem0 s pr i tua others 0 hS hwf hex ho limit R hR

theorem fpe_floating_sound (s : Sys) (pr : ℕ → ℕ) (i : ℕ) (tua : RB) (others : List RB) (B : ℕ)
    (hS : FpEqSetting s pr i tua others B) (hwf : tua.ArrWF) (hex : tua.Exact) (ho : OthersOK others)
    (limit R : ℕ) (hR : fpFloating tua B others limit = .ok R) :
    ∀ j, j < s.n → s.task j = i → MeetsBound s j R :=
  fpe_sound_rem0 s pr i tua others B hS hwf hex ho limit R hR

theorem fpe_nonpreemptive_sound (s : Sys) (pr : ℕ → ℕ) (i : ℕ) (a : Arr) (C : ℕ) (others : List RB) (B : ℕ)
    (hS : FpEqSetting s pr i (.rbf a (.scalar C)) others B) (hwf : a.WF) (hex : a.Exact)
    (ho : OthersOK others)
    (hcnt : ∀ t d, cntOf s (fun x => x = i) t (t + d) ≤ a.N d)
    (hown : ∀ j, j < s.n → s.task j = i → s.cost j ≤ C ∧ ∀ x, 1 ≤ x → x < s.cost j → s.np j x)
    (limit R : ℕ) (hR : fpNonpreemptive a C B others limit = .ok R) :
    ∀ j, j < s.n → s.task j = i → MeetsBound s j R := by
  obtain ⟨hC, hR⟩ := fpNonpreemptive_ok hR
  exact fpe_sound_scalar s pr i a C (C - 1) others B hS hwf hex ho (by omega) hcnt
    (fun j hj hji => ⟨(hown j hj hji).1, fun x hx hx' => (hown j hj hji).2 x (by omega) hx'⟩)
    limit R hR

theorem fpe_limited_sound (s : Sys) (pr : ℕ → ℕ) (i : ℕ) (a : Arr) (C last : ℕ) (others : List RB) (B : ℕ)
    (hS : FpEqSetting s pr i (.rbf a (.scalar C)) others B) (hwf : a.WF) (hex : a.Exact)
    (ho : OthersOK others) (hlast1 : 1 ≤ last) (hlastC : last ≤ C)
    (hcnt : ∀ t d, cntOf s (fun x => x = i) t (t + d) ≤ a.N d)
    (hown : ∀ j, j < s.n → s.task j = i → s.cost j ≤ C ∧
      ∀ x, max 1 (s.cost j - (last - 1)) ≤ x → x < s.cost j → s.np j x)
    (limit R : ℕ) (hR : fpLimited a C last B others limit = .ok R) :
    ∀ j, j < s.n → s.task j = i → MeetsBound s j R := by
  exact fpe_sound_scalar s pr i a C (last - 1) others B hS hwf hex ho (by omega) hcnt hown limit R
    (fpLimited_ok hlast1 hlastC hR)

end RTA.Sched
