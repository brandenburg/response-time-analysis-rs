import RTA.Lemmas.ExecRefine
import RTA.Lemmas.ExecRefineChainX
/-! Refinement for processing chains: the run of the executor transition system WITH a linear
chain (`Lemmas/ExecChainJobs.lean`) and its job system `Exec.toSysC` are those of `ExecX` at
`ex i _ = WCET of i`, so every run satisfies the schedule-level Spec used by `chain_sound`
(`SupplyTimerLegal` for a callback with every other callback as interference; `run_chain_legal`)
by `Lemmas/ExecRefineChainX.lean`. -/

namespace RTA.Exec
open RTA RTA.Sched

variable (cbs : List Cb) (ch : List ℕ) (sigma : ℕ → Bool) (rels : ℕ → List ℕ)

theorem stateAtC_wcet :
    ExecX.stateAtC cbs (fun i _ => (cbs.getD i default).cost) ch sigma rels = stateAtC cbs ch sigma rels := by
  funext t
  induction t with
  | zero => rfl
  | succ t ih =>
    show (ExecX.step _ _ _ t _ _ (ExecX.stateAtC _ _ _ _ _ t)).1 = (step _ _ t _ _ (stateAtC _ _ _ _ t)).1
    rw [ih, ExecX.EndToEndXLemmas.step_wcet]

theorem startsCbC_wcet :
    ExecX.startsCbC cbs (fun i _ => (cbs.getD i default).cost) ch sigma rels = startsCbC cbs ch sigma rels := by
  funext t i
  simp only [ExecX.startsCbC, startsCbC, ExecX.servedCbC, servedCbC, ExecX.pickedAtC, pickedAtC,
    stateAtC_wcet]
  rfl

theorem startedBeforeC_wcet :
    ExecX.startedBeforeC cbs (fun i _ => (cbs.getD i default).cost) ch sigma rels =
      startedBeforeC cbs ch sigma rels := by
  funext i t
  induction t with
  | zero => rfl
  | succ t ih => simp only [ExecX.startedBeforeC, startedBeforeC, ih, startsCbC_wcet]

theorem toSysCX_wcet (H : ℕ) :
    ExecX.toSysCX cbs (fun i _ => (cbs.getD i default).cost) ch sigma rels H = toSysC cbs ch sigma rels H := by
  unfold ExecX.toSysCX toSysC
  congr 1
  · funext k
    unfold ExecX.costCX
    split <;> rfl
  · funext t
    simp only [ExecX.schedCX, ExecX.servedCbC, ExecX.pickedAtC, stateAtC_wcet, startedBeforeC_wcet,
      startsCbC_wcet]
    rfl

/-- every run with a duplicate-free linear chain satisfies, for every callback `l`, the Spec that
`chain_sound` asks for the last callback of the chain -/
theorem run_chain_legal (H l : ℕ) (hch : ch.Nodup) (hmem : ∀ i ∈ ch, i < cbs.length)
    (hidx : ∀ t, ∀ i ∈ rels t, i < cbs.length)
    (hext : ∀ t, ∀ i ∈ rels t, i ∉ ch.tail)
    (hfin : ∀ t, H ≤ t → rels t = [])
    (hcost : ∀ c ∈ cbs, 1 ≤ c.cost) :
    SupplyTimerLegal (toSysC cbs ch sigma rels H) sigma l (fun k => k ≠ l) := by
  rw [← toSysCX_wcet]
  exact ExecX.run_chain_legal_x cbs _ ch sigma rels H l hch hmem hidx hext hfin (wcet_bounds cbs hcost)

end RTA.Exec
