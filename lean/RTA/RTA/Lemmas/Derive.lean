import RTA.Model.Derive
import RTA.Lemmas.ArrAll
/-! C12: curves derived from traces and from other arrival bounds. -/

namespace RTA
open RTA.Spec

theorem traceUpdate_go_length (t : Nat) : ∀ d w : List Nat,
    (traceUpdate.go t d w).length = max d.length w.length := by
  intro d w
  induction w generalizing d with
  | nil => cases d <;> simp [traceUpdate.go]
  | cons v vs ih =>
    cases d with
    | nil => simp only [traceUpdate.go, List.length_cons, ih]; simp
    | cons x xs => simp only [traceUpdate.go, List.length_cons, ih]; omega

theorem traceUpdate_go_getD (t : Nat) : ∀ (d w : List Nat) (k : Nat),
    (traceUpdate.go t d w).getD k 0 =
      if k < w.length then
        (if k < d.length then min (d.getD k 0) (t - w.getD k 0) else t - w.getD k 0)
      else d.getD k 0 := by
  intro d w
  induction w generalizing d with
  | nil => intro k; cases d <;> simp [traceUpdate.go]
  | cons v vs ih =>
    intro k
    cases d with
    | nil =>
      simp only [traceUpdate.go]
      cases k with
      | zero => simp
      | succ k =>
        rw [List.getD_cons_succ, ih]
        simp
    | cons x xs =>
      simp only [traceUpdate.go]
      cases k with
      | zero => simp
      | succ k =>
        rw [List.getD_cons_succ, ih]
        simp

/-- `v` is the minimum span of `k + 2` consecutive entries of `τ` -/
def MinSpan (τ : List Nat) (k v : Nat) : Prop :=
  (∀ i, i + k + 1 < τ.length → v + τ.getD i 0 ≤ τ.getD (i + k + 1) 0) ∧
  ∃ i, i + k + 1 < τ.length ∧ v + τ.getD i 0 = τ.getD (i + k + 1) 0

/-- a further event `t`: the only new window of `k + 2` events is the one ending in `t`; it
starts at position `j` -/
theorem MinSpan.snoc {τ : List Nat} {k v : Nat} (h : MinSpan τ k v) (t j : Nat)
    (hj : j + k + 1 = τ.length) (ht : τ.getD j 0 ≤ t) :
    MinSpan (τ ++ [t]) k (min v (t - τ.getD j 0)) := by
  obtain ⟨hlb, i0, hi0, hatt⟩ := h
  have hjl : j < τ.length := by omega
  rw [MinSpan, List.length_append, List.length_singleton]
  constructor
  · intro i hi
    by_cases h : i + k + 1 < τ.length
    · rw [getD_append_left (by omega : i < τ.length), getD_append_left h]
      exact Nat.le_trans (Nat.add_le_add_right (Nat.min_le_left _ _) _) (hlb i h)
    · obtain rfl : i = j := by omega
      rw [getD_append_left hjl, hj, getD_append_last]
      exact Nat.le_trans (Nat.add_le_add_right (Nat.min_le_right _ _) _)
        (Nat.le_of_eq (Nat.sub_add_cancel ht))
  · by_cases hmin : v ≤ t - τ.getD j 0
    · refine ⟨i0, Nat.lt_succ_of_lt hi0, ?_⟩
      rw [getD_append_left (by omega : i0 < τ.length), getD_append_left hi0, Nat.min_eq_left hmin]
      exact hatt
    · refine ⟨j, hj ▸ Nat.lt_succ_self _, ?_⟩
      rw [getD_append_left hjl, hj, getD_append_last, Nat.min_eq_right (Nat.le_of_not_le hmin)]
      exact Nat.sub_add_cancel ht

theorem minSpan_snoc_first (τ : List Nat) (k t : Nat) (hk : k + 1 = τ.length)
    (ht : τ.getD 0 0 ≤ t) : MinSpan (τ ++ [t]) k (t - τ.getD 0 0) := by
  have key : t - τ.getD 0 0 + (τ ++ [t]).getD 0 0 = (τ ++ [t]).getD (0 + k + 1) 0 := by
    rw [getD_append_left (by omega : 0 < τ.length), Nat.zero_add, hk, getD_append_last]
    exact Nat.sub_add_cancel ht
  rw [MinSpan, List.length_append, List.length_singleton]
  refine ⟨fun i hi => ?_, 0, by omega, key⟩
  obtain rfl : i = 0 := by omega
  exact Nat.le_of_eq key

/-- invariant of `Curve::from_trace` after the events `τ`: entry `k` of `d` is the minimum span
of `k + 2` consecutive events, for as many `k` as there are such windows (at most `p`) -/
def TraceInv (p : Nat) (τ d : List Nat) : Prop :=
  d.length = min p (τ.length - 1) ∧ ∀ k, k < d.length → MinSpan τ k (d.getD k 0)

theorem traceInv_snoc (p : Nat) (τ d : List Nat) (t : Nat) (ht : ∀ v ∈ τ, v ≤ t)
    (h : TraceInv p τ d) : TraceInv p (τ ++ [t]) (traceUpdate d (τ.reverse.take p) t) := by
  obtain ⟨hlen, hk⟩ := h
  have hlen' : (traceUpdate d (τ.reverse.take p) t).length = min p τ.length := by
    unfold traceUpdate
    rw [traceUpdate_go_length, List.length_take, List.length_reverse, hlen]
    exact Nat.max_eq_right (Nat.le_min.2 ⟨Nat.min_le_left _ _,
      Nat.le_trans (Nat.min_le_right _ _) (Nat.sub_le _ _)⟩)
  refine ⟨by rw [hlen', List.length_append]; rfl, fun k hklt => ?_⟩
  rw [hlen'] at hklt
  obtain ⟨hkp, hkl⟩ := Nat.lt_min.1 hklt
  obtain ⟨j, hj⟩ : ∃ j, j + k + 1 = τ.length := ⟨τ.length - 1 - k, by omega⟩
  have hw : (τ.reverse.take p).getD k 0 = τ.getD j 0 := by
    rw [getD_take _ _ _ hkp, getD_reverse _ _ hkl, show τ.length - 1 - k = j by omega]
  have hle : τ.getD j 0 ≤ t := ht _ (getD_mem_of_lt τ (by omega))
  unfold traceUpdate
  rw [traceUpdate_go_getD, List.length_take, List.length_reverse, if_pos hklt, hw]
  split
  · exact (hk k ‹_›).snoc t j hj hle
  · -- `k` is the first index without an entry: the window is the whole of `τ`
    obtain rfl : j = 0 := by clear hk ht hw hle hlen' hklt; omega
    exact minSpan_snoc_first τ k t (by rw [← hj, Nat.zero_add]) hle

theorem traceAux_inv (p : Nat) : ∀ (rest τ d : List Nat), (τ ++ rest).Pairwise (· ≤ ·) →
    TraceInv p τ d → TraceInv p (τ ++ rest) (curveFromTraceAux p rest d (τ.reverse.take p)) := by
  intro rest
  induction rest with
  | nil => intro τ d _ h; rw [List.append_nil]; exact h
  | cons t ts ih =>
    intro τ d hs h
    rw [List.append_cons] at hs ⊢
    have ht : ∀ v ∈ τ, v ≤ t := fun v hv =>
      (List.pairwise_append.1 (List.pairwise_append.1 hs).1).2.2 v hv t (List.mem_singleton.2 rfl)
    have := ih (τ ++ [t]) _ hs (traceInv_snoc p τ d t ht h)
    rw [List.reverse_append, List.reverse_singleton, List.singleton_append, ← take_cons_take] at this
    exact this

theorem curveFromTrace_spec (τ : List Nat) (hs : τ.Pairwise (· ≤ ·)) (p : Nat) :
    TraceInv p τ (curveFromTrace τ p) := by
  have := traceAux_inv p τ [] [] (by rw [List.nil_append]; exact hs) ⟨(Nat.min_zero p).symm, fun k hk => by cases hk⟩
  rw [List.nil_append, List.reverse_nil, List.take_nil] at this
  exact this

theorem curveFromTrace_respects (τ : List Nat) (hs : τ.Pairwise (· ≤ ·)) (p : Nat) :
    Respects (curveFromTrace τ p) τ := by
  refine ⟨hs, fun i k hk hi => ?_⟩
  have := ((curveFromTrace_spec τ hs p).2 k hk).1 i hi
  omega

theorem curveFromTrace_sorted (τ : List Nat) (hs : τ.Pairwise (· ≤ ·)) (p : Nat) :
    (curveFromTrace τ p).Pairwise (· ≤ ·) := by
  apply sorted_of_adjacent
  intro k hk
  obtain ⟨_, hspec⟩ := curveFromTrace_spec τ hs p
  obtain ⟨i, hi, hatt⟩ := (hspec (k + 1) hk).2
  have h1 := (hspec k (by omega)).1 i (by omega)
  have h2 := sorted_getD_le τ hs (i + k + 1) (i + (k + 1) + 1) (by omega) hi
  omega

/-- C12: the inferred curve bounds the number of trace events in every window of every
length (also far beyond the recorded prefix), provided it is usable at all (at least two
events, `p ≥ 1`, and not all of the first `p + 1` spans are zero) -/
theorem curveFromTrace_bounds (τ : List Nat) (hs : τ.Pairwise (· ≤ ·)) (p : Nat)
    (hne : curveFromTrace τ p ≠ []) (hlast : 1 ≤ (curveFromTrace τ p).getLastD 0) (t x : Nat) :
    cnt τ t x ≤ curveN (curveFromTrace τ p) x :=
  curve_bounds _ ⟨hne, curveFromTrace_sorted τ hs p, hlast⟩ τ (curveFromTrace_respects τ hs p) t x

/-- `l` = the increase points of `N` in `(lo, h]`, ascending -/
def IncPts (N : Nat → Nat) (lo h : Nat) (l : List Nat) : Prop :=
  l.Pairwise (· < ·) ∧ ∀ δ, δ ∈ l ↔ (lo < δ ∧ δ ≤ h ∧ N (δ - 1) < N δ)

theorem StepsSpec.incPts {N : Nat → Nat} {H : Nat} {l : List Nat} (h : StepsSpec N H l) :
    IncPts N 0 H l :=
  ⟨h.1, fun δ => by rw [h.2 δ]; omega⟩

theorem IncPts.tail {N : Nat → Nat} {lo h δ : Nat} {rest : List Nat}
    (hp : IncPts N lo h (δ :: rest)) : IncPts N δ h rest := by
  obtain ⟨hpw, hmem⟩ := hp
  rw [List.pairwise_cons] at hpw
  refine ⟨hpw.2, fun δ' => ?_⟩
  have hδ := (hmem δ).1 List.mem_cons_self
  constructor
  · intro h
    have h1 := (hmem δ').1 (List.mem_cons_of_mem _ h)
    exact ⟨hpw.1 δ' h, h1.2⟩
  · rintro ⟨h1, h2, h3⟩
    have := (hmem δ').2 ⟨by omega, h2, h3⟩
    rw [List.mem_cons] at this
    rcases this with h | h
    · omega
    · exact h

theorem IncPts.const_below {N : Nat → Nat} (hm : MonoN N) {lo h δ : Nat} {rest : List Nat}
    (hp : IncPts N lo h (δ :: rest)) (x : Nat) (h1 : lo ≤ x) (h2 : x < δ) : N x = N lo := by
  obtain ⟨hpw, hmem⟩ := hp
  rw [List.pairwise_cons] at hpw
  have hδ := (hmem δ).1 List.mem_cons_self
  apply const_of_no_increase N hm lo x h1
  intro y hy1 hy2 hy3
  have := (hmem y).2 ⟨hy1, by omega, hy3⟩
  rw [List.mem_cons] at this
  rcases this with h | h
  · omega
  · have := hpw.1 y h; omega

theorem IncPts.const_nil {N : Nat → Nat} (hm : MonoN N) {lo h : Nat}
    (hp : IncPts N lo h []) (x : Nat) (h1 : lo ≤ x) (h2 : x ≤ h) : N x = N lo := by
  apply const_of_no_increase N hm lo x h1
  intro y hy1 hy2 hy3
  have := (hp.2 y).2 ⟨hy1, by omega, hy3⟩
  simp at this

theorem mem_emit (next cnt δ n x : Nat) :
    (n, x) ∈ (List.range (cnt + 1 - next)).map (fun i => (next + i, δ - 1)) ↔
      (x = δ - 1 ∧ next ≤ n ∧ n ≤ cnt) := by
  rw [List.mem_map]
  constructor
  · rintro ⟨i, hi, e⟩
    rw [List.mem_range] at hi
    simp only [Prod.mk.injEq] at e
    omega
  · rintro ⟨h1, h2, h3⟩
    refine ⟨n - next, List.mem_range.2 (by omega), ?_⟩
    simp only [Prod.mk.injEq]
    omega

theorem dminScan_mem (N : Nat → Nat) (hm : MonoN N) (H : Nat) : ∀ (steps : List Nat) (lo next : Nat),
    IncPts N lo H steps → next = max 2 (N lo + 1) →
    ∀ n x, (n, x) ∈ dminScan N steps next ↔
      (2 ≤ n ∧ lo ≤ x ∧ x + 1 ≤ H ∧ N x < n ∧ n ≤ N (x + 1)) := by
  intro steps
  induction steps with
  | nil =>
    intro lo next hp hnext n x
    simp only [dminScan, List.not_mem_nil, false_iff]
    rintro ⟨_, h2, h3, h4, h5⟩
    have := hp.const_nil hm (x + 1) (by omega) h3
    have := hp.const_nil hm x h2 (by omega)
    omega
  | cons δ rest ih =>
    intro lo next hp hnext n x
    have hδ := (hp.2 δ).1 List.mem_cons_self
    have hlo : N (δ - 1) = N lo := hp.const_below hm (δ - 1) (by omega) (by omega)
    -- `N` is constant on `[lo, δ)`: a window length that gains events is `δ - 1` or at least `δ`
    have hx : lo ≤ x → N x < N (x + 1) → x + 1 = δ ∨ δ ≤ x := by
      intro h1 h2
      by_cases h : x + 1 < δ
      · have := hp.const_below hm x h1 (by omega)
        have := hp.const_below hm (x + 1) (by omega) h
        omega
      · omega
    have hn2 : 2 ≤ next := hnext ▸ Nat.le_max_left _ _
    have hnlo : N lo < next := hnext ▸ Nat.le_max_right _ _
    simp only [dminScan]
    split
    · rw [List.mem_append, mem_emit, ih δ (N δ + 1) hp.tail (by omega) n x]
      constructor
      · rintro (⟨rfl, h2, h3⟩ | ⟨h1, h2, h3, h4, h5⟩)
        · rw [Nat.sub_add_cancel (Nat.le_of_lt_succ (Nat.succ_lt_succ (Nat.zero_lt_of_lt hδ.1)))]
          exact ⟨Nat.le_trans hn2 h2, Nat.le_sub_one_of_lt hδ.1, hδ.2.1,
            hlo ▸ Nat.lt_of_lt_of_le hnlo h2, h3⟩
        · exact ⟨h1, Nat.le_trans (Nat.le_of_lt hδ.1) h2, h3, h4, h5⟩
      · rintro ⟨h1, h2, h3, h4, h5⟩
        rcases hx h2 (Nat.lt_of_lt_of_le h4 h5) with h | h
        · subst h
          rw [Nat.add_sub_cancel] at hlo ⊢
          exact Or.inl ⟨rfl, hnext ▸ Nat.max_le.2 ⟨h1, hlo ▸ h4⟩, h5⟩
        · exact Or.inr ⟨h1, h, h3, h4, h5⟩
    · rw [ih δ next hp.tail (by omega) n x]
      constructor
      · rintro ⟨h1, h2, h3, h4, h5⟩
        exact ⟨h1, Nat.le_trans (Nat.le_of_lt hδ.1) h2, h3, h4, h5⟩
      · rintro ⟨h1, h2, h3, h4, h5⟩
        rcases hx h2 (Nat.lt_of_lt_of_le h4 h5) with h | h
        · subst h
          rw [Nat.add_sub_cancel] at hlo
          omega
        · exact ⟨h1, h, h3, h4, h5⟩

theorem dminScan_fst (N : Nat → Nat) : ∀ (steps : List Nat) (next : Nat),
    (dminScan N steps next).map (·.1) =
      (List.range (dminScan N steps next).length).map (· + next) := by
  intro steps
  induction steps with
  | nil => intro next; simp [dminScan]
  | cons δ rest ih =>
    intro next
    simp only [dminScan]
    by_cases hc : next ≤ N δ
    · rw [if_pos hc, List.map_append, List.length_append, List.length_map, List.length_range,
        List.range_add, List.map_append, ih, List.map_map, List.map_map]
      congr 1
      · apply List.map_congr_left
        intro i _
        simp only [Function.comp]
        omega
      · apply List.map_congr_left
        intro i _
        simp only [Function.comp]
        omega
    · rw [if_neg hc, ih]

theorem dminScan_snd_mem (N : Nat → Nat) : ∀ (steps : List Nat) (next : Nat),
    ∀ v ∈ (dminScan N steps next).map (·.2), ∃ δ ∈ steps, v = δ - 1 := by
  intro steps
  induction steps with
  | nil => intro next v hv; simp [dminScan] at hv
  | cons δ rest ih =>
    intro next v hv
    simp only [dminScan] at hv
    split at hv
    · rw [List.map_append, List.mem_append] at hv
      rcases hv with hv | hv
      · rw [List.map_map, List.mem_map] at hv
        obtain ⟨i, _, e⟩ := hv
        exact ⟨δ, List.mem_cons_self, e.symm⟩
      · obtain ⟨δ', h1, h2⟩ := ih _ v hv
        exact ⟨δ', List.mem_cons_of_mem _ h1, h2⟩
    · obtain ⟨δ', h1, h2⟩ := ih _ v hv
      exact ⟨δ', List.mem_cons_of_mem _ h1, h2⟩

theorem dminScan_snd_sorted (N : Nat → Nat) : ∀ (steps : List Nat) (next : Nat),
    steps.Pairwise (· < ·) → ((dminScan N steps next).map (·.2)).Pairwise (· ≤ ·) := by
  intro steps
  induction steps with
  | nil => intro next _; simp [dminScan]
  | cons δ rest ih =>
    intro next hpw
    rw [List.pairwise_cons] at hpw
    simp only [dminScan]
    split
    · rw [List.map_append, List.pairwise_append]
      refine ⟨?_, ih _ hpw.2, ?_⟩
      · rw [List.map_map, List.pairwise_map]
        exact List.pairwise_of_forall (fun _ _ => Nat.le_refl _)
      · intro u hu v hv
        rw [List.map_map, List.mem_map] at hu
        obtain ⟨i, _, e⟩ := hu
        obtain ⟨δ', h1, h2⟩ := dminScan_snd_mem N rest _ v hv
        have := hpw.1 δ' h1
        simp only [Function.comp] at e
        omega
    · exact ih _ hpw.2

/-- for `n ≥ 2`, `(n, x)` is reported (within horizon `H`) exactly when `n` events fit into
some window of length `x + 1` but into no window of length `x` -/
theorem dminEntries_dual (a : Arr) (hwf : a.WF) (hex : a.Exact) (H n x : Nat) :
    (n, x) ∈ a.dminEntries H ↔ (2 ≤ n ∧ x + 1 ≤ H ∧ a.N x < n ∧ n ≤ a.N (x + 1)) := by
  have hs := Arr.steps_spec a hwf hex H
  unfold Arr.dminEntries
  rw [dminScan_mem a.N (Arr.N_mono a hwf) H (a.stepsUpTo H) 0 2 hs.incPts
    (by rw [Arr.N_zero]; rfl) n x]
  omega

theorem dminEntries_shape (a : Arr) (hwf : a.WF) (hex : a.Exact) (H : Nat) :
    ((a.dminEntries H).map (·.1) = (List.range (a.dminEntries H).length).map (· + 2)) ∧
    ((a.dminEntries H).map (·.2)).Pairwise (· ≤ ·) :=
  ⟨dminScan_fst a.N _ 2, dminScan_snd_sorted a.N _ 2 (Arr.steps_spec a hwf hex H).1⟩

def SubAdditive (N : Nat → Nat) : Prop := ∀ a b, N (a + b) ≤ N a + N b

/-- a delta-min vector that is the exact dual of `N` on its range: entry `k` is the `x`
with `N x < k + 2 ≤ N (x + 1)` -/
def DualOf (N : Nat → Nat) (d : List Nat) : Prop :=
  ∀ k, k < d.length → N (d.getD k 0) < k + 2 ∧ k + 2 ≤ N (d.getD k 0 + 1)

theorem subadd_mul (N : Nat → Nat) (hsub : SubAdditive N) (L t : Nat) : ∀ q,
    N (q * L + t) ≤ q * N L + N t := by
  intro q
  induction q with
  | zero => simp
  | succ q ih =>
    have e : (q + 1) * L + t = L + (q * L + t) := by rw [Nat.add_mul]; omega
    rw [e, Nat.add_mul, Nat.one_mul]
    have := hsub L (q * L + t)
    omega

theorem dual_eq_below (N : Nat → Nat) (d : List Nat) (hN0 : N 0 = 0) (hpos : 1 ≤ N 1)
    (hmono : MonoN N) (hwf : curveWF d) (hdual : DualOf N d) (x : Nat)
    (hx : x < d.getLastD 0) : curveN d x = N x := by
  by_cases hx0 : x = 0
  · subst hx0; rw [curveN_zero, hN0]
  · rw [curveN_small_le d hwf x (by omega) (Nat.le_of_lt hx)]
    have hc := countLt_lt_length d hwf.1 x (Nat.le_of_lt hx)
    have h1 := getD_ge_of_countLt d hwf.2.1 x (countLt d x) (Nat.le_refl _) hc
    have h2 := hmono _ _ h1
    have h3 := (hdual (countLt d x) hc).1
    by_cases hc0 : countLt d x = 0
    · have := hmono 1 x (by omega)
      omega
    · have h4 := getD_lt_of_countLt d hwf.2.1 x (countLt d x - 1) (by omega)
      have h5 := (hdual (countLt d x - 1) (by omega)).2
      have h6 := hmono (d.getD (countLt d x - 1) 0 + 1) x (by omega)
      omega

theorem exists_cross (N : Nat → Nat) (n : Nat) (h0 : N 0 < n) : ∀ H, n ≤ N H →
    ∃ x, x + 1 ≤ H ∧ N x < n ∧ n ≤ N (x + 1) := by
  intro H
  induction H with
  | zero => intro h; omega
  | succ H ih =>
    intro h
    by_cases hH : n ≤ N H
    · obtain ⟨x, h1, h2⟩ := ih hH
      exact ⟨x, by omega, h2⟩
    · exact ⟨H, Nat.le_refl _, by omega, h⟩

theorem fst_of_consecutive (l : List (Nat × Nat)) (s : Nat)
    (h : l.map (·.1) = (List.range l.length).map (· + s)) (i : Nat) (hi : i < l.length) :
    (l[i]).1 = i + s := by
  have h1 : (l.map (·.1))[i]? = ((List.range l.length).map (· + s))[i]? := by rw [h]
  rw [List.getElem?_map, List.getElem?_map, List.getElem?_eq_getElem hi,
    List.getElem?_eq_getElem (by simpa using hi)] at h1
  simpa using h1

theorem filter_consecutive (m : Nat) : ∀ (l : List (Nat × Nat)) (s : Nat),
    l.map (·.1) = (List.range l.length).map (· + s) →
    l.filter (fun e => decide (e.1 ≤ m)) = l.take (m + 1 - s) := by
  intro l
  induction l with
  | nil => intro s _; simp
  | cons e l ih =>
    intro s h
    rw [List.length_cons, List.range_succ_eq_map, List.map_cons, List.map_cons, List.map_map] at h
    rw [List.cons.injEq] at h
    obtain ⟨he, hl⟩ := h
    have hl' : l.map (·.1) = (List.range l.length).map (· + (s + 1)) := by
      rw [hl]
      apply List.map_congr_left
      intro i _
      simp only [Function.comp]
      omega
    have ih' := ih (s + 1) hl'
    rw [List.filter_cons]
    simp only [Nat.zero_add] at he
    by_cases hs : s ≤ m
    · rw [if_pos (by simpa [he] using hs), ih']
      obtain ⟨j, hj⟩ : ∃ j, m + 1 - s = j + 1 := ⟨m - s, by omega⟩
      rw [hj, List.take_succ_cons]
      congr 2
      omega
    · rw [if_neg (by simpa [he] using hs), ih']
      have e1 : m + 1 - (s + 1) = 0 := by omega
      have e2 : m + 1 - s = 0 := by omega
      rw [e1, e2]; rfl

theorem dual_curve_dominates (N : Nat → Nat) (d : List Nat) (hN0 : N 0 = 0)
    (hmono : MonoN N) (hsub : SubAdditive N) (hwf : curveWF d) (hdual : DualOf N d) (x : Nat) :
    N x ≤ curveN d x := by
  by_cases hx0 : x = 0
  · subst hx0; rw [hN0]; exact Nat.zero_le _
  obtain ⟨c, t, ht1, ht, hx, hN⟩ := curveN_decomp d hwf x (by omega)
  have hlen : 0 < d.length := List.length_pos_iff.2 hwf.1
  have h1 := subadd_mul N hsub (d.getLastD 0) t c
  have h2 := (hdual (d.length - 1) (by omega)).1
  rw [getD_last d] at h2
  have h3 : c * N (d.getLastD 0) ≤ c * d.length := Nat.mul_le_mul_left c (by omega)
  have hc := countLt_lt_length d hwf.1 t ht
  have h4 := getD_ge_of_countLt d hwf.2.1 t (countLt d t) (Nat.le_refl _) hc
  have h5 := hmono _ _ h4
  have h6 := (hdual (countLt d t) hc).1
  rw [hN, hx]
  omega

theorem dminEntries_fst (a : Arr) (hwf : a.WF) (hex : a.Exact) (H i : Nat)
    (hi : i < (a.dminEntries H).length) : ((a.dminEntries H)[i]).1 = i + 2 :=
  fst_of_consecutive _ 2 (dminEntries_shape a hwf hex H).1 i hi

theorem dminEntries_facts (a : Arr) (hwf : a.WF) (hex : a.Exact) (H : Nat) (e : Nat × Nat)
    (he : e ∈ a.dminEntries H) :
    2 ≤ e.1 ∧ e.2 + 1 ≤ H ∧ a.N e.2 < e.1 ∧ e.1 ≤ a.N (e.2 + 1) ∧ e.1 ≤ a.N H := by
  have h := (dminEntries_dual a hwf hex H e.1 e.2).1 he
  have := Arr.N_mono a hwf (e.2 + 1) H h.2.1
  exact ⟨h.1, h.2.1, h.2.2.1, h.2.2.2, by omega⟩

theorem dminEntries_exists (a : Arr) (hwf : a.WF) (hex : a.Exact) (H n : Nat) (h2 : 2 ≤ n)
    (hn : n ≤ a.N H) : ∃ x, (n, x) ∈ a.dminEntries H := by
  obtain ⟨x, h1, h2', h3⟩ := exists_cross a.N n (by rw [Arr.N_zero]; omega) H hn
  exact ⟨x, (dminEntries_dual a hwf hex H n x).2 ⟨h2, h1, h2', h3⟩⟩

theorem dminEntries_length (a : Arr) (hwf : a.WF) (hex : a.Exact) (H : Nat) :
    (a.dminEntries H).length = a.N H - 1 := by
  have hfst := (dminEntries_shape a hwf hex H).1
  apply Nat.le_antisymm
  · by_cases hL : (a.dminEntries H).length = 0
    · omega
    · have hi : (a.dminEntries H).length - 1 < (a.dminEntries H).length := by omega
      have h1 := dminEntries_fst a hwf hex H _ hi
      have h2 := dminEntries_facts a hwf hex H _ (List.getElem_mem hi)
      omega
  · by_cases hN : 2 ≤ a.N H
    · obtain ⟨x, hx⟩ := dminEntries_exists a hwf hex H (a.N H) hN (Nat.le_refl _)
      have : a.N H ∈ (a.dminEntries H).map (·.1) := List.mem_map.2 ⟨_, hx, rfl⟩
      rw [hfst, List.mem_map] at this
      obtain ⟨i, hi, e⟩ := this
      rw [List.mem_range] at hi
      omega
    · omega

/-- `Curve::from_arrival_bound(&a, up_to)` is the dual of `a` with `max up_to 3 - 1` entries,
when the doubling search of the model finds a horizon with enough arrivals -/
theorem curveOfBound_dual (a : Arr) (hwf : a.WF) (hex : a.Exact) (upTo : Nat)
    (hreach : max upTo 3 + 1 ≤ a.N (Arr.horizonFor a (max upTo 3 + 1) 64 1)) :
    (a.curveOfBound upTo).length = max upTo 3 - 1 ∧ DualOf a.N (a.curveOfBound upTo) ∧
    (a.curveOfBound upTo).Pairwise (· ≤ ·) := by
  unfold Arr.curveOfBound
  simp only []
  generalize hm : max upTo 3 = m at *
  generalize hH : Arr.horizonFor a (m + 1) 64 1 = H at *
  have hm3 : 3 ≤ m := by omega
  obtain ⟨hfst, hsnd⟩ := dminEntries_shape a hwf hex H
  have hEl := dminEntries_length a hwf hex H
  have hEf := dminEntries_fst a hwf hex H
  have hEd := dminEntries_facts a hwf hex H
  generalize a.dminEntries H = E at *
  rw [filter_consecutive m E 2 hfst, show m + 1 - 2 = m - 1 by omega]
  have hlen : ((E.take (m - 1)).map (·.2)).length = m - 1 := by
    rw [List.length_map, List.length_take]; omega
  refine ⟨hlen, ?_, ?_⟩
  · intro k hk
    rw [hlen] at hk
    have hkE : k < E.length := by omega
    have hget : ((E.take (m - 1)).map (·.2)).getD k 0 = (E[k]).2 := by
      rw [List.getD_eq_getElem?_getD, List.getElem?_map, List.getElem?_take, if_pos hk,
        List.getElem?_eq_getElem hkE]
      rfl
    have := hEd _ (List.getElem_mem hkE)
    rw [hEf k hkE] at this
    rw [hget]
    exact ⟨this.2.2.1, this.2.2.2.1⟩
  · rw [List.map_take]
    exact hsnd.sublist (List.take_sublist _ _)

/-- C12 for `Curve::from_arrival_bound`: never smaller than the source at any interval
length, equal to it up to the covered prefix -/
theorem curveOfBound_dominates (a : Arr) (hwf : a.WF) (hex : a.Exact) (upTo : Nat)
    (hreach : max upTo 3 + 1 ≤ a.N (Arr.horizonFor a (max upTo 3 + 1) 64 1))
    (hpos : 1 ≤ a.N 1) (hsub : SubAdditive a.N) (hlast : 1 ≤ (a.curveOfBound upTo).getLastD 0) :
    (∀ x, a.N x ≤ curveN (a.curveOfBound upTo) x) ∧
    (∀ x, x < (a.curveOfBound upTo).getLastD 0 → curveN (a.curveOfBound upTo) x = a.N x) := by
  obtain ⟨hlen, hdual, hsorted⟩ := curveOfBound_dual a hwf hex upTo hreach
  have hne : a.curveOfBound upTo ≠ [] := by
    intro h
    rw [h] at hlen
    simp at hlen
    omega
  have hwfC : curveWF (a.curveOfBound upTo) := ⟨hne, hsorted, hlast⟩
  exact ⟨dual_curve_dominates a.N _ (Arr.N_zero a) (Arr.N_mono a hwf) hsub hwfC hdual,
    dual_eq_below a.N _ (Arr.N_zero a) hpos (Arr.N_mono a hwf) hwfC hdual⟩

/-- `From<Periodic> for Curve` is exact everywhere -/
theorem curveOfPeriodic_eq (T : Nat) (hT : 1 ≤ T) (x : Nat) :
    curveN (curveOfPeriodic T) x = (Arr.periodic T).N x := by
  rw [periodic_N_eq]
  exact curveN_singleton T x hT

theorem prefixOfBoundUntil_ok (N : Nat → Nat) (hm : MonoN N) (h : Nat) : ∀ (l : List Nat) (lo last : Nat),
    IncPts N lo h l → last ≤ N lo →
    Arr.prefixOfBoundUntil.ok h (l.map fun δ => (δ, N δ)) last = true := by
  intro l
  induction l with
  | nil => intro lo last _ _; simp [Arr.prefixOfBoundUntil.ok]
  | cons δ rest ih =>
    intro lo last hp hl
    have hδ := (hp.2 δ).1 List.mem_cons_self
    have hc := hp.const_below hm (δ - 1) (by omega) (by omega)
    simp only [List.map_cons, Arr.prefixOfBoundUntil.ok, Bool.and_eq_true, decide_eq_true_eq]
    exact ⟨⟨hδ.2.1, by omega⟩, ih δ (N δ) hp.tail (Nat.le_refl _)⟩

theorem pfxLk_incPts (N : Nat → Nat) (hm : MonoN N) (h : Nat) : ∀ (l : List Nat) (lo x : Nat),
    IncPts N lo h l → lo ≤ x → x ≤ h →
    pfxLk (l.map fun δ => (δ, N δ)) (N lo) x = N x := by
  intro l
  induction l with
  | nil =>
    intro lo x hp h1 h2
    simp only [List.map_nil, pfxLk]
    exact (hp.const_nil hm x h1 h2).symm
  | cons δ rest ih =>
    intro lo x hp h1 h2
    simp only [List.map_cons, pfxLk]
    by_cases hx : δ ≤ x
    · rw [if_pos hx]
      exact ih δ x hp.tail hx h2
    · rw [if_neg hx]
      exact (hp.const_below hm x h1 (by omega)).symm

theorem incPts_chain (N : Nat → Nat) (hm : MonoN N) (h : Nat) : ∀ (l : List Nat) (lo : Nat),
    IncPts N lo h l →
    (l.map fun δ => (δ, N δ)).Pairwise (fun a b => a.1 < b.1 ∧ a.2 < b.2) := by
  intro l
  induction l with
  | nil => intro lo _; simp
  | cons δ rest ih =>
    intro lo hp
    rw [List.map_cons, List.pairwise_cons]
    refine ⟨?_, ih δ hp.tail⟩
    intro s hs
    rw [List.mem_map] at hs
    obtain ⟨δ', hδ', rfl⟩ := hs
    have h1 := (hp.tail.2 δ').1 hδ'
    have h2 := hm δ (δ' - 1) (by omega)
    exact ⟨h1.1, by show N δ < N δ'; omega⟩

/-- C12 for `ArrivalCurvePrefix::from_arrival_bound_until`: well-formed, equal to the source
up to the horizon, never smaller beyond it (for sub-additive sources) -/
theorem prefixOfBoundUntil_spec (a : Arr) (hwf : a.WF) (hex : a.Exact) (h : Nat) (hh : 1 ≤ h)
    (hpos : 1 ≤ a.N 1) :
    ∃ steps, a.prefixOfBoundUntil h = some steps ∧ prefixWF h steps ∧
      (∀ x, x ≤ h → prefixN h steps x = a.N x) ∧
      (SubAdditive a.N → ∀ x, a.N x ≤ prefixN h steps x) := by
  have hm := Arr.N_mono a hwf
  have hN0 := Arr.N_zero a
  have hs := Arr.steps_spec a hwf hex h
  have hp : IncPts a.N 0 h (a.stepsUpTo h) := hs.incPts
  have hmax : max h 1 = h := by omega
  refine ⟨(a.stepsUpTo h).map fun δ => (δ, a.N δ), ?_, ?_⟩
  · unfold Arr.prefixOfBoundUntil
    simp only [hmax]
    rw [if_pos (prefixOfBoundUntil_ok a.N hm h _ 0 0 hp (Nat.zero_le _))]
  generalize hS : a.stepsUpTo h = S at *
  have hwfP : prefixWF h (S.map fun δ => (δ, a.N δ)) := by
    have h1mem : 1 ∈ S := (hp.2 1).2 ⟨by omega, hh, by rw [hN0]; omega⟩
    cases S with
    | nil => simp at h1mem
    | cons δ rest =>
      have hδ := (hp.2 δ).1 List.mem_cons_self
      have hδ1 : δ = 1 := by
        rw [List.mem_cons] at h1mem
        rcases h1mem with h | h
        · exact h.symm
        · have := (List.pairwise_cons.1 hp.1).1 1 h
          omega
      subst hδ1
      refine ⟨hh, by simp, rfl, hpos, incPts_chain a.N hm h _ 0 hp, ?_⟩
      intro s hs
      rw [List.mem_map] at hs
      obtain ⟨δ', hδ', rfl⟩ := hs
      exact ((hp.2 δ').1 hδ').2.1
  have hlk : ∀ x, x ≤ h → pfxLk (S.map fun δ => (δ, a.N δ)) 0 x = a.N x := by
    intro x hx
    have := pfxLk_incPts a.N hm h S 0 x hp (Nat.zero_le _) hx
    rwa [hN0] at this
  have heq : ∀ x, x ≤ h → prefixN h (S.map fun δ => (δ, a.N δ)) x = a.N x := by
    intro x hx
    have f := prefixN_form hwfP 0 x hx
    rw [Nat.zero_mul, Nat.zero_add, Nat.mul_zero, Nat.zero_add] at f
    rw [f, hlk x hx]
  refine ⟨hwfP, heq, fun hsub x => ?_⟩
  have sm := subadd_mul a.N hsub h (x % h) (x / h)
  rw [Nat.mul_comm (x / h) h, Nat.div_add_mod] at sm
  rw [prefixN_divmod hwfP x, ← pfxLk_all _ 0 h (prefixWF_le_horizon hwfP), hlk h (Nat.le_refl _),
    hlk _ (Nat.le_of_lt (Nat.mod_lt x hh)), Nat.mul_comm]
  exact sm

theorem subadditive_sum (N1 N2 : Nat → Nat) (h1 : SubAdditive N1) (h2 : SubAdditive N2) :
    SubAdditive (fun d => N1 d + N2 d) := by
  intro a b
  have := h1 a b
  have := h2 a b
  show N1 (a + b) + N2 (a + b) ≤ N1 a + N2 a + (N1 b + N2 b)
  omega

end RTA
