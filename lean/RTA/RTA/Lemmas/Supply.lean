import RTA.Model.Supply
import RTA.Lemmas.FixedPoint
import RTA.Spec.SupplyProc
/-! The supply-bound functions and their inverses (C09), for ALL parameters `1 ≤ Q ≤ D ≤ P` and
all arguments; what that gives for the fixed-point search over a well-formed supply (C08:
`Supply.search_spec`); at the end, soundness and attainment of the supply-bound function against
supply processes (`cSbf_sound`, `worst_compliant`, `cSbf_attained`). -/

namespace RTA
open RTA.Spec

/-! Every `t ≥ P - Q` is `(P - Q) + P * k + m` with `m < P`, every demand `d > 0` is `Q * q + r`
with `0 < r ≤ Q`.  On these shapes the functions are division-free, and `service_time` lands
on the shape of `provided_service`: `cSt (Q * q + r) = (P - Q) + P * q + (D - Q + r)`.  The
closed form of `cSbf` also holds at `m = P`, so stepping from `t` to `t + 1` never leaves the
period `k`. -/

theorem cSbf_lo (Q D P t : Nat) (h : t < P - Q) : cSbf Q D P t = 0 := by
  unfold cSbf
  simp only []
  rw [if_pos h]

theorem cSbf_nf (Q D P : Nat) (hQ : 1 ≤ Q) (hQD : Q ≤ D) (hDP : D ≤ P) (t k m : Nat)
    (ht : t = (P - Q) + P * k + m) (hm : m ≤ P) :
    cSbf Q D P t = Q * k + min Q (m - (D - Q)) := by
  subst ht
  have hdiv : ((P - Q) + P * k + m - (P - Q)) / P = k + m / P := by
    rw [Nat.add_assoc, Nat.add_sub_cancel_left, Nat.mul_add_div (by omega)]
  unfold cSbf
  simp only []
  rw [if_neg (by omega), hdiv, Nat.add_sub_assoc hQD]
  generalize P - Q = s
  generalize he : D - Q = e
  rcases Nat.lt_or_eq_of_le hm with hlt | rfl
  · rw [Nat.div_eq_of_lt hlt, Nat.add_zero]
    simp only [Nat.add_lt_add_iff_left, Nat.add_sub_add_left]
    split
    · rfl
    · omega
  · rw [Nat.div_self (by omega), Nat.mul_succ, Nat.mul_succ, if_neg (by omega)]
    omega

theorem exists_km (Q P t : Nat) (hP : 0 < P) (h : P - Q ≤ t) :
    ∃ k m, m < P ∧ t = (P - Q) + P * k + m := by
  refine ⟨(t - (P - Q)) / P, (t - (P - Q)) % P, Nat.mod_lt _ hP, ?_⟩
  have hd := Nat.div_add_mod (t - (P - Q)) P
  omega

theorem exists_qr (Q d : Nat) (hQ : 0 < Q) (hd : 0 < d) :
    ∃ q r, 0 < r ∧ r ≤ Q ∧ d = Q * q + r := by
  refine ⟨(d - 1) / Q, (d - 1) % Q + 1, Nat.succ_pos _, Nat.mod_lt _ hQ, ?_⟩
  have h := Nat.div_add_mod (d - 1) Q
  omega

theorem cSt_zero (Q D P : Nat) : cSt Q D P 0 = 0 := by
  unfold cSt
  rw [if_pos rfl]

theorem cSt_nf (Q D P : Nat) (hQD : Q ≤ D) (hDP : D ≤ P) (q r : Nat) (hr0 : 0 < r)
    (hr : r ≤ Q) : cSt Q D P (Q * q + r) = (P - Q) + P * q + (D - Q + r) := by
  have hdiv : (Q * q + r) / Q = q + r / Q := Nat.mul_add_div (by omega) q r
  unfold cSt
  simp only []
  rw [if_neg (by omega), hdiv]
  rcases Nat.lt_or_eq_of_le hr with hlt | rfl
  · rw [Nat.div_eq_of_lt hlt, Nat.add_zero]
    generalize Q * q = qq
    generalize P * q = pq
    rw [if_pos (by omega)]; omega
  · rw [Nat.div_self hr0, Nat.mul_add, Nat.mul_add, Nat.mul_one, Nat.mul_one]
    generalize r * q = qq
    generalize P * q = pq
    rw [if_neg (by omega)]; omega

theorem pSbf_eq_cSbf (Q P : Nat) (hQ : 1 ≤ Q) (hQP : Q ≤ P) (t : Nat) :
    pSbf Q P t = cSbf Q P P t := by
  unfold pSbf cSbf
  simp only []
  split
  · rfl
  · -- both take the same `x`; the fraction `t - x` stays below `Q` by itself
    have hd := Nat.div_add_mod (t - (P - Q)) P
    have hm := Nat.mod_lt (t - (P - Q)) (show 0 < P by omega)
    generalize (t - (P - Q)) / P = k at hd
    generalize (t - (P - Q)) % P = m at hd hm
    generalize P * k = pk at hd
    have hx : P - Q + pk + P - Q = P - Q + (P - Q) + pk := by omega
    rw [hx]
    split
    · rw [Nat.min_eq_right (by omega)]
    · rfl

theorem pSt_eq_cSt (Q P : Nat) (hQP : Q ≤ P) (d : Nat) :
    pSt Q P d = cSt Q P P d := by
  unfold pSt cSt
  simp only []
  split
  · rfl
  · generalize Q * (d / Q) = qq
    generalize P * (d / Q) = pq
    split <;> omega

theorem cSbf_eq_pSbf (Q P : Nat) (hQ : 1 ≤ Q) (hQP : Q ≤ P) (t : Nat) :
    cSbf Q P P t = pSbf Q P t :=
  (pSbf_eq_cSbf Q P hQ hQP t).symm

theorem cSt_eq_pSt (Q P : Nat) (_hQ : 1 ≤ Q) (hQP : Q ≤ P) (d : Nat) :
    cSt Q P P d = pSt Q P d :=
  (pSt_eq_cSt Q P hQP d).symm

theorem cSbf_full (P : Nat) (hP : 1 ≤ P) (t : Nat) : cSbf P P P t = t := by
  obtain ⟨k, m, hm, rfl⟩ := exists_km P P t hP (by omega)
  rw [cSbf_nf P P P hP (Nat.le_refl _) (Nat.le_refl _) _ k m rfl (by omega)]
  omega

theorem cSt_full (P : Nat) (hP : 1 ≤ P) (d : Nat) : cSt P P P d = d := by
  rcases Nat.eq_zero_or_pos d with rfl | hd
  · exact cSt_zero _ _ _
  obtain ⟨q, r, hr0, hr, rfl⟩ := exists_qr P d hP hd
  rw [cSt_nf P P P (Nat.le_refl _) (Nat.le_refl _) q r hr0 hr]
  omega

/-! `worst` serves the budget of period 0 first and every later budget as late as the deadline
allows; `cSbf` counts its service slots from instant `Q` on (`cSbf_succ`), which gives the
laws of `cSbf` and attainment at once. -/

theorem worst_lo (Q D P t : Nat) (h : t < P) : worst Q D P t = decide (t < Q) := by
  unfold worst; rw [if_pos h]

theorem worst_hi (Q D P t k x : Nat) (ht : t = P + P * k + x) (hx : x < P) :
    worst Q D P t = decide (D - Q ≤ x ∧ x < D) := by
  subst ht
  unfold worst
  rw [if_neg (by omega), Nat.add_assoc, Nat.add_mod_left, Nat.mul_add_mod, Nat.mod_eq_of_lt hx]

theorem cSbf_zero (Q D P : Nat) (hQ : 1 ≤ Q) (hQD : Q ≤ D) (hDP : D ≤ P) : cSbf Q D P 0 = 0 := by
  by_cases h : 0 < P - Q
  · exact cSbf_lo Q D P 0 h
  · rw [cSbf_nf Q D P hQ hQD hDP 0 0 0 (by omega) (Nat.zero_le _)]; omega

theorem cSbf_succ (Q D P : Nat) (hQ : 1 ≤ Q) (hQD : Q ≤ D) (hDP : D ≤ P) (t : Nat) :
    cSbf Q D P (t + 1) = cSbf Q D P t + (if worst Q D P (Q + t) then 1 else 0) := by
  by_cases h0 : t < P - Q
  · rw [worst_lo Q D P _ (by omega), decide_eq_false (by omega), cSbf_lo Q D P t h0,
      if_neg Bool.false_ne_true]
    by_cases h1 : t + 1 < P - Q
    · exact cSbf_lo Q D P _ h1
    · rw [cSbf_nf Q D P hQ hQD hDP (t + 1) 0 0 (by omega) (Nat.zero_le _)]; omega
  · obtain ⟨k, m, hm, rfl⟩ := exists_km Q P t (by omega) (by omega)
    rw [worst_hi Q D P _ k m (by omega) hm, cSbf_nf Q D P hQ hQD hDP _ k (m + 1) (by omega) hm,
      cSbf_nf Q D P hQ hQD hDP _ k m rfl (by omega)]
    generalize Q * k = qk
    obtain ⟨e, rfl⟩ := Nat.exists_eq_add_of_le hQD
    rw [Nat.add_sub_cancel_left]
    clear hm h0 hQD hDP
    by_cases hc : e ≤ m ∧ m < Q + e
    · rw [decide_eq_true hc, if_pos rfl]; omega
    · rw [decide_eq_false hc, if_neg Bool.false_ne_true]; omega

theorem cSbf_lipschitz (Q D P : Nat) (hQ : 1 ≤ Q) (hQD : Q ≤ D) (hDP : D ≤ P) :
    Lipschitz1 (cSbf Q D P) := by
  intro t
  rw [cSbf_succ Q D P hQ hQD hDP]
  split <;> omega

/-- `service_time` is the exact inverse (Galois connection) of `provided_service` -/
theorem cGalois (Q D P : Nat) (hQ : 1 ≤ Q) (hQD : Q ≤ D) (hDP : D ≤ P) :
    Galois (cSbf Q D P) (cSt Q D P) := by
  have nf := cSbf_nf Q D P hQ hQD hDP
  refine Galois.of_least (lipschitz_mono (cSbf_lipschitz Q D P hQ hQD hDP)) ?_ ?_
  · intro d
    rcases Nat.eq_zero_or_pos d with rfl | hd
    · exact Nat.zero_le _
    obtain ⟨q, r, hr0, hr, rfl⟩ := exists_qr Q d hQ hd
    rw [cSt_nf Q D P hQD hDP q r hr0 hr, nf _ q (D - Q + r) rfl (by omega)]
    omega
  · intro d t ht
    rcases Nat.eq_zero_or_pos d with rfl | hd
    · rw [cSt_zero] at ht; omega
    obtain ⟨q, r, hr0, hr, rfl⟩ := exists_qr Q d hQ hd
    rw [cSt_nf Q D P hQD hDP q r hr0 hr] at ht
    rw [nf t q (D - Q + r - 1) (by omega) (by omega)]
    omega

theorem pSbf_zero (Q P : Nat) (hQ : 1 ≤ Q) (hQP : Q ≤ P) : pSbf Q P 0 = 0 := by
  rw [pSbf_eq_cSbf Q P hQ hQP]; exact cSbf_zero Q P P hQ hQP (Nat.le_refl _)

theorem pSbf_lipschitz (Q P : Nat) (hQ : 1 ≤ Q) (hQP : Q ≤ P) : Lipschitz1 (pSbf Q P) := by
  intro t
  rw [pSbf_eq_cSbf Q P hQ hQP, pSbf_eq_cSbf Q P hQ hQP]
  exact cSbf_lipschitz Q P P hQ hQP (Nat.le_refl _) t

theorem defaultLoop_aux (sbf st : Nat → Nat) (hl : Lipschitz1 sbf)
    (hg : Galois sbf st) (demand : Nat) :
    ∀ n t, st demand - t ≤ n → t ≤ st demand →
      defaultLoop sbf demand (st demand) t = some (st demand) := by
  intro n
  induction n with
  | zero =>
    intro t hn ht
    have e : t = st demand := by omega
    have h1 : demand ≤ sbf t := by rw [e]; exact (hg _ _).1 (Nat.le_refl _)
    unfold defaultLoop
    rw [if_pos h1, e]
  | succ n ih =>
    intro t hn ht
    unfold defaultLoop
    by_cases h1 : sbf t ≥ demand
    · rw [if_pos h1]
      have := (hg demand t).2 h1
      have e : t = st demand := by omega
      rw [e]
    · rw [if_neg h1]
      have hlt : t < st demand := by
        rcases Nat.lt_or_ge t (st demand) with h | h
        · exact h
        · exact absurd ((hg demand t).1 h) h1
      have h2 : ¬ t ≥ st demand := by omega
      rw [if_neg h2]
      have hj : t + (demand - sbf t) ≤ st demand := by
        have hb := lipschitz_add hl t (demand - sbf t - 1)
        have hnot : ¬ st demand ≤ t + (demand - sbf t - 1) := by
          intro hc
          have := (hg demand _).1 hc
          omega
        omega
      exact ih _ (by omega) hj

/-- The default `service_time` loop (from `t = demand`, advancing by the service still missing) returns
the exact inverse: `sbf` is 1-Lipschitz, so no jump passes `st demand`. -/
theorem defaultLoop_spec (sbf st : Nat → Nat) (h0 : sbf 0 = 0) (hl : Lipschitz1 sbf)
    (hg : Galois sbf st) (demand : Nat) :
    defaultLoop sbf demand (st demand) demand = some (st demand) := by
  apply defaultLoop_aux sbf st hl hg demand (st demand - demand) demand (Nat.le_refl _)
  rcases Nat.eq_zero_or_pos demand with h | h
  · omega
  · have hb := lipschitz_add hl 0 (demand - 1)
    rw [h0] at hb
    have hnot : ¬ st demand ≤ 0 + (demand - 1) := by
      intro hc
      have := (hg demand _).1 hc
      omega
    omega

/-- every well-formed supply is a deadline-constrained reservation (a dedicated processor is
the reservation with budget = deadline = period = 1) -/
theorem Supply.normal (s : Supply) (h : s.WF) :
    ∃ Q D P, 1 ≤ Q ∧ Q ≤ D ∧ D ≤ P ∧
      (∀ t, s.sbf t = cSbf Q D P t) ∧ ∀ d, s.stClosed d = cSt Q D P d := by
  induction s with
  | dedicated =>
    exact ⟨1, 1, 1, Nat.le_refl _, Nat.le_refl _, Nat.le_refl _,
      fun t => (cSbf_full 1 (Nat.le_refl _) t).symm, fun d => (cSt_full 1 (Nat.le_refl _) d).symm⟩
  | periodic Q P =>
    exact ⟨Q, P, P, h.1, h.2, Nat.le_refl _, pSbf_eq_cSbf Q P h.1 h.2, pSt_eq_cSt Q P h.2⟩
  | constrained Q D P => exact ⟨Q, D, P, h.1, h.2.1, h.2.2, fun _ => rfl, fun _ => rfl⟩
  | viaDefault s ih => exact ih h

theorem Supply.sbf_zero (s : Supply) (h : s.WF) : s.sbf 0 = 0 := by
  obtain ⟨Q, D, P, h1, h2, h3, e, -⟩ := s.normal h
  rw [e]; exact cSbf_zero Q D P h1 h2 h3

theorem Supply.sbf_lipschitz (s : Supply) (h : s.WF) : Lipschitz1 s.sbf := by
  obtain ⟨Q, D, P, h1, h2, h3, e, -⟩ := s.normal h
  intro t
  rw [e, e]; exact cSbf_lipschitz Q D P h1 h2 h3 t

theorem Supply.galois (s : Supply) (h : s.WF) : Galois s.sbf s.stClosed := by
  obtain ⟨Q, D, P, h1, h2, h3, e, e'⟩ := s.normal h
  intro d t
  rw [e, e']; exact cGalois Q D P h1 h2 h3 d t

/-- the modelled `service_time` (specialised or default implementation) never runs away
and equals the exact inverse -/
theorem Supply.st?_eq (s : Supply) (h : s.WF) (d : Nat) : s.st? d = some (s.stClosed d) := by
  cases s with
  | dedicated => rfl
  | periodic Q P => rfl
  | constrained Q D P => rfl
  | viaDefault s =>
    exact defaultLoop_spec s.sbf s.stClosed (Supply.sbf_zero s h) (Supply.sbf_lipschitz s h)
      (Supply.galois s h) d

/-- the fixed-point search over a well-formed supply, from an offset inside the busy window:
it returns the least solution if that is within the limit, the divergence error otherwise -/
theorem Supply.search_spec (s : Supply) (hs : s.WF) (w : Nat → Nat) (hw : Mono w)
    (offset limit : Nat) (hoff : InBusyWindow s.stClosed w offset) :
    (∃ r, searchWithOffset s offset limit w = .ok r ∧ Sol s.sbf w offset r ∧
        (∀ r', Sol s.sbf w offset r' → r ≤ r') ∧ r ≤ limit) ∨
    (searchWithOffset s offset limit w = .div offset limit ∧
        ∀ r, Sol s.sbf w offset r → limit < max r 1) := by
  unfold searchWithOffset
  exact searchLoop_start s.sbf s.stClosed w s.st? offset limit (Supply.st?_eq s hs)
    (Supply.galois s hs) hw hoff

theorem Supply.search_ne_panic (s : Supply) (hs : s.WF) (w : Nat → Nat) (hw : Mono w)
    (offset limit : Nat) (hoff : InBusyWindow s.stClosed w offset) :
    searchWithOffset s offset limit w ≠ .panic := by
  rcases s.search_spec hs w hw offset limit hoff with ⟨r, h, _⟩ | ⟨h, _⟩ <;> rw [h] <;>
    exact Res.noConfusion

theorem service_le_len (σ : Nat → Bool) (s len : Nat) : service σ s len ≤ len := by
  induction len with
  | zero => exact Nat.le_refl _
  | succ n ih =>
    show service σ s n + (if σ (s + n) then 1 else 0) ≤ n + 1
    split <;> omega

theorem service_add (σ : Nat → Bool) (s a b : Nat) :
    service σ s (a + b) = service σ s a + service σ (s + a) b := by
  induction b with
  | zero => rfl
  | succ n ih =>
    show service σ s (a + n) + (if σ (s + (a + n)) then 1 else 0)
      = service σ s a + (service σ (s + a) n + (if σ (s + a + n) then 1 else 0))
    rw [ih, Nat.add_assoc s a n]; omega

theorem service_mono (σ : Nat → Bool) (s a b : Nat) (h : a ≤ b) :
    service σ s a ≤ service σ s b := by
  obtain ⟨e, rfl⟩ := Nat.exists_eq_add_of_le h
  rw [service_add]; omega

/-- a window that starts with period `k`: each of its `m` whole periods holds the budget, and
the `l` slots after them miss at most the last `D - l ≤ c` slots in which it may be served -/
theorem compliant_aligned (Q D P : Nat) (hDP : D ≤ P) (σ : Nat → Bool) (hσ : Compliant Q D P σ)
    (k m l c : Nat) (hc : D ≤ l + c) :
    Q * m + Q ≤ service σ (k * P) (P * m + l) + c := by
  induction m generalizing k with
  | zero =>
    have h := Nat.le_trans (hσ k) (service_mono σ (k * P) D (l + c) hc)
    have := service_le_len σ (k * P + l) c
    rw [service_add] at h
    rw [Nat.mul_zero, Nat.zero_add, Nat.mul_zero, Nat.zero_add]
    omega
  | succ m ih =>
    have h := Nat.le_trans (hσ k) (service_mono σ (k * P) D P hDP)
    have := ih (k + 1)
    rw [Nat.mul_succ Q, Nat.mul_succ P, Nat.add_comm (P * m) P, Nat.add_assoc P, service_add,
      ← Nat.add_one_mul]
    omega

theorem cSt_served (Q D P : Nat) (hQ : 1 ≤ Q) (hQD : Q ≤ D) (hDP : D ≤ P)
    (σ : Nat → Bool) (hσ : Compliant Q D P σ) (s d : Nat) :
    d ≤ service σ s (cSt Q D P d) := by
  rcases Nat.eq_zero_or_pos d with rfl | hd
  · exact Nat.zero_le _
  obtain ⟨q, r, hr0, hr, rfl⟩ := exists_qr Q d hQ hd
  rw [cSt_nf Q D P hQD hDP q r hr0 hr]
  generalize hL : (P - Q) + P * q + (D - Q + r) = L
  replace hL : L + 2 * Q = P + P * q + D + r := by omega
  have hs := Nat.div_add_mod s P
  have ha := Nat.mod_lt s (show 0 < P by omega)
  generalize s / P = k at hs
  generalize s % P = a at hs ha
  subst hs
  rw [Nat.mul_comm P k]
  have al := compliant_aligned Q D P hDP σ hσ
  have h0 := service_le_len σ (k * P) a
  by_cases hc : 2 * Q ≤ a + D + r
  · -- the rest of period `k` (`b` slots) misses at most `a` slots of its budget; `q` periods
    -- and `l` further slots follow
    obtain ⟨l, hl⟩ := Nat.exists_eq_add_of_le hc
    obtain ⟨b, hb⟩ := Nat.exists_eq_add_of_le (Nat.le_of_lt ha)
    have e : L = b + (P * q + l) := by omega
    have h1 := Nat.le_trans (hσ k) (service_mono σ (k * P) D (a + b) (hb ▸ hDP))
    have h2 := al (k + 1) q l (2 * Q - (a + r)) (by omega)
    rw [service_add] at h1
    rw [e, service_add, Nat.add_assoc, ← hb, ← Nat.add_one_mul]
    omega
  · -- the window ends before the budget of its last period has to be served, and even its
    -- extension back to the start of period `k` serves `a` more than needed
    obtain ⟨l, hl⟩ := Nat.exists_eq_add_of_le (show 2 * Q ≤ a + P + D + r by omega)
    have e : P * q + l = a + L := by omega
    have h1 := al k q l (Q - (a + r)) (by omega)
    rw [e, service_add] at h1
    omega

/-- soundness: no compliant process delivers less than `provided_service` in any window -/
theorem cSbf_sound (Q D P : Nat) (hQ : 1 ≤ Q) (hQD : Q ≤ D) (hDP : D ≤ P)
    (σ : Nat → Bool) (hσ : Compliant Q D P σ) (s Δ : Nat) :
    cSbf Q D P Δ ≤ service σ s Δ := by
  have h1 := cSt_served Q D P hQ hQD hDP σ hσ s (cSbf Q D P Δ)
  have h2 := (cGalois Q D P hQ hQD hDP (cSbf Q D P Δ) Δ).2 (Nat.le_refl _)
  exact Nat.le_trans h1 (service_mono σ s _ _ h2)

theorem service_all_true (σ : Nat → Bool) (s n : Nat) (h : ∀ i, i < n → σ (s + i) = true) :
    service σ s n = n := by
  induction n with
  | zero => rfl
  | succ n ih =>
    show service σ s n + (if σ (s + n) then 1 else 0) = n + 1
    rw [ih (fun i hi => h i (by omega)), h n (by omega), if_pos rfl]

theorem service_ge_of_true (σ : Nat → Bool) (s a n len : Nat)
    (h : ∀ i, i < n → σ (s + a + i) = true) (hlen : a + n ≤ len) : n ≤ service σ s len := by
  have h1 := service_mono σ s (a + n) len hlen
  rw [service_add, service_all_true σ (s + a) n h] at h1
  omega

theorem worst_compliant (Q D P : Nat) (hQD : Q ≤ D) (hDP : D ≤ P) :
    Compliant Q D P (worst Q D P) := by
  intro k
  rcases Nat.eq_zero_or_pos k with rfl | hk
  · apply service_ge_of_true _ _ 0 Q D _ (by omega)
    intro i hi
    rw [worst_lo Q D P _ (by omega)]
    exact decide_eq_true (by omega)
  · obtain ⟨k, rfl⟩ := Nat.exists_eq_add_of_le' hk
    apply service_ge_of_true _ _ (D - Q) Q D _ (by omega)
    intro i hi
    rw [worst_hi Q D P _ k (D - Q + i) (by rw [Nat.add_one_mul, Nat.mul_comm k P]; omega)
      (by omega)]
    exact decide_eq_true ⟨by omega, by omega⟩

/-- attainment: the adversarial process delivers exactly `provided_service` in the
window starting right after its first budget -/
theorem cSbf_attained (Q D P : Nat) (hQ : 1 ≤ Q) (hQD : Q ≤ D) (hDP : D ≤ P) (Δ : Nat) :
    service (worst Q D P) Q Δ = cSbf Q D P Δ := by
  induction Δ with
  | zero => rw [cSbf_zero Q D P hQ hQD hDP]; rfl
  | succ n ih =>
    rw [cSbf_succ Q D P hQ hQD hDP n, ← ih]
    rfl

end RTA
