import RTA.Lemmas.SchedValid
/-! C01/C02: abstract busy-window theorem for job-level fixed-priority scheduling with
non-preemptable states on an ideal uniprocessor (`blocked_bound`, `reach_rt`,
`run_to_completion`, combined in `meets_of_busy_window`). -/

open Finset Classical

namespace RTA.Sched.J

variable (s : Sys)

noncomputable def workP (p : ℕ → Prop) : ℕ := ∑ k ∈ range s.n, if p k then s.cost k else 0
noncomputable def servedP (p : ℕ → Prop) (t : ℕ) : ℕ := ∑ k ∈ range s.n, if p k then svc s k t else 0

variable {s} {hep : ℕ → ℕ → Prop}

theorem workP_eq_wk (p : ℕ → Prop) : workP s p = wk s p := rfl

theorem servedP_eq_sv (p : ℕ → Prop) (t : ℕ) : servedP s p t = sv s p t := rfl

theorem servedP_busy (p : ℕ → Prop) (a : ℕ) :
    ∀ len, (∀ u, a ≤ u → u < a + len → ∃ j, s.sched u = some j ∧ j < s.n ∧ p j) →
      servedP s p (a + len) = servedP s p a + len := by
  intro len h
  have := sv_supply (σ := fun _ => true) p a len (fun u h1 h2 _ => h u h1 h2)
  rw [service_true] at this
  exact le_antisymm (sv_le_len p a len) this

/-- quiet w.r.t. the jobs of higher-or-equal priority than `j` -/
def Quiet (s : Sys) (hep : ℕ → ℕ → Prop) (j t : ℕ) : Prop :=
  ∀ k < s.n, hep k j → s.arr k < t → svc s k t = s.cost k

theorem quiet_iff (j t : ℕ) : Quiet s hep j t ↔ QuietFor s (fun k => hep k j) t := Iff.rfl

/-- Within a stretch `[t0, X)` in which some hep-job is always pending, every slot after the
first `B` serves a hep-job released in the stretch: the slots that serve a lower-priority job
form an initial run of one job in non-preemptable states (`run` in the proof). -/
theorem blocked_bound (hl : JlfpLegal s hep) (htrans : ∀ a b c, hep a b → hep b c → hep a c)
    (j t0 X B : ℕ) (hq : Quiet s hep j t0)
    (hbusy : ∀ u, t0 ≤ u → u < X → ∃ k < s.n, hep k j ∧ Pending s k u)
    (Hb : ∀ l < s.n, ¬ hep l j → s.arr l < t0 → ∀ x len, (∀ i < len, s.np l (x + i)) → len ≤ B) :
    ∃ e, t0 ≤ e ∧ e ≤ t0 + B ∧
      ∀ u, e ≤ u → u < X → ∃ j', s.sched u = some j' ∧ j' < s.n ∧ hep j' j ∧ t0 ≤ s.arr j' ∧ s.arr j' ≤ u := by
  have cls : ∀ u, t0 ≤ u → u < X → ∃ j', s.sched u = some j' ∧ j' < s.n ∧
      ((hep j' j ∧ t0 ≤ s.arr j' ∧ s.arr j' ≤ u) ∨
       (¬ hep j' j ∧ ∃ u', u = u' + 1 ∧ s.sched u' = some j' ∧ s.np j' (svc s j' u))) := by
    intro u h1 h2
    obtain ⟨k, hk, hkh, hkp⟩ := hbusy u h1 h2
    obtain ⟨j', hj'⟩ := hl.wc u ⟨k, hk, hkp⟩
    have hv := hl.valid u j' hj'
    refine ⟨j', hj', hv.1, ?_⟩
    by_cases hh : hep j' j
    · exact Or.inl ⟨hh, arr_ge_of_quiet hl.servesPending hq h1 hj' hv.1 hh, hv.2.1⟩
    · rcases hl.prio u j' hj' with hc | hdec
      · exact Or.inr ⟨hh, hc⟩
      · exact absurd (htrans _ _ _ (hdec k hk hkp) hkh) hh
  -- a slot `t0 + d` serving a lower-priority job `l` ends a run of `d + 1` slots serving `l`
  -- in non-preemptable states; `l` was already running in slot `t0 - 1`
  have run : ∀ d l, t0 + d < X → s.sched (t0 + d) = some l → ¬ hep l j →
      s.arr l < t0 ∧ ∀ i ≤ d, s.sched (t0 + i) = some l ∧ s.np l (svc s l (t0 + i)) := by
    intro d
    induction d with
    | zero =>
      intro l hX hs hn
      obtain ⟨j', hj', _, h | ⟨_, u', hu', hs', hnp⟩⟩ := cls t0 (le_refl _) hX
      all_goals obtain rfl : j' = l := Option.some.inj (hj'.symm.trans hs)
      · exact absurd h.1 hn
      · refine ⟨by have := (hl.valid u' j' hs').2.1; omega, fun i hi => ?_⟩
        obtain rfl : i = 0 := by omega
        exact ⟨hj', hnp⟩
    | succ d ih =>
      intro l hX hs hn
      obtain ⟨j', hj', _, h | ⟨_, u', hu', hs', hnp⟩⟩ := cls (t0 + (d + 1)) (by omega) hX
      all_goals obtain rfl : j' = l := Option.some.inj (hj'.symm.trans hs)
      · exact absurd h.1 hn
      · obtain rfl : u' = t0 + d := by omega
        obtain ⟨harr, hall⟩ := ih j' (by omega) hs' hn
        refine ⟨harr, fun i hi => ?_⟩
        rcases Nat.lt_or_ge i (d + 1) with hlt | hge
        · exact hall i (by omega)
        · obtain rfl : i = d + 1 := by omega
          exact ⟨hj', hnp⟩
  refine ⟨t0 + B, by omega, le_refl _, ?_⟩
  intro u h1 h2
  obtain ⟨j', hj', hjn, h | ⟨hn, _⟩⟩ := cls u (by omega) h2
  · exact ⟨j', hj', hjn, h⟩
  · exfalso
    obtain ⟨d, rfl⟩ := Nat.exists_eq_add_of_le (show t0 ≤ u by omega)
    obtain ⟨harr, hr⟩ := run d j' h2 hj' hn
    have := Hb j' hjn hn harr (svc s j' t0) (d + 1) (fun i hi => by
      rw [← svc_run j' t0 i (fun i' hi' => (hr i' (by omega)).1)]
      exact (hr i (by omega)).2)
    omega

theorem served_in_stretch (hl : JlfpLegal s hep) (htrans : ∀ a b c, hep a b → hep b c → hep a c)
    (j t0 X B : ℕ) (hq : Quiet s hep j t0)
    (hbusy : ∀ u, t0 ≤ u → u < X → ∃ k < s.n, hep k j ∧ Pending s k u)
    (Hb : ∀ l < s.n, ¬ hep l j → s.arr l < t0 → ∀ x len, (∀ i < len, s.np l (x + i)) → len ≤ B) :
    X ≤ t0 + B + sv s (fun k => hep k j ∧ t0 ≤ s.arr k ∧ s.arr k < X) X := by
  obtain ⟨e, he1, he2, hserve⟩ := blocked_bound hl htrans j t0 X B hq hbusy Hb
  rcases Nat.le_total X e with heX | heX
  · omega
  · have hb := servedP_busy (s := s) (fun k => hep k j ∧ t0 ≤ s.arr k ∧ s.arr k < X) e (X - e) (by
      intro u h1 h2
      obtain ⟨j', a, b, c, d, f⟩ := hserve u h1 (by omega)
      exact ⟨j', a, b, c, d, by omega⟩)
    rw [Nat.add_sub_cancel' heX, servedP_eq_sv, servedP_eq_sv] at hb
    omega

theorem offset_lt (hl : JlfpLegal s hep) (htrans : ∀ a b c, hep a b → hep b c → hep a c)
    (j t0 L B : ℕ) (hL : 0 < L) (hq : Quiet s hep j t0)
    (hmax : ∀ t, t0 < t → t ≤ s.arr j → ¬ Quiet s hep j t)
    (Hb : ∀ l < s.n, ¬ hep l j → s.arr l < t0 → ∀ x len, (∀ i < len, s.np l (x + i)) → len ≤ B)
    (Hw : B + wk s (fun k => hep k j ∧ t0 ≤ s.arr k ∧ s.arr k < t0 + L) ≤ L) :
    s.arr j - t0 < L := by
  by_contra hge
  have hge : t0 + L ≤ s.arr j := by omega
  have hv := hl.servesPending
  have hserved := served_in_stretch hl htrans j t0 (t0 + L) B hq
    (fun u h1 h2 => pending_of_not_quiet hv _ u (hmax (u + 1) (by omega) (by omega))) Hb
  have hle := sv_le_wk hv (fun k => hep k j ∧ t0 ≤ s.arr k ∧ s.arr k < t0 + L) (t0 + L)
  -- all the work released in the window is done at its end, which is therefore quiet
  exact hmax (t0 + L) (by omega) hge (quiet_of_window_done hv _ t0 L hq fun k hk hkh h1 h2 =>
    all_done_of_sv_eq hv _ _ (le_antisymm hle (by omega)) k hk ⟨hkh, h1, h2⟩)

/-- Abstract busy-window theorem: by `t0 + AF` job `j` has received `rt` units of service. -/
theorem reach_rt (hl : JlfpLegal s hep) (htrans : ∀ a b c, hep a b → hep b c → hep a c)
    (hrefl : ∀ a, hep a a)
    (j : ℕ) (hj : j < s.n) (t0 : ℕ) (hq : Quiet s hep j t0) (ht0 : t0 ≤ s.arr j)
    (hmax : ∀ t, t0 < t → t ≤ s.arr j → ¬ Quiet s hep j t)
    (rt B IBF AF : ℕ) (hrt : rt ≤ s.cost j)
    (Hb : ∀ l < s.n, ¬ hep l j → s.arr l < t0 → ∀ x len, (∀ i < len, s.np l (x + i)) → len ≤ B)
    (Hw : workP s (fun k => k ≠ j ∧ (hep k j ∧ t0 ≤ s.arr k ∧ s.arr k < t0 + AF)) ≤ IBF)
    (HAF : B + IBF + rt ≤ AF) : rt ≤ svc s j (t0 + AF) := by
  by_contra hlt
  have hlt : svc s j (t0 + AF) < rt := by omega
  have hbusy : ∀ u, t0 ≤ u → u < t0 + AF → ∃ k < s.n, hep k j ∧ Pending s k u := by
    intro u h1 h2
    by_cases hu : u < s.arr j
    · exact pending_of_not_quiet hl.servesPending _ u (hmax (u + 1) (by omega) (by omega))
    · refine ⟨j, hj, hrefl j, by omega, ?_⟩
      have := svc_mono (s := s) j (show u ≤ t0 + AF by omega)
      omega
  have hserved := served_in_stretch hl htrans j t0 (t0 + AF) B hq hbusy Hb
  have hsplit := sv_split hl.servesPending
    (fun k => hep k j ∧ t0 ≤ s.arr k ∧ s.arr k < t0 + AF) j (t0 + AF) hj
  rw [workP_eq_wk] at Hw
  omega

theorem runs_from_level (hl : JlfpLegal s hep) (j : ℕ) (rt : ℕ)
    (hnp : ∀ x, rt ≤ x → x < s.cost j → s.np j x) (hrt0 : 0 < rt) :
    ∀ t, rt ≤ svc s j t → svc s j t < s.cost j → s.sched t = some j := by
  intro t
  induction t with
  | zero => intro h; exact absurd h (Nat.not_le.2 hrt0)
  | succ t ih =>
    intro h1 h2
    by_cases hs : s.sched t = some j
    · exact hl.cont t j hs h2 (hnp _ h1 h2)
    · rw [svc_succ_of_ne j t hs] at h1 h2
      exact absurd (ih h1 h2) hs

theorem grows_from_level (hl : JlfpLegal s hep) (j : ℕ) (rt : ℕ)
    (hnp : ∀ x, rt ≤ x → x < s.cost j → s.np j x) (hrt0 : 0 < rt) :
    ∀ d t, rt ≤ svc s j t → svc s j t + d ≤ s.cost j → svc s j (t + d) = svc s j t + d := by
  intro d
  induction d with
  | zero => intro t _ _; rfl
  | succ d ih =>
    intro t h1 h2
    have h := ih t h1 (by omega)
    rw [← Nat.add_assoc,
      svc_succ_of_eq j _ (runs_from_level hl j rt hnp hrt0 (t + d) (by omega) (by omega)), h,
      Nat.add_assoc]

theorem run_to_completion (hl : JlfpLegal s hep) (j : ℕ) (rt : ℕ)
    (hnp : ∀ x, rt ≤ x → x < s.cost j → s.np j x) (hrt0 : 0 < rt) :
    ∀ t, rt ≤ svc s j t → svc s j (t + (s.cost j - rt)) = s.cost j := by
  intro t ht
  have hle := hl.servesPending.svc_le_cost j t
  have h := grows_from_level hl j rt hnp hrt0 (s.cost j - svc s j t) t ht (by omega)
  exact hl.servesPending.done_mono j
    (show t + (s.cost j - svc s j t) ≤ t + (s.cost j - rt) by omega) (by omega)

/-- The busy-window analysis of one job: if, for the busy window of `j` starting at its last
quiet time `t0`, a blocking bound `B`, an interference bound `IBF` and a window length `AF`
solve `B + IBF + rt ≤ AF`, and from service level `rt` on `j` cannot be preempted, then `j`
completes by `t0 + AF + (cost j - rt)`. -/
theorem meets_of_busy_window (hl : JlfpLegal s hep)
    (htrans : ∀ a b c, hep a b → hep b c → hep a c) (hrefl : ∀ a, hep a a)
    (j : ℕ) (hj : j < s.n) (rt R : ℕ) (hrt : rt ≤ s.cost j) (hrt0 : 0 < rt)
    (hnp : ∀ x, rt ≤ x → x < s.cost j → s.np j x)
    (hwin : ∀ t0, Quiet s hep j t0 → t0 ≤ s.arr j →
      (∀ t, t0 < t → t ≤ s.arr j → ¬ Quiet s hep j t) → ∃ B IBF AF,
        (∀ l < s.n, ¬ hep l j → s.arr l < t0 → ∀ x len, (∀ i < len, s.np l (x + i)) → len ≤ B) ∧
        workP s (fun k => k ≠ j ∧ (hep k j ∧ t0 ≤ s.arr k ∧ s.arr k < t0 + AF)) ≤ IBF ∧
        B + IBF + rt ≤ AF ∧ t0 + AF + (s.cost j - rt) ≤ s.arr j + R) :
    MeetsBound s j R := by
  obtain ⟨t0, ht0, hq, hmax⟩ := exists_last_quiet s (fun k => hep k j) (s.arr j)
  obtain ⟨B, IBF, AF, Hb, Hw, hAF, hR⟩ := hwin t0 hq ht0 hmax
  have hr := reach_rt hl htrans hrefl j hj t0 hq ht0 hmax rt B IBF AF hrt Hb Hw hAF
  exact hl.servesPending.done_mono j hR (run_to_completion hl j rt hnp hrt0 _ hr)

end RTA.Sched.J
