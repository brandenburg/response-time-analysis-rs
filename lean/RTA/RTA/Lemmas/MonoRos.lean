import RTA.Lemmas.RosNaive
/-! Monotonicity of the ROS 2 analyses (C17): a harder workload or a weaker supply never
decreases a returned bound and never turns a divergence error into `Ok`.

Order on results used here (`Res.leD`): `ok a ≤ ok b` iff `a ≤ b`; every `ok` and every
divergence error is below every divergence error (the offset recorded in the error may
differ between the two systems); nothing else. -/

namespace RTA
open RTA.Spec

/-- the supply `s'` guarantees no more service than `s` in any window -/
def Supply.Weaker (s' s : Supply) : Prop := ∀ d, s'.sbf d ≤ s.sbf d

namespace MonoRosLemmas
open PruneCoreLemmas RosNaiveLemmas

/-! ### the ECRTS'19 scheme over given offsets -/

/-- the busy windows compare, and every offset examined for the first system is dominated by
one examined for the second -/
theorem rosBoundOn_dom (s s' : Supply) (bwRhs bwRhs' : Nat → Nat) (offRhs offRhs' : Nat → Nat → Nat)
    (limit : Nat) (offsets offsets' : Nat → List Nat)
    (hbw : Res.leD (naiveSolveSup s.sbf 0 bwRhs limit) (naiveSolveSup s'.sbf 0 bwRhs' limit))
    (hdom : ∀ m m', naiveSolveSup s.sbf 0 bwRhs limit = .ok m →
      naiveSolveSup s'.sbf 0 bwRhs' limit = .ok m' → m ≤ m' → ∀ A ∈ offsets m, ∃ A' ∈ offsets' m',
        Res.leD (naiveSolveSup s.sbf A (offRhs A) limit) (naiveSolveSup s'.sbf A' (offRhs' A') limit)) :
    Res.leD (naiveRosBoundOn s bwRhs offRhs limit offsets)
      (naiveRosBoundOn s' bwRhs' offRhs' limit offsets') :=
  scheme_leD _ _ offsets offsets' _ _ hbw (fun _ => nss_ne_panic _ _ _ _)
    (fun _ => nss_ne_panic _ _ _ _) hdom

/-- pointwise larger right-hand sides, a weaker supply, offsets that grow with the busy window -/
theorem rosBoundOn_leD (s s' : Supply) (hsup : s'.Weaker s)
    (bwRhs bwRhs' : Nat → Nat) (offRhs offRhs' : Nat → Nat → Nat) (limit : Nat)
    (offsets offsets' : Nat → List Nat)
    (hbw : ∀ x, bwRhs x ≤ bwRhs' x) (hoff : ∀ A x, offRhs A x ≤ offRhs' A x)
    (hoffs : ∀ m m', m ≤ m' → ∀ A ∈ offsets m, A ∈ offsets' m') :
    Res.leD (naiveRosBoundOn s bwRhs offRhs limit offsets)
      (naiveRosBoundOn s' bwRhs' offRhs' limit offsets') :=
  rosBoundOn_dom s s' _ _ _ _ limit _ _ (nss_leD_same _ _ 0 _ _ limit hsup hbw)
    (fun m m' _ _ hmm A hA => ⟨A, hoffs m m' hmm A hA, nss_leD_same _ _ A _ _ limit hsup (hoff A)⟩)

/-! ### weaker reservations -/

theorem cSbf_budget_le (Q Q' D P : Nat) (h1 : 1 ≤ Q') (h2 : Q' ≤ Q) (h3 : Q ≤ D) (h4 : D ≤ P)
    (d : Nat) : cSbf Q' D P d ≤ cSbf Q D P d := by
  have hc : Compliant Q' D P (worst Q D P) := by
    intro k
    exact Nat.le_trans h2 (worst_compliant Q D P h3 h4 k)
  have := cSbf_sound Q' D P h1 (by omega) h4 (worst Q D P) hc Q d
  rw [cSbf_attained Q D P (by omega) h3 h4] at this
  exact this

theorem cSbf_deadline_le (Q D D' P : Nat) (h1 : 1 ≤ Q) (h2 : Q ≤ D) (h3 : D ≤ D') (h4 : D' ≤ P)
    (d : Nat) : cSbf Q D' P d ≤ cSbf Q D P d := by
  have hc : Compliant Q D' P (worst Q D P) := by
    intro k
    exact Nat.le_trans (worst_compliant Q D P h2 (by omega) k) (service_mono _ _ _ _ h3)
  have := cSbf_sound Q D' P h1 (by omega) h4 (worst Q D P) hc Q d
  rw [cSbf_attained Q D P h1 h2 (by omega)] at this
  exact this

/-! ### the tail shared by rr and bw -/

/-- at the least solution the supply equals the demand -/
theorem lfp_eq (s : Supply) (hs : s.WF) (rhs : Nat → Nat) (hm : Mono rhs) (hpos : ∀ x, 1 ≤ rhs x)
    (limit S : Nat) (h : naiveSolveSup s.sbf 0 rhs limit = .ok S) : s.sbf S = rhs S := by
  rw [nss_ok_iff] at h
  obtain ⟨_, hsol, hleast⟩ := h
  rw [Nat.zero_add] at hsol
  -- `S ≥ 1` since nothing is supplied by time 0; one instant earlier the supply was still short
  obtain ⟨T, rfl⟩ : ∃ T, S = T + 1 := by
    cases S with
    | zero =>
      rw [Supply.sbf_zero s hs] at hsol
      exact absurd hsol (Nat.not_le_of_lt (hpos _))
    | succ T => exact ⟨T, rfl⟩
  have e : max (T + 1) 1 = T + 1 := Nat.max_eq_left (Nat.le_add_left 1 T)
  rw [e] at hsol
  have hn := hleast T (Nat.lt_succ_self T)
  rw [Nat.zero_add] at hn
  have hl := (Supply.sbf_lipschitz s hs T).2
  have := hm (max T 1) (T + 1) (by omega)
  omega

theorem naiveSt_le (s s' : Supply) (hs : s.WF) (hs' : s'.WF) (hsup : s'.Weaker s) (d d' : Nat)
    (h : d ≤ d') : naiveSt s d ≤ naiveSt s' d' := by
  rw [naiveSt_eq s hs, naiveSt_eq s' hs']
  have h1 := (Supply.galois s' hs' d' (s'.stClosed d')).1 (Nat.le_refl _)
  exact (Supply.galois s hs d _).2 (Nat.le_trans h (Nat.le_trans h1 (hsup _)))

/-- at the two least solutions `S ≤ S'`: the service time of what the supply has delivered by
`S*`, less one, plus the marginal cost -/
theorem tail_le (s s' : Supply) (hs : s.WF) (hs' : s'.WF) (hsup : s'.Weaker s)
    (rhs rhs' : Nat → Nat) (hm : Mono rhs) (hm' : Mono rhs') (hpos : ∀ x, 1 ≤ rhs x)
    (hle : ∀ x, rhs x ≤ rhs' x) (limit S S' : Nat) (hS : naiveSolveSup s.sbf 0 rhs limit = .ok S)
    (hS' : naiveSolveSup s'.sbf 0 rhs' limit = .ok S') (hSS : S ≤ S') (ω ω' : Nat) (hω : ω ≤ ω') :
    naiveSt s (s.sbf S - 1 + ω) ≤ naiveSt s' (s'.sbf S' - 1 + ω') := by
  apply naiveSt_le s s' hs hs' hsup
  have e := lfp_eq s hs rhs hm hpos limit S hS
  have hsol := ((nss_ok_iff _ _ _ _ _).1 hS').2.1
  rw [Nat.zero_add] at hsol
  have h1 := hle S
  have h2 := hm' S (max S' 1) (by omega)
  omega

theorem getD_le (wl wl' : List Callback) (hle : WorkloadLe wl wl') (i : Nat) (hi : i < wl.length) :
    (wl.getD i default).Le (wl'.getD i default) := hle.2 i hi

theorem rrRhs_pos (wl : List Callback) (e npp x : Nat) : 1 ≤ rrRhs wl e npp x := by
  unfold rrRhs
  simp only []
  omega

theorem bwPer_leD (s s' : Supply) (hs : s.WF) (hs' : s'.WF) (hsup : s'.Weaker s)
    (wl wl' : List Callback) (hle : WorkloadLe wl wl') (e npp npp' : Nat) (he : e < wl.length)
    (hwf : ∀ cb ∈ wl, cb.arr.WF ∧ MonoN cb.cost.ofJobs)
    (hwf' : ∀ cb ∈ wl', cb.arr.WF ∧ MonoN cb.cost.ofJobs) (hnpp : npp ≤ npp')
    (hω : ∀ n n', (wl.getD e default).cost.ofJobs (n + 1) - (wl.getD e default).cost.ofJobs n ≤
      (wl'.getD e default).cost.ofJobs (n' + 1) - (wl'.getD e default).cost.ofJobs n')
    (sg : Bool) (limit act : Nat) :
    Res.leD (naiveBwPer s wl e npp sg limit act) (naiveBwPer s' wl' e npp' sg limit act) := by
  have heoc' := hwf' _ (getD_mem wl' e (hle.1 ▸ he))
  have hrhs : ∀ x, 1 + bwInterference wl e (wl.getD e default).kind npp x act +
        (wl.getD e default).cost.ofJobs ((wl.getD e default).bwSelfInstances act) ≤
      1 + bwInterference wl' e (wl.getD e default).kind npp' x act +
        (wl'.getD e default).cost.ofJobs ((wl'.getD e default).bwSelfInstances act) := by
    intro x
    refine Nat.add_le_add (Nat.add_le_add_left (bwInterference_le wl wl' hle e _ npp npp' hwf' hnpp
      x x act act (Nat.le_refl x) (Nat.le_refl act)) 1) ?_
    exact cost_le _ _ (hle.2 e he) heoc'.2 _ _ (Nat.sub_le_sub_right ((hle.2 e he).arr (act + 1)) 1)
  rw [naiveBwPer_eq_bind, naiveBwPer_eq_bind, ← (hle.2 e he).kind]
  refine leD_bind _ _ _ _ (nss_leD_same _ _ 0 _ _ limit hsup hrhs) (fun _ => Res.noConfusion) ?_
  intro S S' hS hS' hSS
  have := tail_le s s' hs hs' hsup _ _ ?_ ?_ ?_ hrhs limit S S' hS hS' hSS _ _
    (hω ((wl.getD e default).bwSelfInstances act) ((wl'.getD e default).bwSelfInstances act))
  · show (if sg = true then _ - act else _) ≤ (if sg = true then _ - act else _)
    split
    · exact Nat.sub_le_sub_right this act
    · exact this
  · exact fun x y hxy => Nat.add_le_add_right (Nat.add_le_add_left
      (bwInterference_mono wl e _ npp hwf x y act act hxy (Nat.le_refl _)) 1) _
  · exact fun x y hxy => Nat.add_le_add_right (Nat.add_le_add_left
      (bwInterference_mono wl' e _ npp' hwf' x y act act hxy (Nat.le_refl _)) 1) _
  · exact fun x => Nat.le_trans (Nat.le_add_right 1 _) (Nat.le_add_right _ _)

end MonoRosLemmas
open MonoRosLemmas RosNaiveLemmas PruneCoreLemmas

/-- event source on the naive evaluator, for every limit: more demand, a weaker supply -/
theorem naiveEventSource_leD (s s' : Supply) (hsup : s'.Weaker s) (demand demand' : RB)
    (h : ∀ d, demand.need d ≤ demand'.need d) (limit : Nat) :
    Res.leD (naiveEventSource s demand limit) (naiveEventSource s' demand' limit) := by
  unfold naiveEventSource
  rw [naiveRosBound_eq_on, naiveRosBound_eq_on]
  refine rosBoundOn_leD s s' hsup _ _ _ _ limit _ _ h (fun A _ => h (A + 1)) ?_
  intro m m' hmm A hA
  exact List.mem_range.2 (Nat.lt_of_lt_of_le (List.mem_range.1 hA) (Nat.succ_le_succ hmm))

theorem periodic_weaker_budget (Q Q' P : Nat) (h1 : 1 ≤ Q') (h2 : Q' ≤ Q) (h3 : Q ≤ P) :
    (Supply.periodic Q' P).Weaker (.periodic Q P) := by
  intro d
  show pSbf Q' P d ≤ pSbf Q P d
  rw [pSbf_eq_cSbf Q' P h1 (by omega), pSbf_eq_cSbf Q P (by omega) h3]
  exact cSbf_budget_le Q Q' P P h1 h2 h3 (Nat.le_refl _) d

theorem periodic_weaker_dedicated (Q P : Nat) (h1 : 1 ≤ Q) (h2 : Q ≤ P) :
    (Supply.periodic Q P).Weaker .dedicated := by
  intro d
  show pSbf Q P d ≤ d
  have := lipschitz_add (pSbf_lipschitz Q P h1 h2) 0 d
  rw [pSbf_zero Q P h1 h2, Nat.zero_add] at this
  omega

/-- a larger scalar WCET, more arrivals, a larger assumed response-time bound: a harder
callback whose marginal cost does not shrink -/
theorem scalar_callback_le (rtb rtb' : Nat) (a a' : Arr) (C C' : Nat) (k : CbKind)
    (hr : rtb ≤ rtb') (ha : ∀ d, a.N d ≤ a'.N d) (hC : C ≤ C') :
    Callback.Le ⟨rtb, a, .scalar C, k⟩ ⟨rtb', a', .scalar C', k⟩ ∧
    ∀ n n', (Cost.scalar C).ofJobs (n + 1) - (Cost.scalar C).ofJobs n ≤
      (Cost.scalar C').ofJobs (n' + 1) - (Cost.scalar C').ofJobs n' := by
  refine ⟨⟨rfl, hr, ha, fun n => Nat.mul_le_mul_right n hC⟩, ?_⟩
  intro n n'
  show C * (n + 1) - C * n ≤ C' * (n' + 1) - C' * n'
  rw [Nat.mul_add, Nat.mul_add]
  omega

/-- rr on the naive evaluator, for every limit: a pointwise harder workload (the end of the
chain with a marginal cost that does not shrink), a weaker supply -/
theorem naiveRr_leD (s s' : Supply) (hs : s.WF) (hs' : s'.WF) (hsup : s'.Weaker s)
    (wl wl' : List Callback) (sub : List Nat) (limit : Nat)
    (hne : sub ≠ []) (hsub : ∀ i ∈ sub, i < wl.length)
    (hwf : ∀ cb ∈ wl, cb.arr.WF ∧ MonoN cb.cost.ofJobs)
    (hwf' : ∀ cb ∈ wl', cb.arr.WF ∧ MonoN cb.cost.ofJobs)
    (hle : WorkloadLe wl wl')
    (hω : ∀ e, sub.getLast? = some e → ∀ n n',
      (wl.getD e default).cost.ofJobs (n + 1) - (wl.getD e default).cost.ofJobs n ≤
      (wl'.getD e default).cost.ofJobs (n' + 1) - (wl'.getD e default).cost.ofJobs n') :
    Res.leD (naiveRr s wl sub limit) (naiveRr s' wl' sub limit) := by
  cases hlast : sub.getLast? with
  | none => exact absurd (List.getLast?_eq_none_iff.1 hlast) hne
  | some e =>
    have he := hsub e (List.mem_of_getLast? hlast)
    have hnpp := sumPPBound_le wl wl' hle sub hsub (fun cb h => (hwf' cb h).1)
    have hrhs := fun x => rrRhs_le wl wl' hle e _ _ he hwf' hnpp x x (Nat.le_refl x)
    rw [naiveRr_eq_bind s wl sub limit e hlast, naiveRr_eq_bind s' wl' sub limit e hlast]
    refine leD_bind _ _ _ _ (nss_leD_same _ _ 0 _ _ limit hsup hrhs) (fun _ => Res.noConfusion) ?_
    intro S S' hS hS' hSS
    exact tail_le s s' hs hs' hsup _ _ (rrRhs_mono wl e _ hwf he)
      (rrRhs_mono wl' e _ hwf' (hle.1 ▸ he)) (rrRhs_pos wl e _) hrhs limit S S' hS hS' hSS _ _
      (hω e hlast _ _)

/-- bw on the naive evaluator, for every limit: the same -/
theorem naiveBw_leD (s s' : Supply) (hs : s.WF) (hs' : s'.WF) (hsup : s'.Weaker s)
    (wl wl' : List Callback) (sub : List Nat) (limit : Nat)
    (hne : sub ≠ []) (hsub : ∀ i ∈ sub, i < wl.length)
    (hwf : ∀ cb ∈ wl, cb.arr.WF ∧ MonoN cb.cost.ofJobs)
    (hwf' : ∀ cb ∈ wl', cb.arr.WF ∧ MonoN cb.cost.ofJobs)
    (hle : WorkloadLe wl wl')
    (hω : ∀ e, sub.getLast? = some e → ∀ n n',
      (wl.getD e default).cost.ofJobs (n + 1) - (wl.getD e default).cost.ofJobs n ≤
      (wl'.getD e default).cost.ofJobs (n' + 1) - (wl'.getD e default).cost.ofJobs n') :
    Res.leD (naiveBw s wl sub limit) (naiveBw s' wl' sub limit) := by
  cases hlast : sub.getLast? with
  | none => exact absurd (List.getLast?_eq_none_iff.1 hlast) hne
  | some e =>
    have he := hsub e (List.mem_of_getLast? hlast)
    have hnpp := sumPPBound_le wl wl' hle sub hsub (fun cb h => (hwf' cb h).1)
    have heoc' := hwf' _ (getD_mem wl' e (hle.1 ▸ he))
    rw [naiveBw_eq_bind s wl sub limit e hlast, naiveBw_eq_bind s' wl' sub limit e hlast,
      ← (hle.2 e he).kind]
    refine scheme_leD _ _ List.range List.range _ _ (nss_leD_same _ _ 0 _ _ limit hsup ?_)
      (fun _ => naiveBwPer_ne_panic _ _ _ _ _ _ _) (fun _ => naiveBwPer_ne_panic _ _ _ _ _ _ _) ?_
    · intro x
      exact Nat.add_le_add (Nat.add_le_add_left (bwInterference_le wl wl' hle e _ _ _ hwf' hnpp
        x x x x (Nat.le_refl x) (Nat.le_refl x)) 1)
        (cost_le _ _ (hle.2 e he) heoc'.2 _ _ ((hle.2 e he).arr x))
    · intro m m' _ _ hmm A hA
      exact ⟨A, List.mem_range.2 (Nat.lt_of_lt_of_le (List.mem_range.1 hA) hmm),
        bwPer_leD s s' hs hs' hsup wl wl' hle e _ _ he hwf hwf' hnpp (hω e hlast) _ limit A⟩


/-- timer: more interference, more blocking, weaker supply (the callback's own model fixed) -/
theorem timer_mono (s s' : Supply) (hs : s.WF) (hs' : s'.WF) (hsup : s'.Weaker s)
    (a : Arr) (C : Nat) (hwf : a.WF) (hex : a.Exact) (hC : 1 ≤ C) (hpos : 0 < a.N 1)
    (interf interf' : RB) (hwfi : interf.ArrWF) (hexi : interf.Exact)
    (hwfi' : interf'.ArrWF) (hexi' : interf'.Exact)
    (h : ∀ d, interf.need d ≤ interf'.need d) (B B' : Nat) (hB : B ≤ B') (limit : Nat) (hl : 1 ≤ limit) :
    Res.leD (rosTimer s (.rbf a (.scalar C)) interf B limit)
      (rosTimer s' (.rbf a (.scalar C)) interf' B' limit) := by
  obtain ⟨h1, h2⟩ := scalar_rb_side a C hwf hex hC
  rw [timer_eq_naive_on_steps s hs a C interf hwf hex hC hpos hwfi hexi B limit hl,
    timer_eq_naive_on_steps s' hs' a C interf' hwf hex hC hpos hwfi' hexi' B' limit hl]
  apply rosBoundOn_leD s s' hsup
  · intro x
    have := h x
    show _ + B + _ ≤ _ + B' + _
    omega
  · intro A x
    have := h (interferenceInterval (.rbf a (.scalar C)) A x)
    show _ + _ + B ≤ _ + _ + B'
    omega
  · intro m m' hmm A hA
    rw [mem_rosOffsets _ h1 h2] at hA ⊢
    exact ⟨by omega, hA.2⟩

/-- polling-point callback: more interference, weaker supply (the callback's own model fixed) -/
theorem pollingPoint_mono (s s' : Supply) (hs : s.WF) (hs' : s'.WF) (hsup : s'.Weaker s)
    (a : Arr) (C : Nat) (hwf : a.WF) (hex : a.Exact) (hC : 1 ≤ C) (hpos : 0 < a.N 1)
    (interf interf' : RB) (hwfi : interf.ArrWF) (hexi : interf.Exact)
    (hwfi' : interf'.ArrWF) (hexi' : interf'.Exact)
    (h : ∀ d, interf.need d ≤ interf'.need d) (limit : Nat) (hl : 1 ≤ limit) :
    Res.leD (rosPollingPoint s (.rbf a (.scalar C)) interf limit)
      (rosPollingPoint s' (.rbf a (.scalar C)) interf' limit) :=
  timer_mono s s' hs hs' hsup a C hwf hex hC hpos interf interf' hwfi hexi hwfi' hexi' h 0 0
    (Nat.le_refl 0) limit hl

end RTA
