import RTA.Lemmas.PruneFP
import RTA.Lemmas.RosNaive
/-! C19 / finding K3, the direction that always holds: on a dedicated processor the
event-source analysis examines the offsets `A ≤ L` (closed), the FIFO analysis `A < L`; so the
event-source bound is never smaller than the FIFO bound, and a FIFO error implies an
event-source error. -/

namespace RTA
open RTA.Spec

namespace FifoLeEsLemmas

theorem naiveSolveSup_dedicated (w : Nat → Nat) (limit : Nat) :
    naiveSolveSup Supply.dedicated.sbf 0 w limit = naiveSolve w limit :=
  (PruneCoreLemmas.naiveSolve_eq_sup w limit).symm

end FifoLeEsLemmas
open FifoLeEsLemmas RosNaiveLemmas PruneCoreLemmas PruneFPLemmas

theorem fifo_le_event_source (r : RB) (hwf : r.ArrWF) (hex : r.Exact) (limit : Nat) (hl : 1 ≤ limit) :
    Res.leD (fifoRta r limit) (rosEventSource .dedicated r limit) := by
  rw [fifo_eq_naive r hwf hex limit hl, eventSource_eq_naive .dedicated trivial r hwf hex limit hl]
  unfold naiveEventSource
  rw [naiveFifo_eq_bind, naiveRosBound_eq_on, naiveRosBoundOn_eq_bind, naiveSolveSup_dedicated]
  refine leD_bind _ _ _ _ (leD_of_le (naiveSolve_mono _ _ limit fun _ => Nat.le_refl _))
    (fun _ => Res.noConfusion) ?_
  intro L L' _ _ hLL
  rw [← naiveMax_ok (fun A => r.need (A + 1) - A) (List.range L)]
  apply naiveMax_leD
  · intro A _; exact nss_ne_panic _ _ _ _
  · intro A hA
    refine ⟨A, List.mem_range.2 (by have := List.mem_range.1 hA; omega), ?_⟩
    rcases nss_cases Supply.dedicated.sbf A (fun _ => r.need (A + 1)) limit with ⟨x, hx⟩ | hx
    · rw [hx]
      have h2 : r.need (A + 1) ≤ A + x := ((nss_ok_iff _ _ _ _ _).1 hx).2.1
      show r.need (A + 1) - A ≤ x
      omega
    · rw [hx]; exact trivial

/-- on a dedicated processor the naive event-source evaluation returns the FIFO bound when the
demand does not jump right after the busy window by more than that bound (the event-source
scheme also examines the offset `A = L`), for every limit and every monotone demand -/
theorem naiveEventSource_eq_fifo (r : RB) (hmono : MonoN r.need) (limit L R : Nat)
    (hL : naiveSolve (fun x => r.need x) limit = .ok L) (hR : naiveFifo r limit = .ok R)
    (hjump : r.need (L + 1) ≤ L + R) :
    naiveEventSource .dedicated r limit = .ok R := by
  rw [naiveFifo_eq_bind, hL] at hR
  replace hR : maxList ((List.range L).map fun A => r.need (A + 1) - A) = R := Res.ok.inj hR
  have hLs := (naiveSolve_ok_iff _ _ _).1 hL
  have hterm : ∀ A, A < L → r.need (A + 1) ≤ L := by
    intro A hA
    have := hmono (A + 1) (max L 1) (by omega)
    have := hLs.2.1
    omega
  have hRL : R ≤ L := by
    rw [← hR]
    apply (maxList_le_iff _ _).2
    intro x hx
    obtain ⟨A, hA, rfl⟩ := List.mem_map.1 hx
    have := hterm A (List.mem_range.1 hA)
    omega
  unfold naiveEventSource
  rw [naiveRosBound_eq_on, naiveRosBoundOn_eq_bind, naiveSolveSup_dedicated, hL]
  show naiveMax ((List.range (L + 1)).map fun A =>
    naiveSolveSup Supply.dedicated.sbf A (fun _ => r.need (A + 1)) limit) = .ok R
  rw [naiveMax_eq_ok]
  refine ⟨fun A => r.need (A + 1) - A, ?_, ?_⟩
  · -- on a dedicated processor a constant workload `c` is served `c - A` after offset `A`
    intro A hA
    rw [nss_ok_iff]
    refine ⟨?_, show r.need (A + 1) ≤ A + (r.need (A + 1) - A) by omega, ?_⟩
    · show r.need (A + 1) - A ≤ limit
      rcases Nat.lt_or_ge A L with h | h
      · have := hterm A h; omega
      · have : A = L := by have := List.mem_range.1 hA; omega
        subst this; omega
    · intro r' hr' hc
      replace hr' : r' < r.need (A + 1) - A := hr'
      replace hc : r.need (A + 1) ≤ A + r' := hc
      omega
  · apply Nat.le_antisymm
    · rw [← hR]
      apply (maxList_le_iff _ _).2
      intro x hx
      obtain ⟨A, hA, rfl⟩ := List.mem_map.1 hx
      exact le_maxList_of_mem _ _
        (List.mem_map.2 ⟨A, List.mem_range.2 (by have := List.mem_range.1 hA; omega), rfl⟩)
    · apply (maxList_le_iff _ _).2
      intro x hx
      obtain ⟨A, hA, rfl⟩ := List.mem_map.1 hx
      rcases Nat.lt_or_ge A L with h | h
      · rw [← hR]
        exact le_maxList_of_mem _ _ (List.mem_map.2 ⟨A, List.mem_range.2 h, rfl⟩)
      · have : A = L := by have := List.mem_range.1 hA; omega
        subst this
        show r.need (A + 1) - A ≤ R
        omega

end RTA
