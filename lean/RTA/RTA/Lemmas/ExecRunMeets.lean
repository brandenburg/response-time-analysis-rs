import RTA.Lemmas.ExecRefine
/-! Link between the job system of a run (`Exec.toSys`, over which the soundness theorems are
stated) and the completions `(callback, release, completion)` that the executable `Exec.run`
reports on any finite prefix of the supply process. -/

namespace RTA.Exec
open RTA RTA.Sched

theorem run_meets_of_sys (cbs : List Cb) (sigma : ℕ → Bool) (rels : ℕ → List ℕ) (H : ℕ)
    (hidx : ∀ t, ∀ i ∈ rels t, i < cbs.length)
    (hfin : ∀ t, H ≤ t → rels t = [])
    (hcost : ∀ c ∈ cbs, 1 ≤ c.cost)
    (i R : ℕ)
    (hmeets : ∀ j, j < (toSys cbs sigma rels H).n → (toSys cbs sigma rels H).task j = i →
      MeetsBound (toSys cbs sigma rels H) j R)
    (n : ℕ) :
    ∀ o ∈ Exec.run cbs (fun _ => none) ((List.range n).map sigma) rels, o.1 = i → o.2.2 ≤ o.2.1 + R := by
  rw [← ExecX.run_wcet]
  rw [← toSysX_wcet] at hmeets
  exact ExecX.run_meets_of_sys_x cbs _ sigma rels H hidx hfin (wcet_bounds cbs hcost) i R hmeets n

end RTA.Exec
