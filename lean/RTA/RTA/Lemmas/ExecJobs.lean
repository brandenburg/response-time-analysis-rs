import RTA.Lemmas.SchedValid
import RTA.Spec.Ros2Exec
/-! Jobs of an executor run.  An infinite run of the executor transition system is determined by
the supply process `sigma`, the release function `rels` (`rels t` = callbacks released at time
`t`; nothing is released from time `H` on) and the callback table.  Jobs are the release events
in time order; the `m`-th instance of callback `i` that the executor starts is the `m`-th release
event of callback `i` (FIFO queues).  This file has what does not depend on the run: the release
events, their numbering, and the queue operations and `bestOf` of the transition system. -/

namespace RTA.Exec

variable (cbs : List Cb) (rels : ℕ → List ℕ)

/-- release events before `H` in time order: (time, callback) -/
def events (H : ℕ) : List (ℕ × ℕ) := (List.range H).flatMap fun t => (rels t).map fun i => (t, i)

/-- index (in `events`) of the `m`-th event of callback `i` -/
def nthEventOf (H i m : ℕ) : Option ℕ :=
  (((List.range (events rels H).length).filter fun k => ((events rels H).getD k (0, 0)).2 = i)[m]?)

namespace RefineLemmas

theorem filt_range_len {α} (l : List α) (p : α → Bool) (d : α) : ∀ k, k ≤ l.length →
    ((List.range k).filter (fun x => p (l.getD x d))).length = (l.take k).countP p := by
  intro k
  induction k with
  | zero => intro _; simp
  | succ k ih =>
    intro hk
    have hk' : k < l.length := by omega
    rw [List.range_succ, List.filter_append, List.length_append, ih (by omega), List.take_add_one,
      List.countP_append]
    have e : l.getD k d = l[k] := by simp [List.getD_eq_getElem?_getD, List.getElem?_eq_getElem hk']
    cases hp : p l[k] <;> simp [hp, List.getElem?_eq_getElem hk']

theorem filt_range_idx (f : ℕ → Bool) : ∀ N m k, ((List.range N).filter f)[m]? = some k ↔
    (k < N ∧ f k = true ∧ ((List.range k).filter f).length = m) := by
  intro N
  induction N with
  | zero => intro m k; simp
  | succ N ih =>
    intro m k
    rw [List.range_succ, List.filter_append, List.getElem?_append]
    split
    · rename_i hm
      rw [ih]
      constructor
      · rintro ⟨a, b, c⟩; exact ⟨by omega, b, c⟩
      · rintro ⟨a, b, c⟩
        refine ⟨?_, b, c⟩
        rcases Nat.lt_or_ge k N with h | h
        · exact h
        · exfalso
          have e : k = N := by omega
          subst e; omega
    · rename_i hm
      have hm : ((List.range N).filter f).length ≤ m := by omega
      cases hf : f N with
      | false =>
        rw [List.filter_cons, hf]
        simp only [Bool.false_eq_true, if_false, List.filter_nil, List.getElem?_nil]
        refine ⟨fun h => (by cases h), ?_⟩
        rintro ⟨a, b, c⟩
        exfalso
        rcases Nat.lt_or_ge k N with h | h
        · have := (ih m k).2 ⟨h, b, c⟩
          have := (List.getElem?_eq_some_iff.1 this).1
          omega
        · have e : k = N := by omega
          subst e; rw [hf] at b; cases b
      | true =>
        rw [List.filter_cons, hf]
        simp only [if_true, List.filter_nil]
        constructor
        · intro h
          rcases List.getElem?_eq_some_iff.1 h with ⟨h1, h2⟩
          simp at h1 h2
          subst h2
          exact ⟨by omega, hf, by omega⟩
        · rintro ⟨a, b, c⟩
          rcases Nat.lt_or_ge k N with h | h
          · have := (ih m k).2 ⟨h, b, c⟩
            have := (List.getElem?_eq_some_iff.1 this).1
            omega
          · have e : k = N := by omega
            subst e
            have : m - ((List.range k).filter f).length = 0 := by omega
            rw [this]; simp

/-- number of releases of callback `i` before `T` -/
def cnt (i : ℕ) : ℕ → ℕ
  | 0 => 0
  | T + 1 => cnt i T + (rels T).count i

theorem cnt_mono (i : ℕ) {a b : ℕ} (h : a ≤ b) : cnt rels i a ≤ cnt rels i b := by
  induction h with
  | refl => exact Nat.le_refl _
  | step _ ih => simp only [cnt]; omega

theorem cnt_const (H : ℕ) (hfin : ∀ t, H ≤ t → rels t = []) (i : ℕ) {T : ℕ} (h : H ≤ T) :
    cnt rels i T = cnt rels i H := by
  induction h with
  | refl => rfl
  | step hm ih => simp only [cnt]; rw [hfin _ hm]; simpa using ih

variable {rels} in
theorem cnt_le_H {H : ℕ} (hfin : ∀ t, H ≤ t → rels t = []) (i T : ℕ) : cnt rels i T ≤ cnt rels i H := by
  rcases Nat.le_total T H with h | h
  · exact cnt_mono rels i h
  · rw [cnt_const rels H hfin i h]

theorem events_succ (T : ℕ) :
    events rels (T + 1) = events rels T ++ (rels T).map (fun i => (T, i)) := by
  simp [events, List.range_succ, List.flatMap_append]

theorem events_time_lt (T : ℕ) : ∀ e ∈ events rels T, e.1 < T := by
  intro e he
  simp only [events, List.mem_flatMap, List.mem_range, List.mem_map] at he
  obtain ⟨t, ht, i, _, rfl⟩ := he
  exact ht

theorem events_getD {H k : ℕ} (hk : k < (events rels H).length) :
    ((events rels H).getD k (0, 0)).2 ∈ rels ((events rels H).getD k (0, 0)).1 := by
  have hev : (events rels H).getD k (0, 0) ∈ events rels H := by
    rw [List.getD_eq_getElem?_getD, List.getElem?_eq_getElem hk, Option.getD_some]
    exact List.getElem_mem _
  simp only [events, List.mem_flatMap, List.mem_range, List.mem_map] at hev
  obtain ⟨t, _, i, hi, e⟩ := hev
  rw [← show (t, i) = (events rels H).getD k (0, 0) from e]; exact hi

theorem events_prefix {T H : ℕ} (h : T ≤ H) :
    ∃ rest, events rels H = events rels T ++ rest ∧ ∀ e ∈ rest, T ≤ e.1 := by
  induction h with
  | refl => exact ⟨[], by simp, by simp⟩
  | @step m hm ih =>
    obtain ⟨rest, h1, h2⟩ := ih
    refine ⟨rest ++ (rels m).map (fun i => (m, i)), ?_, ?_⟩
    · rw [events_succ, h1, List.append_assoc]
    · intro e he
      rw [List.mem_append] at he
      rcases he with he | he
      · exact h2 e he
      · simp only [List.mem_map] at he
        obtain ⟨i, _, rfl⟩ := he
        exact hm

theorem countP_events (i T : ℕ) :
    (events rels T).countP (fun e => decide (e.2 = i)) = cnt rels i T := by
  induction T with
  | zero => simp [events, cnt]
  | succ T ih =>
    rw [events_succ, List.countP_append, ih, cnt, List.countP_map]
    rfl

theorem countP_take_succ {α} (l : List α) (p : α → Bool) (k : ℕ) (hk : k < l.length)
    (hp : p l[k] = true) : (l.take (k + 1)).countP p = (l.take k).countP p + 1 := by
  rw [List.take_add_one, List.countP_append]
  simp [List.getElem?_eq_getElem hk, hp]

theorem countP_take_le {α} (l : List α) (p : α → Bool) (k : ℕ) :
    (l.take k).countP p ≤ l.countP p :=
  List.Sublist.countP_le (List.take_sublist k l)

theorem job_iff (H i m k : ℕ) : nthEventOf rels H i m = some k ↔
    (k < (events rels H).length ∧ ((events rels H).getD k (0, 0)).2 = i ∧
      ((events rels H).take k).countP (fun e => decide (e.2 = i)) = m) := by
  unfold nthEventOf
  rw [filt_range_idx (fun k => decide (((events rels H).getD k (0, 0)).2 = i))]
  constructor
  · rintro ⟨a, b, c⟩
    rw [filt_range_len (events rels H) (fun e => decide (e.2 = i)) (0, 0) k (by omega)] at c
    exact ⟨a, by simpa using b, c⟩
  · rintro ⟨a, b, c⟩
    rw [filt_range_len (events rels H) (fun e => decide (e.2 = i)) (0, 0) k (by omega)]
    exact ⟨a, by simpa using b, c⟩

theorem job_inj {H i m k i' m' : ℕ} (h : nthEventOf rels H i m = some k)
    (h' : nthEventOf rels H i' m' = some k) : i = i' ∧ m = m' := by
  rw [job_iff] at h h'
  obtain ⟨_, b, c⟩ := h
  obtain ⟨_, b', c'⟩ := h'
  have e : i = i' := by rw [← b, ← b']
  subst e
  exact ⟨rfl, by rw [← c, ← c']⟩

theorem job_exists (H k : ℕ) (hk : k < (events rels H).length) :
    ∃ m, nthEventOf rels H ((events rels H).getD k (0, 0)).2 m = some k :=
  ⟨_, (job_iff rels H _ _ k).2 ⟨hk, rfl, rfl⟩⟩

theorem job_some (H i m : ℕ) (hm : m < cnt rels i H) : ∃ k, nthEventOf rels H i m = some k := by
  unfold nthEventOf
  have := filt_range_len (events rels H) (fun e => decide (e.2 = i)) (0, 0) _ (Nat.le_refl _)
  rw [List.take_length, countP_events] at this
  exact ⟨_, List.getElem?_eq_getElem (by rw [this]; exact hm)⟩

theorem job_arr_le {H i m k : ℕ} (h : nthEventOf rels H i m = some k) {T : ℕ} (hT : T ≤ H) :
    ((events rels H).getD k (0, 0)).1 < T ↔ m < cnt rels i T := by
  rw [job_iff] at h
  obtain ⟨hk, hi, hm⟩ := h
  obtain ⟨rest, e, hrest⟩ := events_prefix rels hT
  rw [List.getD_eq_getElem?_getD, List.getElem?_eq_getElem hk, Option.getD_some] at hi ⊢
  rcases Nat.lt_or_ge k (events rels T).length with hkL | hkL
  · have e1 : (events rels H)[k] = (events rels T)[k] := by
      simp only [e]; rw [List.getElem_append_left hkL]
    have h1 : ((events rels H)[k]).1 < T := by
      rw [e1]; exact events_time_lt rels T _ (List.getElem_mem _)
    have h2 : m < cnt rels i T := by
      rw [← hm, ← countP_events]
      have e2 : (events rels H).take k = (events rels T).take k := by
        rw [e, List.take_append_of_le_length (by omega)]
      rw [e2]
      have := countP_take_succ (events rels T) (fun e => decide (e.2 = i)) k hkL
        (by rw [← e1]; simpa using hi)
      have := countP_take_le (events rels T) (fun e => decide (e.2 = i)) (k + 1)
      omega
    exact ⟨fun _ => h2, fun _ => h1⟩
  · have hk' : k - (events rels T).length < rest.length := by
      have : (events rels H).length = (events rels T).length + rest.length := by
        rw [e, List.length_append]
      omega
    have e1 : (events rels H)[k] = rest[k - (events rels T).length] := by
      simp only [e]; rw [List.getElem_append_right hkL]
    have h1 : T ≤ ((events rels H)[k]).1 := by
      rw [e1]; exact hrest _ (List.getElem_mem _)
    have h2 : cnt rels i T ≤ m := by
      rw [← hm, ← countP_events, e, List.take_append, List.countP_append,
        List.take_of_length_le hkL]
      omega
    constructor <;> intro <;> omega

theorem job_arr (H : ℕ) (hfin : ∀ t, H ≤ t → rels t = []) {i m k : ℕ}
    (h : nthEventOf rels H i m = some k) (T : ℕ) :
    ((events rels H).getD k (0, 0)).1 < T ↔ m < cnt rels i T := by
  rcases Nat.le_total T H with hT | hT
  · exact job_arr_le rels h hT
  · have := job_arr_le rels h (Nat.le_refl H)
    rw [cnt_const rels H hfin i hT, ← this]
    have hk := ((job_iff rels H i m k).1 h).1
    have := events_time_lt rels H ((events rels H).getD k (0, 0))
      (by rw [List.getD_eq_getElem?_getD, List.getElem?_eq_getElem hk, Option.getD_some]
          exact List.getElem_mem _)
    constructor <;> intro <;> omega

theorem getD_set_len (q : List (List ℕ)) (i j : ℕ) (x : List ℕ) (hj : j < q.length) :
    (q.set i x).getD j [] = if i = j then x else q.getD j [] := by
  simp only [List.getD_eq_getElem?_getD, List.getElem?_set]
  split
  · rename_i h; subst h; simp [hj]
  · rfl

theorem addReleases_length (rel : List ℕ) (t : ℕ) : ∀ q : List (List ℕ),
    (addReleases q rel t).length = q.length := by
  induction rel with
  | nil => intro q; rfl
  | cons a rel ih =>
    intro q
    simp only [addReleases, List.foldl_cons] at ih ⊢
    rw [ih]; simp

theorem addReleases_getD (rel : List ℕ) (t i : ℕ) : ∀ q : List (List ℕ), i < q.length →
    ((addReleases q rel t).getD i []).length = (q.getD i []).length + rel.count i := by
  induction rel with
  | nil => intro q _; simp [addReleases]
  | cons a rel ih =>
    intro q hi
    simp only [addReleases, List.foldl_cons] at ih ⊢
    rw [ih _ (by simpa using hi), getD_set_len _ _ _ _ hi, List.count_cons]
    by_cases h : a = i
    · subst h; simp; omega
    · have : ¬ (a == i) = true := by simpa using h
      simp [h]

theorem bestOf_eq_none (l : List ℕ) : bestOf cbs l = none ↔ l = [] := by
  cases l with
  | nil => simp [bestOf]
  | cons a l =>
    simp only [bestOf]
    split <;> simp
    split <;> simp

theorem bestOf_mem : ∀ (l : List ℕ) (i : ℕ), bestOf cbs l = some i → i ∈ l := by
  intro l
  induction l with
  | nil => intro i h; simp [bestOf] at h
  | cons a l ih =>
    intro i h
    simp only [bestOf] at h
    split at h
    · cases h; simp
    · rename_i j hj
      split at h
      · cases h; simp
      · cases h; exact List.mem_cons_of_mem _ (ih _ hj)

theorem bestOf_min : ∀ (l : List ℕ) (i : ℕ), bestOf cbs l = some i → ∀ j ∈ l,
    (cbs.getD i default).prio ≤ (cbs.getD j default).prio := by
  intro l
  induction l with
  | nil => intro i h; simp [bestOf] at h
  | cons a l ih =>
    intro i h j hj
    simp only [bestOf] at h
    split at h
    · rename_i hn
      rw [bestOf_eq_none] at hn
      subst hn
      cases h
      simp at hj; subst hj; exact Nat.le_refl _
    · rename_i b hb
      have hb' := ih b hb
      rcases List.mem_cons.1 hj with rfl | hj'
      · split at h
        · cases h; exact Nat.le_refl _
        · cases h; omega
      · have := hb' j hj'
        split at h
        · cases h; omega
        · cases h; exact this

theorem mem_pendingTimers (q : List (List ℕ)) (i : ℕ) : i ∈ pendingTimers cbs q ↔
    (i < cbs.length ∧ (cbs.getD i default).isTimer = true ∧ 0 < (q.getD i []).length) := by
  simp [pendingTimers, List.mem_filter, List.length_pos_iff]

theorem mem_pendingPolled (q : List (List ℕ)) (i : ℕ) : i ∈ pendingPolled cbs q ↔
    (i < cbs.length ∧ (cbs.getD i default).isTimer = false ∧ 0 < (q.getD i []).length) := by
  simp [pendingPolled, List.mem_filter, List.length_pos_iff]

theorem nodup_pendingPolled (q : List (List ℕ)) : (pendingPolled cbs q).Nodup :=
  List.Nodup.filter _ List.nodup_range

theorem choose_first {P : ℕ → Prop} (hE : ∃ t, P t ∧ ∀ u, u < t → ¬ P u) {t : ℕ} (h1 : P t)
    (h2 : ∀ u, u < t → ¬ P u) : Classical.choose hE = t := by
  have hs := Classical.choose_spec hE
  rcases Nat.lt_trichotomy (Classical.choose hE) t with h | h | h
  · exact absurd hs.1 (h2 _ h)
  · exact h
  · exact absurd h1 (hs.2 _ h)

theorem search (f : ℕ → Bool) (a : ℕ) : ∀ b,
    (∀ u, a ≤ u → u < b → f u = false) ∨ ∃ u, a ≤ u ∧ u < b ∧ f u = true := by
  intro b
  induction b with
  | zero => exact Or.inl (fun u _ h => by omega)
  | succ b ih =>
    rcases ih with h | ⟨u, h1, h2, h3⟩
    · by_cases hb : a ≤ b ∧ f b = true
      · exact Or.inr ⟨b, hb.1, by omega, hb.2⟩
      · refine Or.inl (fun u h1 h2 => ?_)
        rcases Nat.lt_or_ge u b with h' | h'
        · exact h u h1 h'
        · have e : u = b := by omega
          subst e
          cases hf : f u with
          | false => rfl
          | true => exact absurd ⟨h1, hf⟩ hb
    · exact Or.inr ⟨u, h1, by omega, h3⟩

end RefineLemmas

end RTA.Exec
