import RTA.Lemmas.Steps
/-! Periodic and sporadic arrival models: closed-form facts (C10, C11), sub-additivity, the bound
on admissible histories (`sporadic_bounds`, `periodic_bounds`) and its attainment by the critical
instant (`criticalInstant_admissible`, `sporadic_attained`, `periodic_attained`). -/

namespace RTA
open RTA.Spec

theorem mem_periodicSteps_imp (T H : Nat) : ∀ fuel j δ, δ ∈ periodicSteps T H fuel j →
    ∃ i, j ≤ i ∧ δ = T * i + 1 ∧ δ ≤ H := by
  intro fuel
  induction fuel with
  | zero => intro j δ h; simp [periodicSteps] at h
  | succ f ih =>
    intro j δ h
    simp only [periodicSteps] at h
    split at h
    · rcases List.mem_cons.1 h with rfl | h
      · exact ⟨j, Nat.le_refl _, rfl, by assumption⟩
      · obtain ⟨i, hi, h2, h3⟩ := ih _ _ h
        exact ⟨i, by omega, h2, h3⟩
    · simp at h

theorem periodicSteps_pairwise (T H : Nat) (hT : 1 ≤ T) : ∀ fuel j,
    (periodicSteps T H fuel j).Pairwise (· < ·) := by
  intro fuel
  induction fuel with
  | zero => intro j; simp [periodicSteps]
  | succ f ih =>
    intro j
    simp only [periodicSteps]
    split
    · refine List.pairwise_cons.2 ⟨?_, ih _⟩
      intro δ hδ
      obtain ⟨i, hi, rfl, _⟩ := mem_periodicSteps_imp T H _ _ _ hδ
      have := Nat.mul_le_mul_left T hi
      rw [Nat.mul_succ] at this
      omega
    · exact List.Pairwise.nil

theorem mem_periodicSteps_of (T H : Nat) (hT : 1 ≤ T) : ∀ fuel j i, H + 1 ≤ T * j + fuel →
    j ≤ i → T * i + 1 ≤ H → T * i + 1 ∈ periodicSteps T H fuel j := by
  intro fuel
  induction fuel with
  | zero =>
    intro j i hf hi h
    have := Nat.mul_le_mul_left T hi
    omega
  | succ f ih =>
    intro j i hf hi h
    have h1 := Nat.mul_le_mul_left T hi
    simp only [periodicSteps]
    rw [if_pos (by omega)]
    rcases Nat.lt_or_eq_of_le hi with hi | hi
    · refine List.mem_cons_of_mem _ (ih (j + 1) i ?_ hi h)
      rw [Nat.mul_succ]
      omega
    · subst hi
      exact List.mem_cons_self

theorem sporadic_N_eq (T J d : Nat) :
    (Arr.sporadic T J).N d = if d = 0 then 0 else ceilDiv (d + J) T := by
  simp [Arr.N]

theorem periodic_N_eq (T d : Nat) : (Arr.periodic T).N d = ceilDiv d T := by
  simp [Arr.N]

theorem periodicSteps_spec (T H fuel : Nat) (hT : 1 ≤ T) (hf : H + 1 ≤ fuel) :
    StepsSpec (fun d => ceilDiv d T) H (periodicSteps T H fuel 0) := by
  refine ⟨periodicSteps_pairwise T H hT _ _, fun δ => ⟨fun h => ?_, ?_⟩⟩
  · obtain ⟨i, _, rfl, hH⟩ := mem_periodicSteps_imp _ _ _ _ _ h
    exact ⟨Nat.succ_pos _, hH, (ceilDiv_step _ _ hT).2 ⟨i, rfl⟩⟩
  · rintro ⟨h1, h2, h3⟩
    obtain ⟨d, rfl⟩ : ∃ d, δ = d + 1 := ⟨δ - 1, by omega⟩
    obtain ⟨i, rfl⟩ := (ceilDiv_step _ _ hT).1 h3
    exact mem_periodicSteps_of T H hT fuel 0 i (by omega) (Nat.zero_le _) h2

theorem periodic_steps_spec (T H : Nat) (hT : 1 ≤ T) :
    StepsSpec (Arr.periodic T).N H ((Arr.periodic T).stepsUpTo H) := by
  rw [show (Arr.periodic T).N = fun d => ceilDiv d T from funext (periodic_N_eq T)]
  exact periodicSteps_spec T H (H + 1) hT (Nat.le_refl _)

theorem sporadic_N_mono (T J : Nat) (hT : 1 ≤ T) : MonoN (Arr.sporadic T J).N := by
  intro a b h
  rw [sporadic_N_eq, sporadic_N_eq]
  split
  · exact Nat.zero_le _
  · rw [if_neg (by omega)]
    exact ceilDiv_le_of_le T hT (by omega)

theorem sporadic_N_pos (T J d : Nat) (hT : 1 ≤ T) (hd : 1 ≤ d) : 0 < (Arr.sporadic T J).N d := by
  rw [sporadic_N_eq, if_neg (by omega), lt_ceilDiv_iff _ _ _ hT]
  omega

/-- `Sporadic::steps_iter` skips and shifts the periodic steps exactly as `Propagated` does -/
theorem sporadicTail_eq (T J H : Nat) (hH : 1 ≤ H) : ∀ fuel j,
    sporadicTail T J H fuel j =
      ((periodicSteps T (H + J) fuel j).filter (fun x => decide (x > J + 1))).map (· - J) := by
  intro fuel
  induction fuel with
  | zero => intro j; rfl
  | succ f ih =>
    intro j
    rw [sporadicTail, periodicSteps, ih]
    by_cases hJ : T * j > J
    · rw [if_pos hJ]
      by_cases hle : T * j + 1 - J ≤ H
      · rw [if_pos hle, if_pos (by omega), List.filter_cons, if_pos (decide_eq_true (by omega)),
          List.map_cons]
      · rw [if_neg hle, if_neg (by omega)]; rfl
    · rw [if_neg hJ, if_pos (by omega), List.filter_cons, if_neg (by rw [decide_eq_true_eq]; omega)]

/-- a sporadic model is the periodic one propagated with jitter `J` -/
theorem sporadic_steps_spec (T J H : Nat) (hT : 1 ≤ T) :
    StepsSpec (Arr.sporadic T J).N H ((Arr.sporadic T J).stepsUpTo H) := by
  rw [show (Arr.sporadic T J).N = fun d => if d = 0 then 0 else ceilDiv (d + J) T from
    funext (sporadic_N_eq T J)]
  simp only [Arr.stepsUpTo]
  split
  next hH =>
    have hp := stepsSpec_prop (fun d => ceilDiv d T) H J _ hH (fun _ _ h => ceilDiv_le_of_le T hT h)
      (periodicSteps_spec T (H + J) (H + J + 1 + 1) hT (Nat.le_succ _)).toSpec0
    -- the periodic list starts with the step 1, which the filter drops
    rw [periodicSteps, Nat.mul_zero, Nat.zero_add, if_pos (show 1 ≤ H + J by omega),
      List.filter_cons, if_pos ((lt_ceilDiv_iff (1 + J) T 0 hT).2 (by omega)),
      if_neg (by rw [decide_eq_true_eq]; omega), ← sporadicTail_eq T J H hH] at hp
    exact hp
  next hH =>
    obtain rfl : H = 0 := by omega
    exact stepsSpec_zero _

theorem sporadic_subadditive (T J a b : Nat) (hT : 1 ≤ T) :
    (Arr.sporadic T J).N (a + b) ≤ (Arr.sporadic T J).N a + (Arr.sporadic T J).N b := by
  rcases Nat.eq_zero_or_pos a with rfl | ha
  · rw [Nat.zero_add]; omega
  rcases Nat.eq_zero_or_pos b with rfl | hb
  · rw [Nat.add_zero]; omega
  rw [sporadic_N_eq, sporadic_N_eq, sporadic_N_eq, if_neg (by omega), if_neg (by omega),
    if_neg (by omega)]
  have h1 : ceilDiv (a + b + J) T ≤ ceilDiv ((a + J) + (b + J)) T :=
    ceilDiv_le_of_le T hT (by omega)
  have h2 := ceilDiv_add_le T hT (a + J) (b + J)
  omega

theorem periodic_subadditive (T a b : Nat) (hT : 1 ≤ T) :
    (Arr.periodic T).N (a + b) ≤ (Arr.periodic T).N a + (Arr.periodic T).N b := by
  rw [periodic_N_eq, periodic_N_eq, periodic_N_eq]
  exact ceilDiv_add_le T hT a b

theorem GapsGe_tail {T x : Nat} {l : List Nat} (h : GapsGe T (x :: l)) : GapsGe T l := by
  cases l with
  | nil => simp [GapsGe]
  | cons y l => rw [GapsGe] at h; exact h.2

theorem GapsEq_imp_GapsGe (T : Nat) : ∀ l, GapsEq T l → GapsGe T l := by
  intro l
  induction l with
  | nil => intro _; simp [GapsGe]
  | cons x l ih =>
    cases l with
    | nil => intro _; simp [GapsGe]
    | cons y l =>
      intro h
      rw [GapsEq] at h
      rw [GapsGe]
      exact ⟨Nat.le_of_eq h.1, ih h.2⟩

theorem DelayedBy_self (J : Nat) : ∀ l, DelayedBy J l l := by
  intro l
  induction l with
  | nil => simp [DelayedBy]
  | cons x l ih => rw [DelayedBy]; exact ⟨Nat.le_refl _, by omega, ih⟩

/-- if `c + 1` releases fall into `[t, t + Δ)`, the first arrival plus `c` periods is
before `t + Δ` -/
theorem sporadic_span (T J t Δ : Nat) : ∀ (as : List Nat) (a : Nat) (rs : List Nat) (r c : Nat),
    GapsGe T (a :: as) → DelayedBy J (a :: as) (r :: rs) → cnt (r :: rs) t Δ = c + 1 →
    a + c * T < t + Δ := by
  intro as
  induction as with
  | nil =>
    intro a rs r c hg hd hc
    cases rs with
    | nil =>
      rw [cnt_cons, cnt_nil] at hc
      rw [DelayedBy] at hd
      split at hc
      · have : c = 0 := by omega
        subst this
        rw [Nat.zero_mul]
        omega
      · omega
    | cons r' rs' => simp [DelayedBy] at hd
  | cons a' as ih =>
    intro a rs r c hg hd hc
    cases rs with
    | nil => simp [DelayedBy] at hd
    | cons r' rs' =>
      rw [DelayedBy] at hd
      rw [GapsGe] at hg
      obtain ⟨h1, h2, hd'⟩ := hd
      obtain ⟨hg1, hg'⟩ := hg
      rw [cnt_cons] at hc
      cases hc' : cnt (r' :: rs') t Δ with
      | zero =>
        rw [hc'] at hc
        split at hc
        · have : c = 0 := by omega
          subst this
          rw [Nat.zero_mul]
          omega
        · omega
      | succ k =>
        have ihk := ih a' rs' r' k hg' hd' hc'
        rw [hc'] at hc
        have hck : c ≤ k + 1 := by split at hc <;> omega
        have := Nat.mul_le_mul_right T hck
        rw [Nat.succ_mul] at this
        omega

theorem sporadic_cnt_bound (T J t Δ : Nat) : ∀ (as rs : List Nat) (c : Nat),
    GapsGe T as → DelayedBy J as rs → cnt rs t Δ = c + 1 → c * T < Δ + J := by
  intro as
  induction as with
  | nil =>
    intro rs c hg hd hc
    cases rs with
    | nil => rw [cnt_nil] at hc; omega
    | cons r rs => simp [DelayedBy] at hd
  | cons a as ih =>
    intro rs c hg hd hc
    cases rs with
    | nil => simp [DelayedBy] at hd
    | cons r rs =>
      have hs := sporadic_span T J t Δ as a rs r c hg hd
      rw [DelayedBy] at hd
      obtain ⟨h1, h2, hd'⟩ := hd
      by_cases hin : t ≤ r ∧ r < t + Δ
      · have := hs hc
        omega
      · rw [cnt_cons, if_neg hin] at hc
        exact ih rs c (GapsGe_tail hg) hd' (by omega)

theorem sporadic_bounds_aux (T J : Nat) (hT : 1 ≤ T) (arrivals rels : List Nat)
    (hg : GapsGe T arrivals) (hd : DelayedBy J arrivals rels) (t Δ : Nat) :
    cnt rels t Δ ≤ (Arr.sporadic T J).N Δ := by
  rw [sporadic_N_eq]
  split
  next h => subst h; rw [cnt_zero]; exact Nat.le_refl _
  next h =>
    cases hc : cnt rels t Δ with
    | zero => exact Nat.zero_le _
    | succ c =>
      exact (lt_ceilDiv_iff _ _ _ hT).2 (sporadic_cnt_bound T J t Δ arrivals rels c hg hd hc)

/-- no admissible sporadic sequence has more events in a window than the bound -/
theorem sporadic_bounds (T J : Nat) (hT : 1 ≤ T) (rels : List Nat)
    (h : Admissible (.sporadic T J) rels) (t Δ : Nat) :
    cnt rels t Δ ≤ (Arr.sporadic T J).N Δ := by
  rw [Admissible] at h
  obtain ⟨arrivals, hg, hd⟩ := h
  exact sporadic_bounds_aux T J hT arrivals rels hg hd t Δ

theorem periodic_bounds (T : Nat) (hT : 1 ≤ T) (rels : List Nat)
    (h : Admissible (.periodic T) rels) (t Δ : Nat) :
    cnt rels t Δ ≤ (Arr.periodic T).N Δ := by
  rw [Admissible] at h
  have := sporadic_bounds_aux T 0 hT rels rels (GapsEq_imp_GapsGe T rels h) (DelayedBy_self 0 rels) t Δ
  rw [sporadic_N_eq] at this
  rw [periodic_N_eq]
  split at this
  next h0 => subst h0; rw [ceilDiv_zero]; exact this
  next h0 => exact this

theorem GapsEq_range' (T : Nat) : ∀ n s, GapsEq T ((List.range' s n).map (· * T)) := by
  intro n
  induction n with
  | zero => intro s; trivial
  | succ n ih =>
    intro s
    cases n with
    | zero => trivial
    | succ n => exact ⟨(Nat.succ_mul s T).symm, ih (s + 1)⟩

/-- the synchronous periodic sequence `0, T, 2T, …` -/
theorem periodicSync_admissible (T n : Nat) :
    Admissible (.periodic T) ((List.range n).map (· * T)) := by
  rw [Admissible, List.range_eq_range']
  exact GapsEq_range' T n 0

theorem DelayedBy_map (J : Nat) (f g : Nat → Nat) : ∀ l : List Nat,
    (∀ k ∈ l, f k ≤ g k ∧ g k ≤ f k + J) → DelayedBy J (l.map f) (l.map g) := by
  intro l
  induction l with
  | nil => intro _; simp [DelayedBy]
  | cons x l ih =>
    intro h
    rw [List.map_cons, List.map_cons, DelayedBy]
    have hx := h x List.mem_cons_self
    exact ⟨hx.1, hx.2, ih (fun k hk => h k (List.mem_cons_of_mem _ hk))⟩

/-- the critical-instant history is admissible … -/
theorem criticalInstant_admissible (T J n : Nat) (hT : 1 ≤ T) :
    Admissible (.sporadic T J) (criticalInstant T J n) := by
  have _ := hT
  rw [Admissible]
  refine ⟨(List.range n).map (· * T), ?_, ?_⟩
  · rw [List.range_eq_range']
    exact GapsEq_imp_GapsGe T _ (GapsEq_range' T n 0)
  · unfold criticalInstant
    apply DelayedBy_map
    intro k _
    omega

theorem length_filter_range_lt (T x : Nat) (hT : 1 ≤ T) : ∀ n,
    ((List.range n).filter (fun k => decide (k * T < x))).length = min n (ceilDiv x T) := by
  intro n
  induction n with
  | zero => simp
  | succ n ih =>
    rw [List.range_succ, List.filter_append, List.length_append, ih]
    have := lt_ceilDiv_iff x T n hT
    by_cases h : n * T < x
    · simp [h]; omega
    · simp [h]; omega

/-- … and attains the bound for every window length at once (window starting at `J`) -/
theorem sporadic_attained (T J Δ n : Nat) (hT : 1 ≤ T) (hn : (Arr.sporadic T J).N Δ ≤ n) :
    cnt (criticalInstant T J n) J Δ = (Arr.sporadic T J).N Δ := by
  rw [sporadic_N_eq] at hn ⊢
  split
  next h => subst h; exact cnt_zero _ _
  next h =>
    rw [if_neg h] at hn
    unfold cnt criticalInstant
    rw [List.filter_map, List.length_map]
    have : (List.range n).filter ((fun r => decide (J ≤ r) && decide (r < J + Δ)) ∘
        fun k => max (k * T) J) = (List.range n).filter (fun k => decide (k * T < Δ + J)) := by
      apply List.filter_congr
      intro k _
      simp only [Function.comp]
      rw [Bool.eq_iff_iff]
      simp only [Bool.and_eq_true, decide_eq_true_eq]
      omega
    rw [this, length_filter_range_lt T _ hT]
    omega

/-- the periodic bound is attained by the synchronous periodic sequence, which is the critical
instant without jitter -/
theorem periodic_attained (T Δ n : Nat) (hT : 1 ≤ T) (hn : (Arr.periodic T).N Δ ≤ n) :
    cnt ((List.range n).map (· * T)) 0 Δ = (Arr.periodic T).N Δ := by
  have hN : (Arr.sporadic T 0).N Δ = (Arr.periodic T).N Δ := by
    rw [sporadic_N_eq, periodic_N_eq, Nat.add_zero]
    split
    next h => subst h; exact (ceilDiv_zero T).symm
    next h => rfl
  have h := sporadic_attained T 0 Δ n hT (hN ▸ hn)
  rw [hN, criticalInstant] at h
  simp only [Nat.max_zero] at h
  exact h

end RTA
