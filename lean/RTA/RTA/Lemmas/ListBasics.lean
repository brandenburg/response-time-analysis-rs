import RTA.Spec.Events
/-! Facts about lists of naturals that the arrival and cost lemmas share: positional access with
default `0`, sorted lists, `sumList` (through `sumList_eq_sum` the `List.sum` library applies) and
`minList?`, counting the entries below a threshold (the lookup in a sorted table), `maxList`, the
window count `cnt` of the event specification; at the end the arithmetic of `ceilDiv` and two
induction and case principles on naturals. -/

namespace RTA
open RTA.Spec

theorem getD_eq_getElem (l : List Nat) {i : Nat} (hi : i < l.length) : l.getD i 0 = l[i] := by
  rw [List.getD_eq_getElem?_getD, List.getElem?_eq_getElem hi, Option.getD_some]

theorem getD_mem_of_lt (l : List Nat) {i : Nat} (hi : i < l.length) : l.getD i 0 ∈ l := by
  rw [getD_eq_getElem l hi]; exact List.getElem_mem hi

theorem getD_mem {α : Type} [Inhabited α] (l : List α) (i : Nat) (hi : i < l.length) :
    l.getD i default ∈ l := by
  rw [List.getD_eq_getElem?_getD, List.getElem?_eq_getElem hi]; exact List.getElem_mem hi

theorem sumList_map_le {α : Type} (l : List α) (f g : α → Nat) (h : ∀ o ∈ l, f o ≤ g o) :
    sumList (l.map f) ≤ sumList (l.map g) := by
  induction l with
  | nil => exact Nat.le_refl _
  | cons a l ih =>
    exact Nat.add_le_add (h a (List.mem_cons_self ..)) (ih fun o ho => h o (List.mem_cons_of_mem _ ho))

theorem sumList_eq_sum (l : List Nat) : sumList l = l.sum := by
  induction l with
  | nil => rfl
  | cons x xs ih => rw [sumList, ih, List.sum_cons]

theorem sumList_append (l1 l2 : List Nat) : sumList (l1 ++ l2) = sumList l1 + sumList l2 := by
  simp only [sumList_eq_sum, List.sum_append]

theorem sumList_perm (l1 l2 : List Nat) (h : l1.Perm l2) : sumList l1 = sumList l2 := by
  simp only [sumList_eq_sum, h.sum_nat]

theorem sumList_take_le (l : List Nat) (n : Nat) : sumList (l.take n) ≤ sumList l := by
  induction l generalizing n with
  | nil => rw [List.take_nil]; exact Nat.le_refl _
  | cons x xs ih =>
    cases n with
    | zero => exact Nat.zero_le _
    | succ k => exact Nat.add_le_add_left (ih k) x

theorem sublist_sum_le_take (L : List Nat) (hL : L.Pairwise (· ≥ ·)) :
    ∀ (s : List Nat) (n : Nat), s.Sublist L → s.length ≤ n → sumList s ≤ sumList (L.take n) := by
  induction L with
  | nil =>
    intro s n hs _
    rw [List.sublist_nil.1 hs]
    exact Nat.zero_le _
  | cons y ys ih =>
    intro s n hs hn
    have hL' := List.pairwise_cons.1 hL
    cases s with
    | nil => exact Nat.zero_le _
    | cons z s' =>
      cases n with
      | zero => exact absurd hn (Nat.not_succ_le_zero _)
      | succ k =>
        have hzy : z ≤ y := by
          rcases List.mem_cons.1 (hs.subset List.mem_cons_self) with rfl | hz'
          · exact Nat.le_refl _
          · exact hL'.1 z hz'
        have hs' : s'.Sublist ys := by simpa using hs.tail
        exact Nat.add_le_add hzy (ih hL'.2 s' k hs' (Nat.le_of_succ_le_succ hn))

theorem minList?_spec (l : List Nat) (h : l ≠ []) :
    ∃ m, minList? l = some m ∧ m ∈ l ∧ ∀ x ∈ l, m ≤ x := by
  induction l with
  | nil => exact absurd rfl h
  | cons x xs ih =>
    by_cases hxs : xs = []
    · subst hxs; exact ⟨x, rfl, List.mem_singleton.2 rfl, fun y hy => Nat.le_of_eq (List.mem_singleton.1 hy).symm⟩
    · obtain ⟨m, hm, hmem, hle⟩ := ih hxs
      refine ⟨min x m, by rw [minList?, hm], ?_, ?_⟩
      · rcases Nat.le_total x m with h1 | h1
        · rw [Nat.min_eq_left h1]; exact List.mem_cons_self
        · rw [Nat.min_eq_right h1]; exact List.mem_cons_of_mem _ hmem
      · intro y hy
        rcases List.mem_cons.1 hy with rfl | hy
        · exact Nat.min_le_left _ _
        · exact Nat.le_trans (Nat.min_le_right _ _) (hle y hy)

theorem le_foldl_min_iff (g : Nat → Nat) (l : List Nat) (a B : Nat) :
    B ≤ l.foldl (fun m i => min m (g i)) a ↔ B ≤ a ∧ ∀ i ∈ l, B ≤ g i := by
  induction l generalizing a with
  | nil => simp
  | cons x xs ih => rw [List.foldl_cons, ih, Nat.le_min, List.forall_mem_cons, and_assoc]

theorem getD_append_left {l l' : List Nat} {i : Nat} (h : i < l.length) :
    (l ++ l').getD i 0 = l.getD i 0 := by
  rw [List.getD_eq_getElem?_getD, List.getD_eq_getElem?_getD, List.getElem?_append_left h]

theorem getD_append_last {l : List Nat} {e : Nat} : (l ++ [e]).getD l.length 0 = e := by
  rw [List.getD_eq_getElem?_getD, List.getElem?_append_right (Nat.le_refl _), Nat.sub_self]; rfl

theorem getD_take {α : Type} (l : List α) (p k : Nat) (hk : k < p) {d : α} :
    (l.take p).getD k d = l.getD k d := by
  rw [List.getD_eq_getElem?_getD, List.getD_eq_getElem?_getD, List.getElem?_take, if_pos hk]

theorem getD_reverse (l : List Nat) (i : Nat) (hi : i < l.length) :
    l.reverse.getD i 0 = l.getD (l.length - 1 - i) 0 := by
  rw [List.getD_eq_getElem?_getD, List.getD_eq_getElem?_getD, List.getElem?_reverse hi]

theorem getD_zero_eq_headD (d : List Nat) : d.getD 0 0 = d.headD 0 := by
  cases d <;> rfl

theorem getD_last (d : List Nat) : d.getD (d.length - 1) 0 = d.getLastD 0 := by
  rw [List.getD_eq_getElem?_getD, ← List.getLast?_eq_getElem?, List.getLastD_eq_getLast?]

theorem take_cons_take (p : Nat) (t : Nat) (rd : List Nat) :
    (t :: rd.take p).take p = (t :: rd).take p := by
  cases p with
  | zero => rfl
  | succ p => rw [List.take_succ_cons, List.take_succ_cons, List.take_take, Nat.min_eq_left (Nat.le_succ p)]

theorem strict_imp_sorted (l : List Nat) (h : l.Pairwise (· < ·)) : l.Pairwise (· ≤ ·) :=
  h.imp (fun hab => Nat.le_of_lt hab)

theorem sorted_head_le {a : Nat} {l : List Nat} (hs : (a :: l).Pairwise (· ≤ ·)) :
    ∀ v ∈ a :: l, a ≤ v := by
  intro v hv
  rcases List.mem_cons.1 hv with rfl | hv
  · exact Nat.le_refl _
  · exact List.rel_of_pairwise_cons hs hv

theorem sorted_getD_le (l : List Nat) (hs : l.Pairwise (· ≤ ·)) (i j : Nat) (hij : i ≤ j)
    (hj : j < l.length) : l.getD i 0 ≤ l.getD j 0 := by
  rw [getD_eq_getElem l hj, getD_eq_getElem l (Nat.lt_of_le_of_lt hij hj)]
  rcases Nat.lt_or_eq_of_le hij with h | rfl
  · exact List.pairwise_iff_getElem.1 hs i j _ hj h
  · exact Nat.le_refl _

theorem sorted_of_adjacent (l : List Nat)
    (h : ∀ k, k + 1 < l.length → l.getD k 0 ≤ l.getD (k + 1) 0) : l.Pairwise (· ≤ ·) := by
  induction l with
  | nil => exact List.Pairwise.nil
  | cons a as ih =>
    have ih' := ih (fun k hk => h (k + 1) (Nat.succ_lt_succ hk))
    refine List.pairwise_cons.2 ⟨fun v hv => ?_, ih'⟩
    cases as with
    | nil => cases hv
    | cons b bs => exact Nat.le_trans (h 0 (by simp)) (sorted_head_le ih' v hv)

theorem maxList_le_iff (l : List Nat) (b : Nat) : maxList l ≤ b ↔ ∀ x ∈ l, x ≤ b := by
  induction l with
  | nil => simp [maxList]
  | cons a as ih => simp [maxList, Nat.max_le, ih]

theorem le_maxList_of_mem (l : List Nat) (x : Nat) (h : x ∈ l) : x ≤ maxList l :=
  (maxList_le_iff l _).1 (Nat.le_refl _) x h

/-- number of entries of `d` that are `< x` -/
def countLt (d : List Nat) (x : Nat) : Nat := (d.filter (fun v => decide (v < x))).length

theorem countLt_cons (v : Nat) (d : List Nat) (x : Nat) :
    countLt (v :: d) x = (if v < x then 1 else 0) + countLt d x := by
  unfold countLt
  rw [List.filter_cons]
  by_cases h : v < x
  · rw [if_pos h, if_pos (decide_eq_true h), List.length_cons, Nat.add_comm]
  · rw [if_neg h, if_neg (by rw [decide_eq_true_eq]; exact h), Nat.zero_add]

theorem countLt_append (a b : List Nat) (x : Nat) :
    countLt (a ++ b) x = countLt a x + countLt b x := by
  unfold countLt; rw [List.filter_append, List.length_append]

theorem countLt_le_length (d : List Nat) (x : Nat) : countLt d x ≤ d.length :=
  List.length_filter_le _ _

theorem countLt_eq_zero (d : List Nat) (x : Nat) (h : ∀ v ∈ d, x ≤ v) : countLt d x = 0 := by
  unfold countLt
  rw [List.length_eq_zero_iff, List.filter_eq_nil_iff]
  intro v hv
  rw [decide_eq_true_eq]
  exact Nat.not_lt.2 (h v hv)

theorem countLt_mono (d : List Nat) (a b : Nat) (h : a ≤ b) : countLt d a ≤ countLt d b := by
  unfold countLt
  rw [← List.countP_eq_length_filter, ← List.countP_eq_length_filter]
  apply List.countP_mono_left
  intro v _ hv
  rw [decide_eq_true_eq] at hv ⊢
  exact Nat.lt_of_lt_of_le hv h

theorem countLt_succ (d : List Nat) (x : Nat) : countLt d (x + 1) = countLt d x + d.count x := by
  induction d with
  | nil => rfl
  | cons a d ih =>
    rw [countLt_cons, countLt_cons, ih, List.count_cons]
    rcases Nat.lt_trichotomy a x with h | rfl | h
    · rw [if_pos h, if_pos (Nat.lt_succ_of_lt h), if_neg (by simp; omega)]; omega
    · rw [if_neg (Nat.lt_irrefl a), if_pos (Nat.lt_succ_self a), if_pos (by simp)]; omega
    · rw [if_neg (by omega), if_neg (by omega), if_neg (by simp; omega)]; omega

/-- up to the last entry of a non-empty list the count misses at least that entry -/
theorem countLt_lt_length (d : List Nat) (hne : d ≠ []) (x : Nat) (h : x ≤ d.getLastD 0) :
    countLt d x < d.length := by
  unfold countLt
  rw [List.getLastD_eq_getLast?, List.getLast?_eq_some_getLast hne, Option.getD_some] at h
  rw [List.length_filter_lt_length_iff_exists]
  exact ⟨d.getLast hne, List.getLast_mem hne, by rw [decide_eq_true_eq]; exact Nat.not_lt.2 h⟩

/-- in a sorted list the entries below `x` are exactly the first `countLt d x` ones -/
theorem getD_lt_of_countLt (d : List Nat) (hs : d.Pairwise (· ≤ ·)) (x i : Nat)
    (hc : i < countLt d x) : d.getD i 0 < x := by
  induction d generalizing i with
  | nil => cases hc
  | cons a as ih =>
    by_cases hax : a < x
    · cases i with
      | zero => exact hax
      | succ j =>
        rw [countLt_cons, if_pos hax] at hc
        exact ih (List.pairwise_cons.1 hs).2 j (by omega)
    · rw [countLt_eq_zero _ x (fun v hv => Nat.le_trans (Nat.not_lt.1 hax) (sorted_head_le hs v hv))] at hc
      cases hc

theorem getD_ge_of_countLt (d : List Nat) (hs : d.Pairwise (· ≤ ·)) (x i : Nat)
    (hc : countLt d x ≤ i) (hi : i < d.length) : x ≤ d.getD i 0 := by
  induction d generalizing i with
  | nil => cases hi
  | cons a as ih =>
    by_cases hax : a < x
    · rw [countLt_cons, if_pos hax] at hc
      cases i with
      | zero => omega
      | succ j => exact ih (List.pairwise_cons.1 hs).2 j (by omega) (Nat.lt_of_succ_lt_succ hi)
    · exact Nat.le_trans (Nat.not_lt.1 hax) (sorted_head_le hs _ (getD_mem_of_lt _ hi))

theorem cnt_nil (t Δ : Nat) : cnt [] t Δ = 0 := rfl

theorem cnt_cons (r : Nat) (rs : List Nat) (t Δ : Nat) :
    cnt (r :: rs) t Δ = (if t ≤ r ∧ r < t + Δ then 1 else 0) + cnt rs t Δ := by
  unfold cnt
  rw [List.filter_cons]
  by_cases h : t ≤ r ∧ r < t + Δ
  · rw [if_pos h, if_pos (by simpa using h), List.length_cons, Nat.add_comm]
  · rw [if_neg h, if_neg (by simpa using h), Nat.zero_add]

theorem cnt_append (l1 l2 : List Nat) (t x : Nat) : cnt (l1 ++ l2) t x = cnt l1 t x + cnt l2 t x := by
  unfold cnt
  rw [List.filter_append, List.length_append]

theorem cnt_perm (l1 l2 : List Nat) (h : l1.Perm l2) (t x : Nat) : cnt l1 t x = cnt l2 t x :=
  (h.filter _).length_eq

theorem cnt_zero (rels : List Nat) (t : Nat) : cnt rels t 0 = 0 := by
  unfold cnt
  rw [List.length_eq_zero_iff, List.filter_eq_nil_iff]
  intro v _
  simp

/-- the events before `t + Δ` are those before `t` and those in `[t, t + Δ)` -/
theorem countLt_add_cnt (rels : List Nat) (t Δ : Nat) :
    countLt rels t + cnt rels t Δ = countLt rels (t + Δ) := by
  induction rels with
  | nil => rfl
  | cons r rs ih =>
    rw [cnt_cons, countLt_cons, countLt_cons, ← ih]
    by_cases h : r < t
    · rw [if_pos h, if_neg (by omega), if_pos (by omega)]; omega
    · rw [if_neg h]
      by_cases h' : r < t + Δ
      · rw [if_pos h', if_pos ⟨by omega, h'⟩]; omega
      · rw [if_neg h', if_neg (by omega)]; omega

theorem cnt_add (rels : List Nat) (t a b : Nat) :
    cnt rels t (a + b) = cnt rels t a + cnt rels (t + a) b := by
  have h1 := countLt_add_cnt rels t (a + b)
  have h2 := countLt_add_cnt rels t a
  have h3 := countLt_add_cnt rels (t + a) b
  rw [Nat.add_assoc] at h3
  omega

theorem cnt_eq_countLt (l : List Nat) (t x : Nat) (h : ∀ v ∈ l, t ≤ v) :
    cnt l t x = countLt l (t + x) := by
  rw [← countLt_add_cnt, countLt_eq_zero l t h, Nat.zero_add]

theorem period_induction {P : Nat → Prop} {L : Nat} (hL : 0 < L) (base : ∀ n, n < L → P n)
    (step : ∀ n, P n → P (n + L)) (n : Nat) : P n := by
  induction n using Nat.strongRecOn with
  | ind n ih =>
    by_cases h : n < L
    · exact base n h
    · have := step (n - L) (ih (n - L) (by omega))
      rwa [Nat.sub_add_cancel (by omega)] at this

theorem le_half_of_add_succ_eq (L i j : Nat) (h : i + j + 1 = L) :
    (i ≤ L / 2 ∧ L - i - 1 = j) ∨ (j ≤ L / 2 ∧ L - j - 1 = i) := by
  omega

theorem ceilDiv_eq (a T : Nat) (hT : 1 ≤ T) : ceilDiv a T = (a + (T - 1)) / T := by
  unfold ceilDiv
  have hr := Nat.mod_lt a hT
  conv => rhs; rw [← Nat.div_add_mod a T, Nat.add_assoc, Nat.add_comm, Nat.add_mul_div_left _ _ hT]
  rw [Nat.add_comm]
  congr 1
  split
  · exact (Nat.div_eq_of_lt_le (by omega) (by omega)).symm
  · exact (Nat.div_eq_of_lt (by omega)).symm

/-- `ceilDiv · T` is the lower adjoint of `· * T` -/
theorem ceilDiv_le_iff (a T n : Nat) (hT : 1 ≤ T) : ceilDiv a T ≤ n ↔ a ≤ n * T := by
  rw [ceilDiv_eq a T hT, Nat.div_le_iff_le_mul_add_pred hT, Nat.mul_comm]
  omega

theorem lt_ceilDiv_iff (a T n : Nat) (hT : 1 ≤ T) : n < ceilDiv a T ↔ n * T < a := by
  have := ceilDiv_le_iff a T n hT
  omega

theorem le_ceilDiv_mul (a T : Nat) (hT : 1 ≤ T) : a ≤ ceilDiv a T * T :=
  (ceilDiv_le_iff a T _ hT).1 (Nat.le_refl _)

theorem ceilDiv_le_of_le (T : Nat) (hT : 1 ≤ T) {a b : Nat} (h : a ≤ b) :
    ceilDiv a T ≤ ceilDiv b T :=
  (ceilDiv_le_iff a T _ hT).2 (Nat.le_trans h (le_ceilDiv_mul b T hT))

theorem ceilDiv_add_le (T : Nat) (hT : 1 ≤ T) (a b : Nat) :
    ceilDiv (a + b) T ≤ ceilDiv a T + ceilDiv b T := by
  rw [ceilDiv_le_iff _ _ _ hT, Nat.add_mul]
  have := le_ceilDiv_mul a T hT
  have := le_ceilDiv_mul b T hT
  omega

theorem ceilDiv_step (a T : Nat) (hT : 1 ≤ T) :
    ceilDiv a T < ceilDiv (a + 1) T ↔ ∃ i, a = T * i := by
  constructor
  · intro h
    refine ⟨ceilDiv a T, ?_⟩
    have h1 := (lt_ceilDiv_iff (a + 1) T (ceilDiv a T) hT).1 h
    have h2 := le_ceilDiv_mul a T hT
    rw [Nat.mul_comm]
    omega
  · rintro ⟨i, rfl⟩
    have h1 : ceilDiv (T * i) T ≤ i :=
      (ceilDiv_le_iff _ _ _ hT).2 (by rw [Nat.mul_comm]; exact Nat.le_refl _)
    have h2 : i < ceilDiv (T * i + 1) T :=
      (lt_ceilDiv_iff _ _ _ hT).2 (by rw [Nat.mul_comm]; omega)
    omega

theorem ceilDiv_zero (T : Nat) : ceilDiv 0 T = 0 := by
  simp [ceilDiv]

end RTA
