import RTA.Lemmas.PruneFP
import RTA.Lemmas.PruneEDF
import RTA.Lemmas.ArrAll
/-! C17 on the naive evaluators (FP, EDF, FIFO): monotone in workload (`naive*_mono`), an `ok`
stable under a larger limit (`naive*_limit_stable`); parameter changes that harden a workload
(jitter, period, WCET, an added task, a longer segment).
Order on results: `Res.le` (`ok a ≤ ok b` iff `a ≤ b`; every `ok` below the divergence error
`div 0 limit`, the only one these analyses return; never `div ≤ ok`), so "never decreases a
bound and never turns an error into Ok". -/

namespace RTA
open RTA.Spec
open PruneCoreLemmas PruneFPLemmas PruneEDFLemmas

namespace MonoLemmas

theorem maxList_range_le (g g' : Nat → Nat) (L L' : Nat) (hL : L ≤ L')
    (hle : ∀ A, A < L → g A ≤ g' A) :
    maxList ((List.range L).map g) ≤ maxList ((List.range L').map g') := by
  apply (maxList_le_iff _ _).2
  intro x hx
  rcases List.mem_map.1 hx with ⟨A, hA, rfl⟩
  have hAL := List.mem_range.1 hA
  exact Nat.le_trans (hle A hAL)
    (le_maxList_of_mem _ _ (List.mem_map.2 ⟨A, List.mem_range.2 (by omega), rfl⟩))

theorem ne_panic_of_cases {x : Res} {o l : Nat} (h : (∃ v, x = .ok v) ∨ x = .div o l) :
    x ≠ .panic := by
  rcases h with ⟨v, rfl⟩ | rfl <;> exact Res.noConfusion

theorem naiveFp_cases (tua : RB) (others : List RB) (B rem limit : Nat) :
    (∃ v, naiveFp tua others B rem limit = .ok v) ∨
      naiveFp tua others B rem limit = .div 0 limit :=
  scheme_cases _ List.range _ 0 limit (naiveSolve_cases _ limit) (fpPer_cases tua others B rem limit)

theorem naiveEdf_cases (tua : RB) (D : Nat) (others : List EdfTask) (rem : Nat) (wb : Bool)
    (limit : Nat) :
    (∃ v, naiveEdf tua D others rem wb limit = .ok v) ∨
      naiveEdf tua D others rem wb limit = .div 0 limit :=
  scheme_cases _ List.range _ 0 limit (naiveSolve_cases _ limit)
    (edfPer_cases tua D others rem wb limit)

theorem prop_mono (a : Arr) (hwf : a.WF) (j j' d : Nat) (h : j ≤ j') :
    (Arr.prop j a).N d ≤ (Arr.prop j' a).N d := by
  simp only [Arr.N]
  split
  · exact Nat.le_refl _
  · exact Arr.N_mono a hwf _ _ (by omega)

theorem sporadic_jitter_mono (T : Nat) (hT : 1 ≤ T) (j j' d : Nat) (h : j ≤ j') :
    (Arr.sporadic T j).N d ≤ (Arr.sporadic T j').N d := by
  rw [sporadic_N_eq, sporadic_N_eq]
  split
  · exact Nat.le_refl _
  · exact ceilDiv_le_of_le T hT (by omega)

mutual
theorem withJitter_mono' : (a : Arr) → a.WF → ∀ j j' d, j ≤ j' →
    (a.withJitter j).N d ≤ (a.withJitter j').N d
  | .never, _, j, j', d, _ => by simp only [Arr.withJitter]; exact Nat.le_refl _
  | .periodic T, hwf, j, j', d, h => by
    simp only [Arr.WF] at hwf
    simp only [Arr.withJitter]
    exact sporadic_jitter_mono T hwf j j' d h
  | .sporadic T J, hwf, j, j', d, h => by
    simp only [Arr.WF] at hwf
    simp only [Arr.withJitter]
    exact sporadic_jitter_mono T hwf (J + j) (J + j') d (by omega)
  | .curve dm, hwf, j, j', d, h => by
    simp only [Arr.withJitter]
    exact prop_mono (.curve dm) hwf j j' d h
  | .xcurve dm, hwf, j, j', d, h => by
    simp only [Arr.withJitter]
    exact prop_mono (.xcurve dm) hwf j j' d h
  | .pfx hz st, hwf, j, j', d, h => by
    simp only [Arr.withJitter]
    exact prop_mono (.pfx hz st) hwf j j' d h
  | .prop J a, hwf, j, j', d, h => by
    simp only [Arr.WF] at hwf
    simp only [Arr.withJitter]
    exact prop_mono a hwf (J + j) (J + j') d (by omega)
  | .agg as, hwf, j, j', d, h => by
    simp only [Arr.WF] at hwf
    simp only [Arr.withJitter, Arr.N]
    exact withJitterList_mono' as hwf j j' d h
  | .sum a b, hwf, j, j', d, h => by
    simp only [Arr.WF] at hwf
    simp only [Arr.withJitter, Arr.N]
    exact Nat.add_le_add (withJitter_mono' a hwf.1 j j' d h) (withJitter_mono' b hwf.2 j j' d h)
theorem withJitterList_mono' : (as : List Arr) → Arr.WFlist as → ∀ j j' d, j ≤ j' →
    Arr.Nlist (Arr.withJitterList as j) d ≤ Arr.Nlist (Arr.withJitterList as j') d
  | [], _, j, j', d, _ => by simp only [Arr.withJitterList]; exact Nat.le_refl _
  | a :: as, hwf, j, j', d, h => by
    simp only [Arr.WFlist] at hwf
    simp only [Arr.withJitterList, Arr.Nlist]
    exact Nat.add_le_add (withJitter_mono' a hwf.1 j j' d h)
      (withJitterList_mono' as hwf.2 j j' d h)
end

theorem ceilDiv_param_le (a a' T T' : Nat) (hT' : 1 ≤ T') (hT : T' ≤ T) (ha : a ≤ a') :
    ceilDiv a T ≤ ceilDiv a' T' := by
  rw [ceilDiv_le_iff a T _ (by omega)]
  have h1 := le_ceilDiv_mul a' T' hT'
  have h2 : ceilDiv a' T' * T' ≤ ceilDiv a' T' * T := Nat.mul_le_mul_left _ hT
  omega

end MonoLemmas
open MonoLemmas

theorem naiveSolve_limit_stable (w : Nat → Nat) (limit limit' r : Nat) (h : naiveSolve w limit = .ok r)
    (hl : limit ≤ limit') : naiveSolve w limit' = .ok r := by
  rw [naiveSolve_ok_iff] at h ⊢
  exact ⟨by omega, h.2.1, h.2.2⟩

theorem naiveFifo_limit_stable (t : RB) (limit limit' R : Nat) (h : naiveFifo t limit = .ok R)
    (hl : limit ≤ limit') : naiveFifo t limit' = .ok R := by
  rw [naiveFifo_eq_bind, bind_eq_ok] at h ⊢
  obtain ⟨L, hL, hR⟩ := h
  exact ⟨L, naiveSolve_limit_stable _ limit limit' L hL hl, hR⟩

theorem naiveFp_limit_stable (tua : RB) (others : List RB) (B rem limit limit' R : Nat)
    (h : naiveFp tua others B rem limit = .ok R) (hl : limit ≤ limit') :
    naiveFp tua others B rem limit' = .ok R := by
  refine scheme_ok_stable _ _ List.range (fpPer tua others B rem limit) (fpPer tua others B rem limit') R
    (fun m hm => naiveSolve_limit_stable _ limit limit' m hm hl) ?_ h
  intro A v hv
  rw [fpPer_eq_bind, bind_eq_ok] at hv ⊢
  obtain ⟨AF, hAF, e⟩ := hv
  exact ⟨AF, naiveSolve_limit_stable _ limit limit' AF hAF hl, e⟩

theorem naiveEdf_limit_stable (tua : RB) (D : Nat) (others : List EdfTask) (rem : Nat) (wb : Bool)
    (limit limit' R : Nat) (h : naiveEdf tua D others rem wb limit = .ok R) (hl : limit ≤ limit') :
    naiveEdf tua D others rem wb limit' = .ok R := by
  refine scheme_ok_stable _ _ List.range (edfPer tua D others rem wb limit)
    (edfPer tua D others rem wb limit') R
    (fun m hm => naiveSolve_limit_stable _ limit limit' m hm hl) ?_ h
  intro A v hv
  rw [edfPer_eq_bind, bind_eq_ok] at hv ⊢
  obtain ⟨AF, hAF, e⟩ := hv
  exact ⟨AF, naiveSolve_limit_stable _ limit limit' AF hAF hl, e⟩

theorem naiveFifo_mono (t t' : RB) (h : ∀ d, t.need d ≤ t'.need d) (limit : Nat) :
    Res.le (naiveFifo t limit) (naiveFifo t' limit) := by
  refine le_of_leD (o := 0) (l := limit) ?_
    (bind_cases _ _ 0 limit (naiveSolve_cases _ limit) (fun _ => Or.inl ⟨_, rfl⟩))
    (bind_cases _ _ 0 limit (naiveSolve_cases _ limit) (fun _ => Or.inl ⟨_, rfl⟩))
  refine leD_bind _ _ _ _ (leD_of_le (naiveSolve_mono _ _ limit h)) (fun _ => Res.noConfusion) ?_
  intro L L' _ _ hLL
  apply maxList_range_le _ _ L L' hLL
  intro A _
  have := h (A + 1)
  show t.need (A + 1) - A ≤ t'.need (A + 1) - A
  omega

/-- harder system: more demand of the task under analysis (after subtracting the
run-to-completion remainder), more interfering demand, more blocking, a larger remainder -/
theorem naiveFp_mono (tua tua' : RB) (others others' : List RB) (B B' rem rem' limit : Nat)
    (htua : ∀ d, tua.need d ≤ tua'.need d)
    (hown : ∀ d, tua.need d - rem ≤ tua'.need d - rem')
    (hoth : ∀ d, sumNeed others d ≤ sumNeed others' d) (hB : B ≤ B') (hrem : rem ≤ rem') :
    Res.le (naiveFp tua others B rem limit) (naiveFp tua' others' B' rem' limit) := by
  refine le_of_leD ?_ (naiveFp_cases tua others B rem limit) (naiveFp_cases tua' others' B' rem' limit)
  refine scheme_leD _ _ List.range List.range _ _ (leD_of_le (naiveSolve_mono _ _ limit ?_))
    (fun A => ne_panic_of_cases (fpPer_cases tua others B rem limit A))
    (fun A => ne_panic_of_cases (fpPer_cases tua' others' B' rem' limit A)) ?_
  · intro x
    show B + sumNeed others x + tua.need x ≤ B' + sumNeed others' x + tua'.need x
    have := hoth x; have := htua x; omega
  · intro L L' _ _ hLL A hA
    refine ⟨A, List.mem_range.2 (Nat.lt_of_lt_of_le (List.mem_range.1 hA) hLL), ?_⟩
    apply perOffset_leD _ _ limit A A rem rem' _ (Nat.le_refl A) hrem
    intro x
    show B + (tua.need (A + 1) - rem) + sumNeed others x ≤
      B' + (tua'.need (A + 1) - rem') + sumNeed others' x
    have := hoth x; have := hown (A + 1); omega

theorem naiveEdf_mono (tua tua' : RB) (D : Nat) (others others' : List EdfTask) (rem rem' : Nat)
    (wb : Bool) (limit : Nat)
    (htua : ∀ d, tua.need d ≤ tua'.need d)
    (hown : ∀ d, tua.need d - rem ≤ tua'.need d - rem')
    (htot : ∀ d, sumNeed (others.map (·.rb)) d ≤ sumNeed (others'.map (·.rb)) d)
    (hhep : ∀ A AF, edfHepWorkload others D A AF ≤ edfHepWorkload others' D A AF)
    (hblk : ∀ A, edfBlocking others D A ≤ edfBlocking others' D A) (hrem : rem ≤ rem') :
    Res.le (naiveEdf tua D others rem wb limit) (naiveEdf tua' D others' rem' wb limit) := by
  refine le_of_leD ?_ (naiveEdf_cases tua D others rem wb limit)
    (naiveEdf_cases tua' D others' rem' wb limit)
  refine scheme_leD _ _ List.range List.range _ _ (leD_of_le (naiveSolve_mono _ _ limit ?_))
    (fun A => ne_panic_of_cases (edfPer_cases tua D others rem wb limit A))
    (fun A => ne_panic_of_cases (edfPer_cases tua' D others' rem' wb limit A)) ?_
  · intro x
    show sumNeed (others.map (·.rb)) x + tua.need x ≤ sumNeed (others'.map (·.rb)) x + tua'.need x
    have := htot x; have := htua x; omega
  · intro L L' _ _ hLL A hA
    refine ⟨A, List.mem_range.2 (Nat.lt_of_lt_of_le (List.mem_range.1 hA) hLL), ?_⟩
    apply perOffset_leD _ _ limit A A rem rem' _ (Nat.le_refl A) hrem
    intro x
    show edfRhs tua D others rem wb A x ≤ edfRhs tua' D others' rem' wb A x
    unfold edfRhs
    have := hhep A x; have := hown (A + 1); have := hblk A
    cases wb
    · simp only [Bool.false_eq_true, if_false]; omega
    · simp only [if_true]; omega

theorem sporadic_param_mono (T T' J J' d : Nat) (hT' : 1 ≤ T') (hT : T' ≤ T) (hJ : J ≤ J') :
    (Arr.sporadic T J).N d ≤ (Arr.sporadic T' J').N d := by
  rw [sporadic_N_eq, sporadic_N_eq]
  split
  · exact Nat.le_refl _
  · exact ceilDiv_param_le _ _ T T' hT' hT (by omega)

theorem periodic_param_mono (T T' d : Nat) (hT' : 1 ≤ T') (hT : T' ≤ T) :
    (Arr.periodic T).N d ≤ (Arr.periodic T').N d := by
  rw [periodic_N_eq, periodic_N_eq]
  exact ceilDiv_param_le _ _ T T' hT' hT (Nat.le_refl _)

/-- a larger WCET: more demand, also after subtracting the NP remainder `C - 1` -/
theorem scalar_cost_mono (a : Arr) (C C' d : Nat) (h : C ≤ C') :
    (RB.rbf a (.scalar C)).need d ≤ (RB.rbf a (.scalar C')).need d ∧
    (RB.rbf a (.scalar C)).need d - (C - 1) ≤ (RB.rbf a (.scalar C')).need d - (C' - 1) := by
  simp only [RB.need, Cost.ofJobs]
  have h1 : C * a.N d ≤ C' * a.N d := Nat.mul_le_mul_right _ h
  refine ⟨h1, ?_⟩
  cases hn : a.N d with
  | zero => simp
  | succ m =>
    have h2 : C * m ≤ C' * m := Nat.mul_le_mul_right _ h
    rw [Nat.mul_succ, Nat.mul_succ]
    omega

theorem edf_add_task (o : EdfTask) (others : List EdfTask) (D : Nat) :
    (∀ d, sumNeed (others.map (·.rb)) d ≤ sumNeed ((o :: others).map (·.rb)) d) ∧
    (∀ A AF, edfHepWorkload others D A AF ≤ edfHepWorkload (o :: others) D A AF) ∧
    (∀ A, edfBlocking others D A ≤ edfBlocking (o :: others) D A) := by
  refine ⟨?_, ?_, ?_⟩
  · intro d
    exact Nat.le_add_left _ _
  · intro A AF
    unfold edfHepWorkload
    rw [List.map_cons]
    simp only [sumList]
    omega
  · intro A
    unfold edfBlocking
    apply maxList_subset
    intro x hx
    rw [List.mem_map] at hx ⊢
    obtain ⟨o', ho', rfl⟩ := hx
    refine ⟨o', ?_, rfl⟩
    rw [List.mem_filter] at ho' ⊢
    exact ⟨List.mem_cons_of_mem _ ho'.1, ho'.2⟩

theorem edfBlocking_seg_mono (pre post : List EdfTask) (o : EdfTask) (seg' : Nat) (h : o.seg ≤ seg')
    (D A : Nat) :
    edfBlocking (pre ++ o :: post) D A ≤ edfBlocking (pre ++ { o with seg := seg' } :: post) D A := by
  unfold edfBlocking
  apply (maxList_le_iff _ _).2
  intro x hx
  rw [List.mem_map] at hx
  obtain ⟨o1, ho1, rfl⟩ := hx
  rw [List.mem_filter] at ho1
  obtain ⟨hmem, hp⟩ := ho1
  rw [List.mem_append, List.mem_cons] at hmem
  rcases hmem with hmem | rfl | hmem
  · apply le_maxList_of_mem
    rw [List.mem_map]
    refine ⟨o1, ?_, rfl⟩
    rw [List.mem_filter]
    exact ⟨List.mem_append_left _ hmem, hp⟩
  · have hin : (({ o1 with seg := seg' } : EdfTask).seg - 1) ∈
        ((pre ++ { o1 with seg := seg' } :: post).filter fun o =>
          decide (o.D > D + A) && decide (o.rb.need 1 > 0)).map fun o => o.seg - 1 := by
      rw [List.mem_map]
      refine ⟨{ o1 with seg := seg' }, ?_, rfl⟩
      rw [List.mem_filter]
      exact ⟨List.mem_append_right _ (List.mem_cons_self), hp⟩
    have := le_maxList_of_mem _ _ hin
    have e : ({ o1 with seg := seg' } : EdfTask).seg = seg' := rfl
    rw [e] at this
    omega
  · apply le_maxList_of_mem
    rw [List.mem_map]
    refine ⟨o1, ?_, rfl⟩
    rw [List.mem_filter]
    exact ⟨List.mem_append_right _ (List.mem_cons_of_mem _ hmem), hp⟩

end RTA
