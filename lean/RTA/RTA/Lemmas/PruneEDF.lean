import RTA.Lemmas.PruneFP
/-! C06 for the common core of the four EDF analyses (`edfCore`): the pruned search space (own step offsets and the other
tasks' step offsets shifted by the deadline difference) loses nothing against naive
all-offset evaluation; and no guard of the core fails (C20). -/

namespace RTA
open RTA.Spec PruneCoreLemmas RosNaiveLemmas PruneFPLemmas

/-- the other tasks' request bounds are well-formed and exact -/
def EdfOthersOK (others : List EdfTask) : Prop := ∀ o ∈ others, o.rb.ArrWF ∧ o.rb.Exact

namespace PruneEDFLemmas

theorem maxList_subset (l1 l2 : List Nat) (h : ∀ x ∈ l1, x ∈ l2) : maxList l1 ≤ maxList l2 :=
  (maxList_le_iff l1 _).2 (fun x hx => le_maxList_of_mem l2 x (h x hx))

/-- the `go` loop of `edfSpace`: a sorted list of exactly the shifted increase offsets
below `L` -/
theorem go_spec (D L : Nat) (os : List EdfTask) (ho : EdfOthersOK os) :
    ∃ R, edfSpace.go D L os = some R ∧ R.Pairwise (· ≤ ·) ∧
      ∀ A, A ∈ R ↔ (A < L ∧ ∃ o ∈ os, ∃ off,
        o.rb.need off < o.rb.need (off + 1) ∧ A = off + o.D - D) := by
  induction os with
  | nil => exact ⟨[], edfSpace.go.eq_1 D L, List.Pairwise.nil, fun A => by simp⟩
  | cons o os ih =>
    have ho' : EdfOthersOK os := fun x hx => ho x (List.mem_cons_of_mem _ hx)
    obtain ⟨R, hR, hRs, hRm⟩ := ih ho'
    obtain ⟨offs, he, hp, hm⟩ :=
      RB.offsetsBelow_spec o.rb (ho o (by simp)).1 (ho o (by simp)).2 (L + D - o.D)
    refine ⟨merge ((offs.map fun off => off + o.D - D).filter (· < L)) R, ?_, ?_, ?_⟩
    · rw [edfSpace.go.eq_2, he, hR]
    · apply merge_sorted _ _ _ hRs
      apply List.Pairwise.filter
      rw [List.pairwise_map]
      refine List.Pairwise.imp ?_ hp
      intro a b hab
      show a + o.D - D ≤ b + o.D - D
      omega
    · intro A
      rw [mem_merge, List.mem_filter, List.mem_map, hRm]
      constructor
      · rintro (⟨⟨off, hoff, rfl⟩, hlt⟩ | ⟨hlt, o', ho', off, hinc, rfl⟩)
        · have := (hm off).1 hoff
          exact ⟨of_decide_eq_true hlt, o, by simp, off, this.2, rfl⟩
        · exact ⟨hlt, o', List.mem_cons_of_mem _ ho', off, hinc, rfl⟩
      · rintro ⟨hlt, o', ho', off, hinc, rfl⟩
        rw [List.mem_cons] at ho'
        rcases ho' with rfl | ho'
        · left
          exact ⟨⟨off, (hm off).2 ⟨by omega, hinc⟩, rfl⟩, decide_eq_true hlt⟩
        · right; exact ⟨hlt, o', ho', off, hinc, rfl⟩

theorem need_min_const (N : Nat → Nat) (hm : MonoN N) (X' X AF : Nat) (h : X' ≤ X)
    (he : N X = N X') : N (min AF X) = N (min AF X') := by
  by_cases h1 : AF ≤ X'
  · rw [Nat.min_eq_left h1, Nat.min_eq_left (by omega)]
  · by_cases h2 : AF ≤ X
    · rw [Nat.min_eq_left h2, Nat.min_eq_right (by omega)]
      have a := hm X' AF (by omega)
      have b := hm AF X h2
      omega
    · rw [Nat.min_eq_right (by omega), Nat.min_eq_right (by omega)]; exact he

end PruneEDFLemmas
open PruneEDFLemmas

theorem edfBlocking_antitone (others : List EdfTask) (D A A' : Nat) (h : A' ≤ A) :
    edfBlocking others D A ≤ edfBlocking others D A' := by
  unfold edfBlocking
  apply maxList_subset
  intro x hx
  rw [List.mem_map] at hx ⊢
  obtain ⟨o, ho, rfl⟩ := hx
  refine ⟨o, ?_, rfl⟩
  rw [List.mem_filter] at ho ⊢
  refine ⟨ho.1, ?_⟩
  have h2 := ho.2
  simp only [Bool.and_eq_true, decide_eq_true_eq] at h2 ⊢
  exact ⟨by omega, h2.2⟩

/-- the search space: strictly increasing offsets below `L`, exactly the own increase
offsets and the shifted increase offsets of the other tasks -/
theorem edfSpace_spec (tua : RB) (D : Nat) (others : List EdfTask) (L : Nat)
    (hwf : tua.ArrWF) (hex : tua.Exact) (ho : EdfOthersOK others) :
    ∃ S, edfSpace tua D others L = some S ∧ S.Pairwise (· < ·) ∧
      ∀ A, A ∈ S ↔ (A < L ∧ (tua.need A < tua.need (A + 1) ∨
        ∃ o ∈ others, ∃ off, o.rb.need off < o.rb.need (off + 1) ∧ A = off + o.D - D)) := by
  obtain ⟨own, he, hp, hm⟩ := RB.offsetsBelow_spec tua hwf hex L
  obtain ⟨R, hR, hRs, hRm⟩ := go_spec D L others ho
  refine ⟨dedup (merge R own), ?_, ?_, ?_⟩
  · unfold edfSpace
    rw [he]
    simp only []
    rw [hR]
  · exact dedup_strict _ (merge_sorted _ _ hRs (strict_imp_sorted _ hp))
  · intro A
    rw [mem_dedup, mem_merge, hRm, hm]
    constructor
    · rintro (⟨h1, h2⟩ | ⟨h1, h2⟩)
      · exact ⟨h1, Or.inr h2⟩
      · exact ⟨h1, Or.inl h2⟩
    · rintro ⟨h1, h2 | h2⟩
      · exact Or.inr ⟨h1, h2⟩
      · exact Or.inl ⟨h1, h2⟩

/-- between consecutive points of the search space the higher-or-equal-priority workload
bound does not depend on the offset -/
theorem edfHep_const (D : Nat) (others : List EdfTask) (ho : EdfOthersOK others)
    (A' A : Nat) (h : A' ≤ A)
    (hno : ∀ B, A' < B → B ≤ A → ¬ ∃ o ∈ others, ∃ off, o.rb.need off < o.rb.need (off + 1) ∧ B = off + o.D - D)
    (AF : Nat) : edfHepWorkload others D A AF = edfHepWorkload others D A' AF := by
  unfold edfHepWorkload
  congr 1
  apply List.map_congr_left
  intro o hoo
  have hmono := RB.need_mono o.rb (ho o hoo).1 (ho o hoo).2
  apply need_min_const _ hmono _ _ _ (by omega)
  apply const_of_no_increase _ hmono _ _ (by omega)
  intro δ h1 h2 hinc
  apply hno (δ - 1 + o.D - D) (by omega) (by omega)
  refine ⟨o, hoo, δ - 1, ?_, rfl⟩
  have e : δ - 1 + 1 = δ := by omega
  rw [e]
  exact hinc

namespace PruneEDFLemmas

/-- right-hand side of the per-offset fixed-point equation -/
def edfRhs (tua : RB) (D : Nat) (others : List EdfTask) (rem : Nat) (wb : Bool) (A AF : Nat) : Nat :=
  (if wb then edfBlocking others D A else 0) + (tua.need (A + 1) - rem) +
    edfHepWorkload others D A AF

/-- per-offset result of the naive spec -/
def edfPer (tua : RB) (D : Nat) (others : List EdfTask) (rem : Nat) (wb : Bool) (limit A : Nat) :
    Res :=
  match naiveSolve (edfRhs tua D others rem wb A) limit with
  | .ok AF => .ok (AF - A + rem)
  | e => e

/-- per-offset result of the model -/
def edfCorePer (tua : RB) (D : Nat) (others : List EdfTask) (rem : Nat) (wb : Bool)
    (limit A : Nat) : Res :=
  let B := if wb then edfBlocking others D A else 0
  finishEDF A rem
    (search .dedicated limit
      (fun AF => B + (tua.need (A + 1) - rem) + edfHepWorkload others D A AF))

theorem naiveEdf_eq (tua : RB) (D : Nat) (others : List EdfTask) (rem : Nat) (wb : Bool)
    (limit : Nat) : naiveEdf tua D others rem wb limit =
      match naiveSolve (fun L => sumNeed (others.map (·.rb)) L + tua.need L) limit with
      | .ok L => naiveMax ((List.range L).map (edfPer tua D others rem wb limit))
      | e => e := rfl

theorem edfCore_eq (tua : RB) (D : Nat) (others : List EdfTask) (rem : Nat) (wb : Bool)
    (limit : Nat) (flag : Bool) : edfCore tua D others rem wb limit flag =
      match search .dedicated limit (fun L => sumNeed (others.map (·.rb)) L + tua.need L) with
      | .ok L => if flag then .panic else
          overOffsets (edfSpace tua D others L) (edfCorePer tua D others rem wb limit)
      | e => e := rfl

theorem busy_mono (tua : RB) (others : List EdfTask) (hwf : tua.ArrWF) (hex : tua.Exact)
    (ho : EdfOthersOK others) :
    Mono (fun L => sumNeed (others.map (·.rb)) L + tua.need L) := by
  intro a b hab
  show sumNeed (others.map (·.rb)) a + tua.need a ≤ sumNeed (others.map (·.rb)) b + tua.need b
  refine Nat.add_le_add ?_ (RB.need_mono tua hwf hex a b hab)
  unfold sumNeed
  rw [List.map_map, List.map_map]
  apply sumList_map_le
  intro o hoo
  exact RB.need_mono o.rb (ho o hoo).1 (ho o hoo).2 a b hab

theorem edfHep_mono (others : List EdfTask) (ho : EdfOthersOK others) (D A a b : Nat)
    (hab : a ≤ b) : edfHepWorkload others D A a ≤ edfHepWorkload others D A b := by
  unfold edfHepWorkload
  apply sumList_map_le
  intro o hoo
  exact RB.need_mono o.rb (ho o hoo).1 (ho o hoo).2 _ _ (by omega)

theorem edfRhs_mono (tua : RB) (D : Nat) (others : List EdfTask) (rem : Nat) (wb : Bool)
    (ho : EdfOthersOK others) (A : Nat) : Mono (edfRhs tua D others rem wb A) := by
  intro a b hab
  unfold edfRhs
  exact Nat.add_le_add_left (edfHep_mono others ho D A a b hab) _

/-- the model's per-offset computation is the naive one: the crate subtracts with
`self_interference.saturating_sub(rem_cost)`, so there is no guard -/
theorem edfCorePer_eq_edfPer (tua : RB) (D : Nat) (others : List EdfTask) (rem : Nat) (wb : Bool)
    (limit : Nat) (ho : EdfOthersOK others) (hl : 1 ≤ limit) (A : Nat) :
    edfCorePer tua D others rem wb limit A = edfPer tua D others rem wb limit A := by
  unfold edfCorePer edfPer
  show finishEDF A rem (search .dedicated limit (edfRhs tua D others rem wb A)) = _
  rw [search_dedicated_eq_naive _ (edfRhs_mono tua D others rem wb ho A) limit hl]
  cases naiveSolve (edfRhs tua D others rem wb A) limit <;> rfl

theorem edfPer_eq_bind (tua : RB) (D : Nat) (others : List EdfTask) (rem : Nat) (wb : Bool)
    (limit A : Nat) :
    edfPer tua D others rem wb limit A =
      (naiveSolve (edfRhs tua D others rem wb A) limit).bind fun AF => .ok (AF - A + rem) := rfl

theorem edfPer_cases (tua : RB) (D : Nat) (others : List EdfTask) (rem : Nat) (wb : Bool)
    (limit A : Nat) :
    (∃ v, edfPer tua D others rem wb limit A = .ok v) ∨
      edfPer tua D others rem wb limit A = .div 0 limit :=
  bind_cases _ _ 0 limit (naiveSolve_cases _ limit) (fun _ => Or.inl ⟨_, rfl⟩)

theorem edfCorePer_ne_panic (tua : RB) (D : Nat) (others : List EdfTask) (rem : Nat) (wb : Bool)
    (limit : Nat) (ho : EdfOthersOK others) (A : Nat) :
    edfCorePer tua D others rem wb limit A ≠ .panic := by
  unfold edfCorePer
  show finishEDF A rem (search .dedicated limit (edfRhs tua D others rem wb A)) ≠ _
  have := search_ne_panic _ (edfRhs_mono tua D others rem wb ho A) limit
  revert this
  cases search .dedicated limit (edfRhs tua D others rem wb A) <;> intro h
  · intro hc; cases hc
  · intro hc; cases hc
  · exact absurd rfl h

end PruneEDFLemmas

/-- C06, the common core of the four EDF analyses (`hstep` is not used) -/
theorem edfCore_eq_naive (tua : RB) (D : Nat) (others : List EdfTask) (rem : Nat) (wb : Bool)
    (limit : Nat) (hwf : tua.ArrWF) (hex : tua.Exact) (ho : EdfOthersOK others) (hl : 1 ≤ limit)
    (hpos : 0 < tua.need 1)
    (hstep : ∀ A, tua.need A < tua.need (A + 1) → tua.need A + rem < tua.need (A + 1)) :
    edfCore tua D others rem wb limit = naiveEdf tua D others rem wb limit := by
  -- `hstep` is not used: `rbf_tua(A+1) - rem` is a saturating subtraction in the crate
  have _ := hstep
  rw [naiveEdf_eq, edfCore_eq,
    search_dedicated_eq_naive _ (busy_mono tua others hwf hex ho) limit hl]
  rcases naiveSolve_cases (fun L => sumNeed (others.map (·.rb)) L + tua.need L) limit with
    ⟨L, hL⟩ | hdiv
  · rw [hL]
    simp only [Bool.false_eq_true, if_false]
    obtain ⟨S, hS, hSp, hSm⟩ := edfSpace_spec tua D others L hwf hex ho
    rw [hS]
    unfold overOffsets
    have hfun : edfCorePer tua D others rem wb limit = edfPer tua D others rem wb limit :=
      funext fun A => edfCorePer_eq_edfPer tua D others rem wb limit ho hl A
    rw [hfun]
    apply maxResponseTime_pruned _ L S hSp (fun A hA => ((hSm A).1 hA).1)
      (fun A _ => (edfPer_cases tua D others rem wb limit A).imp id fun h => ⟨_, _, h⟩)
    intro A hA
    have h0 : 0 ∈ S := (hSm 0).2 ⟨by omega, Or.inl (by rw [RB.need_zero]; exact hpos)⟩
    obtain ⟨A', hA'S, hA'le, hgreat⟩ := exists_greatest (· ∈ S) h0 A
    refine Or.inr ⟨A', hA'S, hA'le, ?_⟩
    have hnoS : ∀ B, A' < B → B ≤ A → B ∉ S := by
      intro B h1 h2 hB
      have := hgreat B hB h2
      omega
    have hown : tua.need (A + 1) = tua.need (A' + 1) :=
      succ_eq_of_greatest tua.need (RB.need_mono tua hwf hex) L (fun B h => (hSm B).2 ⟨h.1, Or.inl h.2⟩)
        A A' hA hA'le hgreat
    have hhep : ∀ AF, edfHepWorkload others D A AF = edfHepWorkload others D A' AF := by
      apply edfHep_const D others ho A' A hA'le
      intro B h1 h2 hex'
      apply hnoS B h1 h2
      rw [hSm]
      exact ⟨by omega, Or.inr hex'⟩
    rw [edfPer_eq_bind, edfPer_eq_bind]
    apply perOffset_leD _ _ limit A A' rem rem _ hA'le (Nat.le_refl _)
    intro x
    unfold edfRhs
    rw [hown, hhep x]
    have hb := edfBlocking_antitone others D A A' hA'le
    cases wb
    · exact Nat.le_refl _
    · simp only [if_true]
      omega
  · rw [hdiv]

theorem edfCore_scalar_eq_naive (a : Arr) (C D rem : Nat) (wb : Bool) (others : List EdfTask)
    (limit : Nat) (hwf : a.WF) (hex : a.Exact) (hrem : rem < C) (ho : EdfOthersOK others)
    (hl : 1 ≤ limit) (hpos : 0 < a.N 1) :
    edfCore (.rbf a (.scalar C)) D others rem wb limit =
      naiveEdf (.rbf a (.scalar C)) D others rem wb limit := by
  obtain ⟨h1, h2, h3⟩ := scalar_side a C hwf hex (by omega) hpos
  exact edfCore_eq_naive _ D others rem wb limit h1 h2 ho hl h3 (scalar_hstep a C rem hrem)

theorem edfNonpreemptive_eq_naive (a : Arr) (C D : Nat) (others : List EdfTask) (limit : Nat)
    (hwf : a.WF) (hex : a.Exact) (hC : 1 ≤ C) (ho : EdfOthersOK others) (hl : 1 ≤ limit)
    (hpos : 0 < a.N 1) :
    edfNonpreemptive a C D others limit = naiveEdf (.rbf a (.scalar C)) D others (C - 1) true limit := by
  unfold edfNonpreemptive
  rw [show decide (C < 1) = false from decide_eq_false (by omega)]
  exact edfCore_scalar_eq_naive a C D (C - 1) true others limit hwf hex (by omega) ho hl hpos

theorem edfCore_limit_zero (tua : RB) (D : Nat) (others : List EdfTask) (rem : Nat) (wb : Bool) :
    edfCore tua D others rem wb 0 = .div 0 0 := by
  rw [edfCore_eq, search_limit_zero]

/-- no guard fails on well-formed input (C20), for every `rem` and also for a task under
analysis that never releases anything (`self_interference.saturating_sub(rem_cost)`) -/
theorem edfCore_no_panic' (tua : RB) (D : Nat) (others : List EdfTask) (rem : Nat) (wb : Bool)
    (limit : Nat) (hwf : tua.ArrWF) (hex : tua.Exact) (ho : EdfOthersOK others) :
    edfCore tua D others rem wb limit ≠ .panic := by
  rw [edfCore_eq]
  have hs := search_ne_panic _ (busy_mono tua others hwf hex ho) limit
  revert hs
  cases search .dedicated limit (fun L => sumNeed (others.map (·.rb)) L + tua.need L) with
  | panic => intro h; exact absurd rfl h
  | div o l => intro _ hc; cases hc
  | ok L =>
    intro _
    obtain ⟨S, hS, _, _⟩ := edfSpace_spec tua D others L hwf hex ho
    simp only [Bool.false_eq_true, if_false]
    rw [hS]
    unfold overOffsets
    apply maxResponseTime_ne_panic
    intro x hx
    rw [List.mem_map] at hx
    obtain ⟨A, _, rfl⟩ := hx
    exact edfCorePer_ne_panic tua D others rem wb limit ho A

theorem edfCore_no_panic_rem0 (tua : RB) (D : Nat) (others : List EdfTask) (wb : Bool)
    (limit : Nat) (hwf : tua.ArrWF) (hex : tua.Exact) (ho : EdfOthersOK others) :
    edfCore tua D others 0 wb limit ≠ .panic :=
  edfCore_no_panic' tua D others 0 wb limit hwf hex ho

/-- finding F9 (repaired in the crate by `self_interference.saturating_sub(rem_cost)`): a task
under analysis that never releases anything, `rem = 2`, and one periodic interfering task that
contributes the offset `0` to the search space, where `rbf_tua(A+1) - rem` would underflow.
The analysis returns `Ok(3)` (`AF = 1`, the one job of the other task, plus `rem`). -/
theorem edfCore_never_arriving_tua_total :
    edfCore (.rbf .never (.scalar 3)) 5
      [{rb := .rbf (.periodic 4) (.scalar 1), D := 5, seg := 1}] 2 true 50 = .ok 3 := by
  have hwf : (RB.rbf .never (.scalar 3)).ArrWF := by simp [RB.ArrWF, Arr.WF]
  have hex : (RB.rbf .never (.scalar 3)).Exact := by
    simp only [RB.Exact, Arr.Exact, true_and]
    exact Cost.scalar_strictPos 3 (by omega)
  have ho : EdfOthersOK [{rb := .rbf (.periodic 4) (.scalar 1), D := 5, seg := 1}] := by
    intro o hoo
    rw [List.mem_singleton] at hoo
    subst hoo
    refine ⟨by simp [RB.ArrWF, Arr.WF], ?_⟩
    simp only [RB.Exact, Arr.Exact, true_and]
    exact Cost.scalar_strictPos 1 (by omega)
  have hL : search .dedicated 50 (fun L =>
      sumNeed (([{rb := .rbf (.periodic 4) (.scalar 1), D := 5, seg := 1}] : List EdfTask).map (·.rb)) L +
        (RB.rbf .never (.scalar 3)).need L) = .ok 1 := by decide
  rw [PruneEDFLemmas.edfCore_eq, hL]
  simp only [Bool.false_eq_true, if_false]
  obtain ⟨S, hS, hSp, hSm⟩ := edfSpace_spec _ 5 _ 1 hwf hex ho
  have h0 : 0 ∈ S :=
    (hSm 0).2 ⟨by omega, Or.inr ⟨_, List.mem_singleton.2 rfl, 0, by decide, rfl⟩⟩
  have hall : ∀ A ∈ S, A = 0 := fun A hA => by have := ((hSm A).1 hA).1; omega
  have hSeq : S = [0] := by
    match S, hSp, h0, hall with
    | [], _, h0, _ => cases h0
    | [a], _, _, hall => rw [hall a (by simp)]
    | a :: b :: t, hSp, _, hall =>
      have h1 := hall a (by simp)
      have h2 := hall b (by simp)
      have h3 : a < b := (List.pairwise_cons.1 hSp).1 b (by simp)
      omega
  rw [hS, hSeq]
  decide

end RTA
