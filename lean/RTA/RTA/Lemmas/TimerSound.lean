import Mathlib.Algebra.BigOperators.Ring.Finset
import RTA.Lemmas.SupplyFifo
/-! C04, timer analysis: a timer callback of the ROS 2 executor running on a reservation.
`SupplyTimerLegal` fixes only the facts about the executor that concern the analysed timer `i`
and the timers of higher priority (`hp`); every other aspect (polling points, the ready set,
the order among `i` and the higher-priority timers -- the proof never uses that an instance of
`i` waits for pending higher-priority timers --, what runs while no timer is pending) is left
arbitrary.  `timer_sound`: `Ok(R)` of `rta_timer` bounds the response time of every instance of
`i`, for every supply process that delivers at least the supply-bound function in every window,
every release pattern within the arrival curves, every execution time up to the WCET
(`timer_sound_reservation`: every compliant budget placement).  The polling-point analysis is the
timer analysis with blocking 0 (`pollingPoint_eq_timer`), hence `pollingPoint_sound`. -/

open Finset

namespace RTA.Sched
open RTA RTA.Spec

/-- instances of callback `i` or of a timer with higher priority -/
def Rel (s : Sys) (i : ℕ) (hp : ℕ → Prop) (k : ℕ) : Prop := s.task k = i ∨ hp (s.task k)

structure SupplyTimerLegal (s : Sys) (σ : ℕ → Bool) (i : ℕ) (hp : ℕ → Prop) : Prop where
  /-- only released, incomplete jobs are served, and only in supplied slots -/
  valid : ∀ t j, s.sched t = some j → j < s.n ∧ Pending s j t ∧ σ t = true
  /-- non-preemptive: while `j` is served no other job is in a started-but-incomplete state -/
  nonpre : ∀ t j, s.sched t = some j → ∀ k < s.n, k ≠ j → svc s k t = 0 ∨ svc s k t = s.cost k
  /-- no idling in a supplied slot while a relevant instance is pending -/
  wc : ∀ t, σ t = true → (∃ k < s.n, Rel s i hp k ∧ Pending s k t) → ∃ j, s.sched t = some j
  /-- a callback that is not relevant is not started while a relevant instance is pending -/
  prioOther : ∀ t j, s.sched t = some j → svc s j t = 0 → ¬ Rel s i hp j →
      ∀ k < s.n, Rel s i hp k → ¬ Pending s k t
  /-- instances of `i` are started in release order -/
  prioOwn : ∀ t j, s.sched t = some j → svc s j t = 0 → s.task j = i →
      ∀ k < s.n, s.task k = i → Pending s k t → s.arr j ≤ s.arr k

/-- number of instances of callback `i` released in `[a, b)` -/
def countOf (s : Sys) (i a b : ℕ) : ℕ :=
  ((range s.n).filter fun k => s.task k = i ∧ a ≤ s.arr k ∧ s.arr k < b).card

theorem SupplyTimerLegal.servesPending {s : Sys} {σ : ℕ → Bool} {i : ℕ} {hp : ℕ → Prop}
    (hl : SupplyTimerLegal s σ i hp) : ServesPending s := fun t j h => (hl.valid t j h).2.1

namespace TimerSoundLemmas
open Classical

variable {s : Sys} {σ : ℕ → Bool} {i : ℕ} {hp : ℕ → Prop}

/-- started but incomplete -/
def SI (s : Sys) (k t : ℕ) : Prop := 0 < svc s k t ∧ svc s k t < s.cost k

theorem atmost_one (hl : SupplyTimerLegal s σ i hp) : ∀ t k1 k2, k1 < s.n → k2 < s.n →
    SI s k1 t → SI s k2 t → k1 = k2 := by
  intro t
  induction t with
  | zero => intro k1 k2 _ _ h; exact absurd h.1 (Nat.lt_irrefl 0)
  | succ t ih =>
    intro k1 k2 h1 h2 a1 a2
    apply Classical.byContradiction
    intro hne
    unfold SI at a1 a2 ih
    by_cases c1 : s.sched t = some k1
    · have c2 : s.sched t ≠ some k2 := by
        rw [c1]; intro h; injection h with h; exact hne h
      have := hl.nonpre t k1 c1 k2 h2 (fun h => hne h.symm)
      rw [svc_succ_of_ne k2 t c2] at a2
      omega
    · by_cases c2 : s.sched t = some k2
      · have := hl.nonpre t k2 c2 k1 h1 hne
        rw [svc_succ_of_ne k1 t c1] at a1
        omega
      · rw [svc_succ_of_ne k1 t c1] at a1
        rw [svc_succ_of_ne k2 t c2] at a2
        exact hne (ih k1 k2 h1 h2 a1 a2)

theorem runs_alone (hl : SupplyTimerLegal s σ i hp) (j st T : ℕ) (hj : j < s.n)
    (h0 : svc s j st = 0) (hpos : ∀ u, st < u → u ≤ T → 0 < svc s j u)
    (hlt : svc s j T < s.cost j) :
    ∀ u, st ≤ u → u < T → ∀ j', s.sched u = some j' → j' = j := by
  intro u h1 h2 j' hs
  apply Classical.byContradiction
  intro hne
  rcases Nat.eq_or_lt_of_le h1 with he | hlt'
  · have hsj := sched_of_svc_lt (s := s) j st (by have := hpos (st + 1) (by omega) (by omega); omega)
    rw [he, hs] at hsj
    injection hsj with hsj
    exact hne hsj
  · have := hpos u hlt' (by omega)
    have := svc_mono (s := s) j (show u ≤ T by omega)
    have := hl.nonpre u j' hs j hj (fun h => hne h.symm)
    omega

theorem no_start (hl : SupplyTimerLegal s σ i hp) (t0 j' : ℕ) (hnr : ¬ Rel s i hp j') :
    ∀ x, t0 ≤ x → (∀ u, t0 ≤ u → u < x → ∃ k, k < s.n ∧ Rel s i hp k ∧ Pending s k u) →
      0 < svc s j' x → 0 < svc s j' t0 := by
  intro x hx
  induction x, hx using Nat.le_induction with
  | base => intro _ h; exact h
  | succ x hx ih =>
    intro hb h
    rcases Nat.eq_zero_or_pos (svc s j' x) with h0 | hpos
    · exfalso
      have hs := sched_of_svc_lt (s := s) j' x (by omega)
      obtain ⟨k, hk, hr, hpk⟩ := hb x hx (by omega)
      exact hl.prioOther x j' hs h0 hnr k hk hr hpk
    · exact ih (fun u h1 h2 => hb u h1 (by omega)) hpos

theorem own_order (hl : SupplyTimerLegal s σ i hp) (j j' u T : ℕ) (hj : j < s.n)
    (hji : s.task j = i) (hown : s.task j' = i) (hs : s.sched u = some j') (hu : u < T)
    (hlt : svc s j T < s.cost j) : s.arr j' ≤ s.arr j := by
  apply Classical.byContradiction
  intro hgt
  have hpos : 0 < svc s j' (u + 1) := by rw [svc_succ_of_eq j' u hs]; omega
  obtain ⟨u', hu', hs', hz'⟩ := exists_start (s := s) j' (u + 1) hpos
  have hv' := hl.valid u' j' hs'
  have hpj : Pending s j u' := by
    refine ⟨by have := hv'.2.1.1; omega, ?_⟩
    have := svc_mono (s := s) j (show u' ≤ T by omega)
    omega
  exact hgt (hl.prioOwn u' j' hs' hz' hown j hj hji hpj)

theorem countOf_eq_cnt (s : Sys) (i a b : ℕ) :
    countOf s i a b = cntP s (fun k => s.task k = i ∧ a ≤ s.arr k ∧ s.arr k < b) := by
  unfold countOf cntP
  rw [card_filter]
  refine sum_congr rfl (fun k _ => ?_)
  split_ifs <;> rfl

theorem countOf_pos (s : Sys) (i a b j : ℕ) (hj : j < s.n) (hji : s.task j = i)
    (h1 : a ≤ s.arr j) (h2 : s.arr j < b) : 1 ≤ countOf s i a b :=
  card_pos.2 ⟨j, mem_filter.2 ⟨mem_range.2 hj, hji, h1, h2⟩⟩

theorem wk_own_minus (s : Sys) (i a b j C : ℕ) (hj : j < s.n) (hji : s.task j = i)
    (h1 : a ≤ s.arr j) (h2 : s.arr j < b) (hcost : ∀ k < s.n, s.task k = i → s.cost k ≤ C) :
    wk s (fun k => k ≠ j ∧ (s.task k = i ∧ a ≤ s.arr k ∧ s.arr k < b)) + C
      ≤ C * countOf s i a b := by
  have h := wk_le_mul_cntP s (fun k => k ≠ j ∧ (s.task k = i ∧ a ≤ s.arr k ∧ s.arr k < b)) C
    (fun k hk hP => hcost k hk hP.2.1)
  have e := cntP_split s (fun k => s.task k = i ∧ a ≤ s.arr k ∧ s.arr k < b) j hj ⟨hji, h1, h2⟩
  rw [countOf_eq_cnt, ← e, Nat.mul_add, Nat.mul_one]
  omega

theorem wk_rel_le (s : Sys) (i : ℕ) (hp : ℕ → Prop) [DecidablePred hp] (a b C : ℕ)
    (hcost : ∀ k < s.n, s.task k = i → s.cost k ≤ C) :
    wk s (fun k => Rel s i hp k ∧ a ≤ s.arr k ∧ s.arr k < b)
      ≤ C * countOf s i a b + workOf s hp a b := by
  have h1 := wk_imp (s := s) (fun k => Rel s i hp k ∧ a ≤ s.arr k ∧ s.arr k < b)
    (fun k => (s.task k = i ∧ a ≤ s.arr k ∧ s.arr k < b) ∨
      (hp (s.task k) ∧ a ≤ s.arr k ∧ s.arr k < b))
    (fun k _ hP => hP.1.imp (fun h => ⟨h, hP.2⟩) (fun h => ⟨h, hP.2⟩))
  have h2 := wk_or_le (s := s) (fun k => s.task k = i ∧ a ≤ s.arr k ∧ s.arr k < b)
    (fun k => hp (s.task k) ∧ a ≤ s.arr k ∧ s.arr k < b)
  have h3 := wk_le_mul_cntP s (fun k => s.task k = i ∧ a ≤ s.arr k ∧ s.arr k < b) C
    (fun k hk hP => hcost k hk hP.1)
  rw [← countOf_eq_cnt] at h3
  rw [workOf_eq_wk]
  omega

theorem sum_single_bound (n : ℕ) (P : ℕ → Prop) (f g : ℕ → ℕ) (B : ℕ)
    (huniq : ∀ k1 k2, k1 < n → k2 < n → P k1 → P k2 → k1 = k2)
    (hb : ∀ k, k < n → P k → f k ≤ g k + B) :
    (∑ k ∈ range n, if P k then f k else 0) ≤ (∑ k ∈ range n, if P k then g k else 0) + B := by
  by_cases hex : ∃ b, b < n ∧ P b
  · obtain ⟨b, hbn, hPb⟩ := hex
    have e : ∀ h : ℕ → ℕ, ∀ k ∈ range n, (if P k then h k else 0) = if k = b then h k else 0 := by
      intro h k hk
      by_cases hkb : k = b
      · subst hkb; simp [hPb]
      · have : ¬ P k := fun hPk => hkb (huniq k b (mem_range.1 hk) hbn hPk hPb)
        simp [this, hkb]
    rw [sum_congr rfl (e f), sum_congr rfl (e g), sum_ite_eq', sum_ite_eq']
    simp only [mem_range, hbn, if_true]
    exact hb b hbn hPb
  · have : ∀ k ∈ range n, (if P k then f k else 0) = 0 := by
      intro k hk
      have : ¬ P k := fun hPk => hex ⟨k, mem_range.1 hk, hPk⟩
      rw [if_neg this]
    rw [sum_eq_zero this]; omega

/-- the callback that blocks the busy interval starting at `t0`: not relevant, started before
`t0` and incomplete at `t0` -/
def Blk (s : Sys) (i : ℕ) (hp : ℕ → Prop) (t0 k : ℕ) : Prop :=
  ¬ Rel s i hp k ∧ 0 < svc s k t0 ∧ svc s k t0 < s.cost k

theorem blk_bound (hl : SupplyTimerLegal s σ i hp) (B t0 T : ℕ)
    (hB : ∀ k < s.n, ¬ Rel s i hp k → s.cost k ≤ B + 1) :
    sv s (Blk s i hp t0) T ≤ sv s (Blk s i hp t0) t0 + B := by
  unfold sv
  apply sum_single_bound
  · intro k1 k2 h1 h2 p1 p2
    exact atmost_one hl t0 k1 k2 h1 h2 ⟨p1.2.1, p1.2.2⟩ ⟨p2.2.1, p2.2.2⟩
  · intro k hk hP
    have := hl.servesPending.svc_le_cost k T
    have := hB k hk hP.1
    have := hP.2.1
    omega

theorem busy_serve (hl : SupplyTimerLegal s σ i hp) (t0 T : ℕ) (hq : QuietFor s (Rel s i hp) t0)
    (hbusy : ∀ u, t0 ≤ u → u < T → ∃ k, k < s.n ∧ Rel s i hp k ∧ Pending s k u)
    (u : ℕ) (h1 : t0 ≤ u) (h2 : u < T) (hσ : σ u = true) :
    ∃ j', s.sched u = some j' ∧ j' < s.n ∧
      (Blk s i hp t0 j' ∨ (Rel s i hp j' ∧ t0 ≤ s.arr j' ∧ s.arr j' ≤ u)) := by
  obtain ⟨j', hs⟩ := hl.wc u hσ (hbusy u h1 h2)
  have hv := hl.valid u j' hs
  refine ⟨j', hs, hv.1, ?_⟩
  by_cases hr : Rel s i hp j'
  · refine Or.inr ⟨hr, Nat.le_of_not_lt (fun hlt => ?_), hv.2.1.1⟩
    have := hl.servesPending.done_mono j' h1 (hq j' hv.1 hr hlt)
    exact Nat.lt_irrefl _ (this ▸ hv.2.1.2)
  · left
    have hpos : 0 < svc s j' u := by
      apply Nat.pos_of_ne_zero
      intro h0
      obtain ⟨k, hk, hrk, hpk⟩ := hbusy u h1 h2
      exact hl.prioOther u j' hs h0 hr k hk hrk hpk
    have := no_start hl t0 j' hr u h1 (fun v a b => hbusy v a (by omega)) hpos
    have := svc_mono (s := s) j' h1
    have := hv.2.1.2
    exact ⟨hr, by omega, by omega⟩

theorem busy_window_quiet (hl : SupplyTimerLegal s σ i hp) (B t0 len : ℕ)
    (hB : ∀ k < s.n, ¬ Rel s i hp k → s.cost k ≤ B + 1) (hq : QuietFor s (Rel s i hp) t0)
    (hbusy : ∀ u, t0 ≤ u → u < t0 + len → ∃ k, k < s.n ∧ Rel s i hp k ∧ Pending s k u)
    (hw : wk s (fun k => Rel s i hp k ∧ t0 ≤ s.arr k ∧ s.arr k < t0 + len) + B
      ≤ service σ t0 len) : QuietFor s (Rel s i hp) (t0 + len) := by
  refine quiet_of_window_done hl.servesPending _ t0 len hq (fun k hk hr h1 h2 => ?_)
  refine window_done (σ := σ) hl.servesPending
    (fun k => Rel s i hp k ∧ t0 ≤ s.arr k ∧ s.arr k < t0 + len) (Blk s i hp t0)
    (fun _ hb hP => hb.1 hP.1) t0 len B ?_ (fun _ _ hP => hP.2.1)
    (blk_bound hl B t0 (t0 + len) hB) hw k hk ⟨hr, h1, h2⟩
  intro u h1 h2 hσ
  obtain ⟨j', hs, hn, hc⟩ := busy_serve hl t0 (t0 + len) hq hbusy u h1 h2 hσ
  exact ⟨j', hs, hn, hc.imp_right (fun h => ⟨h.1, h.2.1, Nat.lt_of_le_of_lt h.2.2 h2⟩)⟩

theorem late_service_le (hv : ServesPending s) (P : ℕ → Prop) (lo st T : ℕ) (hst : st ≤ T)
    (hno : ∀ u, st ≤ u → u < T → ∀ k, P k → s.sched u ≠ some k) :
    sv s (fun k => P k ∧ lo ≤ s.arr k) T ≤ st - lo := by
  have e : sv s (fun k => P k ∧ lo ≤ s.arr k) T = sv s (fun k => P k ∧ lo ≤ s.arr k) st := by
    unfold sv
    refine sum_congr rfl (fun k _ => ?_)
    by_cases hP : P k ∧ lo ≤ s.arr k
    · rw [if_pos hP, if_pos hP]
      exact svc_const k st T hst (fun u h1 h2 => hno u h1 h2 k hP.1)
    · rw [if_neg hP, if_neg hP]
  rw [e]
  rcases Nat.lt_or_ge st lo with h | h
  · rw [sv_zero _ _ (fun k _ hP => hv.svc_zero_before k st (by have := hP.2; omega))]
    exact Nat.zero_le _
  · have h1 := sv_le_len (s := s) (fun k => P k ∧ lo ≤ s.arr k) lo (st - lo)
    rw [Nat.add_sub_cancel' h, sv_zero _ lo (fun k _ hP => hv.svc_zero_before k lo hP.2),
      Nat.zero_add] at h1
    exact h1

/-- The supply of a busy interval `[t0, t0 + len)` at whose end the instance `j` of `i` is
incomplete, `st` being the time at which `j` starts (or the end of the interval): it goes to
the blocking callback, to the instances of `i` released up to `j`, and to higher-priority
instances, which after `st` are not served any more and of which those released from
`t0 + iv` on can only have been served before `st`. -/
theorem busy_supply_le (hl : SupplyTimerLegal s σ i hp) [DecidablePred hp] (hi : ¬ hp i)
    (C B t0 len st iv j : ℕ)
    (hcost : ∀ k < s.n, s.task k = i → s.cost k ≤ C)
    (hB : ∀ k < s.n, ¬ Rel s i hp k → s.cost k ≤ B + 1)
    (hq : QuietFor s (Rel s i hp) t0)
    (hbusy : ∀ u, t0 ≤ u → u < t0 + len → ∃ k, k < s.n ∧ Rel s i hp k ∧ Pending s k u)
    (hj : j < s.n) (hji : s.task j = i) (ht0 : t0 ≤ s.arr j)
    (hlt : svc s j (t0 + len) < s.cost j) (hst : st ≤ t0 + len) (hst0 : svc s j st = 0)
    (hpos : ∀ u, st < u → u ≤ t0 + len → 0 < svc s j u) :
    service σ t0 len + C ≤ B + C * countOf s i t0 (s.arr j + 1) + svc s j (t0 + len)
      + workOf s hp t0 (t0 + iv) + (st - (t0 + iv)) := by
  have hv := hl.servesPending
  have alone := runs_alone hl j st (t0 + len) hj hst0 hpos hlt
  have hb := sv_supply (s := s) (σ := σ)
    (fun k => Blk s i hp t0 k ∨
      ((s.task k = i ∧ t0 ≤ s.arr k ∧ s.arr k < s.arr j + 1) ∨ (hp (s.task k) ∧ t0 ≤ s.arr k)))
    t0 len (by
      intro u h1 h2 h3
      obtain ⟨j', hs, hn, hc⟩ := busy_serve hl t0 (t0 + len) hq hbusy u h1 h2 h3
      refine ⟨j', hs, hn, hc.imp_right ?_⟩
      rintro ⟨hown | hhp, ha, _⟩
      · exact Or.inl ⟨hown, ha,
          Nat.lt_succ_of_le (own_order hl j j' u (t0 + len) hj hji hown hs h2 hlt)⟩
      · exact Or.inr ⟨hhp, ha⟩)
  have hdisj : ∀ k, Blk s i hp t0 k →
      ((s.task k = i ∧ t0 ≤ s.arr k ∧ s.arr k < s.arr j + 1) ∨ (hp (s.task k) ∧ t0 ≤ s.arr k)) →
      False := fun k h1 h2 => h1.1 (h2.imp (fun h => h.1) (fun h => h.1))
  rw [sv_or_disj _ _ _ hdisj, sv_or_disj _ _ _ hdisj,
    sv_zero (fun k => (s.task k = i ∧ t0 ≤ s.arr k ∧ s.arr k < s.arr j + 1) ∨
      (hp (s.task k) ∧ t0 ≤ s.arr k)) t0
      (fun k _ hP => hv.svc_zero_before k t0 (hP.elim (fun h => h.2.1) (fun h => h.2)))] at hb
  have hblk := blk_bound hl B t0 (t0 + len) hB
  have hOH := sv_or_le (s := s) (fun k => s.task k = i ∧ t0 ≤ s.arr k ∧ s.arr k < s.arr j + 1)
    (fun k => hp (s.task k) ∧ t0 ≤ s.arr k) (t0 + len)
  have hOwn := sv_split hv (fun k => s.task k = i ∧ t0 ≤ s.arr k ∧ s.arr k < s.arr j + 1) j
    (t0 + len) hj
  have hOwn2 := wk_own_minus s i t0 (s.arr j + 1) j C hj hji ht0 (Nat.lt_succ_self _) hcost
  -- higher-priority instances: released in `[t0, t0 + iv)`, or later
  have hHp1 := sv_imp (s := s) (fun k => hp (s.task k) ∧ t0 ≤ s.arr k)
    (fun k => (hp (s.task k) ∧ t0 ≤ s.arr k ∧ s.arr k < t0 + iv) ∨
      (hp (s.task k) ∧ t0 + iv ≤ s.arr k)) (t0 + len)
    (fun k _ hP => (Nat.lt_or_ge (s.arr k) (t0 + iv)).imp
      (fun h => ⟨hP.1, hP.2, h⟩) (fun h => ⟨hP.1, h⟩))
  have hHp2 := sv_or_le (s := s) (fun k => hp (s.task k) ∧ t0 ≤ s.arr k ∧ s.arr k < t0 + iv)
    (fun k => hp (s.task k) ∧ t0 + iv ≤ s.arr k) (t0 + len)
  have hHp3 := sv_le_wk hv (fun k => hp (s.task k) ∧ t0 ≤ s.arr k ∧ s.arr k < t0 + iv)
    (t0 + len)
  rw [← workOf_eq_wk] at hHp3
  have hHp4 := late_service_le hv (fun k => hp (s.task k)) (t0 + iv) st (t0 + len) hst
    (fun u h1 h2 k hk hs => hi (by rw [← hji, ← alone u h1 h2 k hs]; exact hk))
  omega

/-- the interference interval of `rta_timer` at offset `A` and candidate `r` reaches beyond
`A + r - C` -/
theorem lt_add_interval (C A r : ℕ) : A + r < C + (if r > C then A + r - C + 1 else A + 1) := by
  split <;> omega

/-- An instance `j` of `i` released in a busy interval that starts at the quiet time `t0` is
complete at `t0 + len` if the supply in `[t0, t0 + len)` covers the blocking, the instances of
`i` released up to `j` (cost at most `W`) and the higher-priority work released in the first
`iv` slots, where `iv` reaches beyond the latest start `len - C` of a `j` still running. -/
theorem done_of_cover (hl : SupplyTimerLegal s σ i hp) [DecidablePred hp] (hi : ¬ hp i)
    (sbf hpRbf : ℕ → ℕ) (C B W t0 len iv j : ℕ)
    (hsbf : ∀ t d, sbf d ≤ service σ t d)
    (hcost : ∀ k < s.n, s.task k = i → s.cost k ≤ C)
    (hhp : ∀ t d, workOf s hp t (t + d) ≤ hpRbf d)
    (hB : ∀ k < s.n, ¬ Rel s i hp k → s.cost k ≤ B + 1)
    (hq : QuietFor s (Rel s i hp) t0)
    (busy1 : ∀ u, t0 ≤ u → u < s.arr j → ∃ k, k < s.n ∧ Rel s i hp k ∧ Pending s k u)
    (hj : j < s.n) (hji : s.task j = i) (ht0 : t0 ≤ s.arr j)
    (hW : C * countOf s i t0 (s.arr j + 1) ≤ W) (hiv : len < C + iv)
    (hcov : W + hpRbf iv + B ≤ sbf len) : svc s j (t0 + len) = s.cost j := by
  apply Classical.byContradiction
  intro hne
  have hlt := Nat.lt_of_le_of_ne (hl.servesPending.svc_le_cost j (t0 + len)) hne
  obtain ⟨st, hst, hst0, hpos⟩ := exists_last_unstarted s j (t0 + len)
  have hbusy : ∀ u, t0 ≤ u → u < t0 + len → ∃ k, k < s.n ∧ Rel s i hp k ∧ Pending s k u := by
    intro u h1 h2
    rcases Nat.lt_or_ge u (s.arr j) with hu | hu
    · exact busy1 u h1 hu
    · exact ⟨j, hj, Or.inl hji, hu, Nat.lt_of_le_of_lt (svc_mono j (Nat.le_of_lt h2)) hlt⟩
  have key := busy_supply_le hl hi C B t0 len st iv j hcost hB hq hbusy hj hji ht0 hlt hst hst0
    hpos
  have h2 := hhp t0 iv
  have h3 := hsbf t0 len
  -- `j` is served for less than `C` slots, all of them after `st`
  obtain ⟨d, hd⟩ := Nat.exists_eq_add_of_le hst
  have hJ1 := svc_le_len (s := s) j st d
  rw [← hd, hst0, Nat.zero_add] at hJ1
  have hJ2 := hcost j hj hji
  generalize C * countOf s i t0 (s.arr j + 1) = W' at hW key
  omega

end TimerSoundLemmas
open TimerSoundLemmas

/-- Schedule half with abstract curves: `N` bounds the number of instances of `i` per window,
`C` their cost, `hpRbf` the higher-priority timers' workload per window, `B + 1` the cost of
any other callback, `sbf` the delivered service.  `L` is a busy-window bound; for every
offset `A ≤ L` at which `N` steps there is a solution `r ≤ R` of the offset equation of
`rta_timer` (interference counted up to the start of the instance). -/
theorem supply_timer_sound (s : Sys) (σ : ℕ → Bool) (i : ℕ) (hp : ℕ → Prop) [DecidablePred hp]
    (hl : SupplyTimerLegal s σ i hp) (hi : ¬ hp i)
    (sbf N hpRbf : ℕ → ℕ) (C B : ℕ)
    (hsbf : ∀ t d, sbf d ≤ service σ t d)
    (hN : ∀ t d, countOf s i t (t + d) ≤ N d) (hNmono : ∀ a b, a ≤ b → N a ≤ N b) (hN0 : N 0 = 0)
    (hcost : ∀ k < s.n, s.task k = i → s.cost k ≤ C)
    (hhp : ∀ t d, workOf s hp t (t + d) ≤ hpRbf d)
    (hB : ∀ k < s.n, ¬ Rel s i hp k → s.cost k ≤ B + 1)
    (L R : ℕ) (hL : 0 < L) (hLfix : C * N L + B + hpRbf L ≤ sbf L)
    (hR : ∀ A, A ≤ L → N A < N (A + 1) → ∃ r, r ≤ R ∧
      C * N (A + 1) + hpRbf (if r > C then A + r - C + 1 else A + 1) + B ≤ sbf (A + r))
    (j : ℕ) (hj : j < s.n) (hji : s.task j = i) : svc s j (s.arr j + R) = s.cost j := by
  have hv := hl.servesPending
  obtain ⟨t0, ht0le, ht0q, ht0max⟩ := exists_last_quiet s (Rel s i hp) (s.arr j)
  obtain ⟨A, hA⟩ := Nat.exists_eq_add_of_le ht0le
  have busy1 : ∀ u, t0 ≤ u → u < s.arr j → ∃ k, k < s.n ∧ Rel s i hp k ∧ Pending s k u :=
    fun u h1 h2 => pending_of_not_quiet hv _ u (ht0max (u + 1) (Nat.lt_succ_of_le h1) h2)
  have hAL : A < L := by
    apply Classical.byContradiction
    intro hge
    have hle : t0 + L ≤ s.arr j := hA ▸ Nat.add_le_add_left (Nat.le_of_not_lt hge) t0
    apply ht0max (t0 + L) (Nat.lt_add_of_pos_right hL) hle
    refine busy_window_quiet hl B t0 L hB ht0q
      (fun u h1 h2 => busy1 u h1 (Nat.lt_of_lt_of_le h2 hle)) ?_
    have h1 := wk_rel_le s i hp t0 (t0 + L) C hcost
    have h2 := Nat.mul_le_mul_left C (hN t0 L)
    have h3 := hhp t0 L
    have h4 := hsbf t0 L
    omega
  -- the step offset A' ≤ A with the same number of own instances
  have hcnt : countOf s i t0 (s.arr j + 1) ≤ N (A + 1) := by
    rw [hA, Nat.add_assoc]; exact hN t0 (A + 1)
  have hcntpos := countOf_pos s i t0 (s.arr j + 1) j hj hji ht0le (Nat.lt_succ_self _)
  obtain ⟨A', hA'le, hA'inc, hA'eq⟩ :=
    RosNaiveLemmas.exists_greatest_inc N hNmono hN0 A (Nat.lt_of_lt_of_le hcntpos hcnt)
  obtain ⟨r, hrR, hreq⟩ := hR A' (Nat.le_trans hA'le (Nat.le_of_lt hAL)) hA'inc
  have hdone := done_of_cover hl hi sbf hpRbf C B (C * N (A' + 1)) t0 (A' + r)
    (if r > C then A' + r - C + 1 else A' + 1) j hsbf hcost hhp hB ht0q busy1 hj hji ht0le
    (hA'eq ▸ Nat.mul_le_mul_left C hcnt) (lt_add_interval C A' r) hreq
  refine hv.done_mono j ?_ hdone
  rw [hA, Nat.add_assoc]
  exact Nat.add_le_add_left (Nat.add_le_add hA'le hrR) t0

theorem timer_extract (sup : Supply) (hs : sup.WF) (a : Arr) (C : ℕ) (interf : RB)
    (hwf : a.WF) (hex : a.Exact) (hC : 1 ≤ C) (hpos : 0 < a.N 1)
    (hwfi : interf.ArrWF) (hexi : interf.Exact) (B limit R : ℕ)
    (hR : rosTimer sup (.rbf a (.scalar C)) interf B limit = .ok R) :
    ∃ L, 0 < L ∧ C * a.N L + B + interf.need L ≤ sup.sbf L ∧
      ∀ A, A ≤ L → a.N A < a.N (A + 1) → ∃ r, r ≤ R ∧
        C * a.N (A + 1) + interf.need (if r > C then A + r - C + 1 else A + 1) + B ≤ sup.sbf (A + r) := by
  have hlim : 1 ≤ limit := by
    rcases Nat.eq_zero_or_pos limit with h0 | h
    · subst h0
      unfold rosTimer rosBound search at hR
      rw [searchWithOffset_limit_zero] at hR
      cases hR
    · exact h
  have hneed : ∀ d, (RB.rbf a (.scalar C)).need d = C * a.N d := fun d => by
    simp [RB.need, Cost.ofJobs]
  obtain ⟨hwfo, hexo⟩ := RosNaiveLemmas.scalar_rb_side a C hwf hex hC
  rw [timer_eq_naive_on_steps sup hs a C interf hwf hex hC hpos hwfi hexi B limit hlim] at hR
  unfold naiveRosBoundOn at hR
  rcases RosNaiveLemmas.nss_cases sup.sbf 0
      (fun d => (RB.rbf a (.scalar C)).need d + B + interf.need d) limit with ⟨L, h⟩ | h
  · rw [h] at hR
    simp only [] at hR
    obtain ⟨hLpos, hL2⟩ := SupplyFifoLemmas.nss_ok_pos sup hs _ limit L
      (by rw [hneed, Nat.add_assoc]; exact Nat.lt_of_lt_of_le (Nat.mul_pos hC hpos) (Nat.le_add_right _ _)) h
    rw [hneed] at hL2
    refine ⟨L, hLpos, hL2, ?_⟩
    intro A hA hinc
    have hmem : A ∈ rosOffsets (.rbf a (.scalar C)) L := by
      rw [RosNaiveLemmas.mem_rosOffsets _ hwfo hexo L A]
      refine ⟨hA, ?_⟩
      rw [hneed, hneed]
      exact Nat.mul_lt_mul_of_pos_left hinc hC
    obtain ⟨v, hv, hvR⟩ := (PruneCoreLemmas.naiveMax_ok_elim _ R hR).1 _ (List.mem_map.2 ⟨A, hmem, rfl⟩)
    have hv2 : (RB.rbf a (.scalar C)).need (A + 1) +
        interf.need (interferenceInterval (.rbf a (.scalar C)) A (max v 1)) + B ≤ sup.sbf (A + v) :=
      ((RosNaiveLemmas.nss_ok_iff _ _ _ _ _).1 hv).2.1
    rw [hneed, RosNaiveLemmas.iv_scalar a C hwf hpos A (max v 1) (by omega)] at hv2
    refine ⟨v, hvR, ?_⟩
    rcases Nat.eq_zero_or_pos v with h0 | hvpos
    · subst h0
      have e : max 0 1 = 1 := rfl
      rw [e] at hv2
      rw [if_neg (by omega)] at hv2
      rw [if_neg (by omega)]
      exact hv2
    · have e : max v 1 = v := by omega
      rw [e] at hv2
      exact hv2
  · rw [h] at hR
    cases hR

/-- C04, timer: `Ok(R)` of `rta_timer` is never exceeded by an instance of the analysed timer:
all supply processes delivering at least `sup.sbf` per window, all legal executions -/
theorem timer_sound (s : Sys) (σ : ℕ → Bool) (i : ℕ) (hp : ℕ → Prop) [DecidablePred hp]
    (hl : SupplyTimerLegal s σ i hp) (hi : ¬ hp i)
    (sup : Supply) (hs : sup.WF) (hsbf : ∀ t d, sup.sbf d ≤ service σ t d)
    (a : Arr) (C : ℕ) (hwf : a.WF) (hex : a.Exact) (hC : 1 ≤ C)
    (interf : RB) (hwfi : interf.ArrWF) (hexi : interf.Exact) (B : ℕ)
    (hN : ∀ t d, countOf s i t (t + d) ≤ a.N d)
    (hcost : ∀ k < s.n, s.task k = i → s.cost k ≤ C)
    (hhp : ∀ t d, workOf s hp t (t + d) ≤ interf.need d)
    (hB : ∀ k < s.n, ¬ Rel s i hp k → s.cost k ≤ B + 1)
    (limit R : ℕ) (hR : rosTimer sup (.rbf a (.scalar C)) interf B limit = .ok R) :
    ∀ j, j < s.n → s.task j = i → MeetsBound s j R := by
  intro j hj hji
  show svc s j (s.arr j + R) = s.cost j
  have hpos : 0 < a.N 1 := by
    have h1 := countOf_pos s i (s.arr j) (s.arr j + 1) j hj hji (le_refl _) (by omega)
    have h2 := hN (s.arr j) 1
    omega
  obtain ⟨L, hLpos, hLfix, hA⟩ :=
    timer_extract sup hs a C interf hwf hex hC hpos hwfi hexi B limit R hR
  exact supply_timer_sound s σ i hp hl hi sup.sbf a.N interf.need C B hsbf
    hN (Arr.N_mono a hwf) (Arr.N_zero a) hcost hhp hB L R hLpos hLfix hA j hj hji

theorem timer_sound_reservation (s : Sys) (Q D P : ℕ) (hQ : 1 ≤ Q) (hQD : Q ≤ D) (hDP : D ≤ P)
    (σ : ℕ → Bool) (hσ : Compliant Q D P σ) (i : ℕ) (hp : ℕ → Prop) [DecidablePred hp]
    (hl : SupplyTimerLegal s σ i hp) (hi : ¬ hp i)
    (a : Arr) (C : ℕ) (hwf : a.WF) (hex : a.Exact) (hC : 1 ≤ C)
    (interf : RB) (hwfi : interf.ArrWF) (hexi : interf.Exact) (B : ℕ)
    (hN : ∀ t d, countOf s i t (t + d) ≤ a.N d)
    (hcost : ∀ k < s.n, s.task k = i → s.cost k ≤ C)
    (hhp : ∀ t d, workOf s hp t (t + d) ≤ interf.need d)
    (hB : ∀ k < s.n, ¬ Rel s i hp k → s.cost k ≤ B + 1)
    (limit R : ℕ) (hR : rosTimer (.constrained Q D P) (.rbf a (.scalar C)) interf B limit = .ok R) :
    ∀ j, j < s.n → s.task j = i → MeetsBound s j R :=
  timer_sound s σ i hp hl hi (.constrained Q D P) ⟨hQ, hQD, hDP⟩
    (fun t d => cSbf_sound Q D P hQ hQD hDP σ hσ t d) a C hwf hex hC interf hwfi hexi B
    hN hcost hhp hB limit R hR

/-! `rta_polling_point_callback` is `rta_timer` without blocking, every other callback counted as
interference: the schedule-level facts are those of `SupplyTimerLegal` with
`hp := fun k => k ≠ i` (no callback is "other"; `prioOther` is vacuous). -/

theorem pollingPoint_eq_timer (sup : Supply) (own interf : RB) (limit : ℕ) :
    rosPollingPoint sup own interf limit = rosTimer sup own interf 0 limit := rfl

/-- C04, polling point: `Ok(R)` of `rta_polling_point_callback` is never exceeded by an
instance of the analysed callback -/
theorem pollingPoint_sound (s : Sys) (σ : ℕ → Bool) (i : ℕ)
    (hl : SupplyTimerLegal s σ i (fun k => k ≠ i))
    (sup : Supply) (hs : sup.WF) (hsbf : ∀ t d, sup.sbf d ≤ service σ t d)
    (a : Arr) (C : ℕ) (hwf : a.WF) (hex : a.Exact) (hC : 1 ≤ C)
    (interf : RB) (hwfi : interf.ArrWF) (hexi : interf.Exact)
    (hN : ∀ t d, countOf s i t (t + d) ≤ a.N d)
    (hcost : ∀ k < s.n, s.task k = i → s.cost k ≤ C)
    (hint : ∀ t d, workOf s (fun k => k ≠ i) t (t + d) ≤ interf.need d)
    (limit R : ℕ) (hR : rosPollingPoint sup (.rbf a (.scalar C)) interf limit = .ok R) :
    ∀ j, j < s.n → s.task j = i → MeetsBound s j R := by
  rw [pollingPoint_eq_timer] at hR
  exact timer_sound s σ i (fun k => k ≠ i) hl (fun h => h rfl) sup hs hsbf a C hwf hex hC
    interf hwfi hexi 0 hN hcost hint
    (fun k _ h => absurd (Decidable.em (s.task k = i)) h) limit R hR

theorem pollingPoint_sound_reservation (s : Sys) (Q D P : ℕ) (hQ : 1 ≤ Q) (hQD : Q ≤ D)
    (hDP : D ≤ P) (σ : ℕ → Bool) (hσ : Compliant Q D P σ) (i : ℕ)
    (hl : SupplyTimerLegal s σ i (fun k => k ≠ i))
    (a : Arr) (C : ℕ) (hwf : a.WF) (hex : a.Exact) (hC : 1 ≤ C)
    (interf : RB) (hwfi : interf.ArrWF) (hexi : interf.Exact)
    (hN : ∀ t d, countOf s i t (t + d) ≤ a.N d)
    (hcost : ∀ k < s.n, s.task k = i → s.cost k ≤ C)
    (hint : ∀ t d, workOf s (fun k => k ≠ i) t (t + d) ≤ interf.need d)
    (limit R : ℕ)
    (hR : rosPollingPoint (.constrained Q D P) (.rbf a (.scalar C)) interf limit = .ok R) :
    ∀ j, j < s.n → s.task j = i → MeetsBound s j R :=
  pollingPoint_sound s σ i hl (.constrained Q D P) ⟨hQ, hQD, hDP⟩
    (fun t d => cSbf_sound Q D P hQ hQD hDP σ hσ t d) a C hwf hex hC interf hwfi hexi
    hN hcost hint limit R hR

end RTA.Sched
