import RTA.Lemmas.TightFP
/-! C18, fully non-preemptive fixed priority: the bound is attained.

Setting as in `TightFP.lean` (priorities = task indices), every job fully non-preemptive
once started.  From `t₀` on the analysed task `i` and the higher-priority tasks realise their
curves, jobs of `i` run for the WCET `C`, and — if the blocking bound `B` is positive — a
lower-priority job of cost `B + 1` starts exactly one slot before `t₀`.  Then in EVERY legal
schedule some job of task `i` has a response time equal to the bound. -/

open Finset

namespace RTA.Sched
open RTA RTA.Spec

namespace TightNPLemmas

theorem np_run {s : Sys} {hep : ℕ → ℕ → Prop} (hl : JlfpLegal s hep) (b u : ℕ)
    (hs : s.sched u = some b) (h0 : svc s b u = 0)
    (hnp : ∀ x, 1 ≤ x → x < s.cost b → s.np b x) :
    ∀ d, d < s.cost b → s.sched (u + d) = some b ∧ svc s b (u + d + 1) = d + 1 := by
  have h1 : svc s b (u + 1) = 1 := by rw [svc_succ_of_eq b u hs, h0]
  have hg : ∀ d, d < s.cost b → svc s b (u + 1 + d) = 1 + d := fun d hd => by
    rw [J.grows_from_level hl b 1 hnp Nat.one_pos d (u + 1) (by omega) (by omega), h1]
  intro d hd
  refine ⟨?_, by rw [show u + d + 1 = u + 1 + d by omega, hg d hd]; omega⟩
  cases d with
  | zero => exact hs
  | succ d =>
    have := hg d (by omega)
    rw [show u + 1 + d = u + (d + 1) by omega] at this
    exact J.runs_from_level hl b 1 hnp Nat.one_pos _ (by omega) (by omega)

end TightNPLemmas
open TightNPLemmas TightFPLemmas TightLemmas FpSoundLemmas RTA.PruneCoreLemmas RTA.PruneFPLemmas

/-- the system consisting of a job set and a schedule in which every job, once started, is
non-preemptable until it completes -/
def JobSet.withSchedNP (js : JobSet) (sched : ℕ → Option ℕ) : Sys :=
  js.sys (fun k x => 1 ≤ x ∧ x < js.cost k) sched

theorem exists_fp_nonpreemptive_schedule (js : JobSet) :
    ∃ sched, JlfpLegal (js.withSchedNP sched) (hepFP (js.withSchedNP sched) id) := by
  refine ⟨greedy js (key js) (fun k x => decide (1 ≤ x ∧ x < js.cost k)),
    greedy_valid js (key js) _ _ (fun _ _ h => (of_decide_eq_true h).2), ?_, ?_⟩
  · intro t k hs _ hnp
    have hnp : 1 ≤ svc _ k (t + 1) ∧ svc _ k (t + 1) < js.cost k := hnp
    exact greedy_cont js (key js) _ _ t k hs (decide_eq_true hnp)
  · intro t j h
    rcases greedy_min js (key js) (fun k x => decide (1 ≤ x ∧ x < js.cost k))
      (fun k x => 1 ≤ x ∧ x < js.cost k) t j h with ⟨t', ht', hprev, h⟩ | h
    · have h : 1 ≤ svc _ j t ∧ svc _ j t < js.cost j := of_decide_eq_true h
      exact Or.inl ⟨t', ht', hprev, h⟩
    · exact Or.inr fun k hk hpk => key_le js j k hk (h k hk hpk)

theorem fp_nonpreemptive_bound_attained (s : Sys) (i : ℕ) (a : Arr) (C B : ℕ) (hp : List (Arr × ℕ))
    (hS : FpSetting s id i (.rbf a (.scalar C)) (hp.map fun p => RB.rbf p.1 (.scalar p.2)) B)
    (hnpall : ∀ l, l < s.n → ∀ x, 1 ≤ x → x < s.cost l → s.np l x)
    (hwf : a.WF) (hex : a.Exact) (hC : 1 ≤ C)
    (hwfo : ∀ p ∈ hp, p.1.WF ∧ p.1.Exact ∧ 1 ≤ p.2)
    (limit R L t₀ : ℕ)
    (hR : fpNonpreemptive a C B (hp.map fun p => RB.rbf p.1 (.scalar p.2)) limit = .ok R)
    (hL : naiveSolve (fun x => B + sumNeed (hp.map fun p => RB.rbf p.1 (.scalar p.2)) x +
        (RB.rbf a (.scalar C)).need x) limit = .ok L)
    (hcnt : ∀ t d, cntOf s (fun x => x = i) t (t + d) ≤ a.N d)
    (hown : ∀ Δ, Δ ≤ L → cntOf s (fun x => x = i) t₀ (t₀ + Δ) = a.N Δ)
    (hcost : ∀ k, k < s.n → s.task k = i → s.cost k = C)
    (hhp : ∀ Δ, Δ ≤ L → workOf s (fun x => x < i) t₀ (t₀ + Δ) =
        sumNeed (hp.map fun p => RB.rbf p.1 (.scalar p.2)) Δ)
    (hblock : B = 0 ∨ ∃ b, b < s.n ∧ i < s.task b ∧ s.cost b = B + 1 ∧ 1 ≤ t₀ ∧
        s.sched (t₀ - 1) = some b ∧ svc s b (t₀ - 1) = 0)
    (hRpos : 0 < R) :
    ∃ j, j < s.n ∧ s.task j = i ∧ MeetsBound s j R ∧ ∀ R', R' < R → ¬ MeetsBound s j R' := by
  have ho := othersOK_scalar hp hwfo
  have hR' : fpCore (.rbf a (.scalar C)) (hp.map fun p => RB.rbf p.1 (.scalar p.2)) B (C - 1) limit
      = .ok R := by
    unfold fpNonpreemptive at hR
    rwa [decide_eq_false (by omega : ¬ C < 1)] at hR
  -- the slot in which a job starts is scheduled by priority
  have hseg : ∀ j st, j < s.n → s.task j = i → s.sched st = some j → svc s j st = C - (C - 1) - 1 →
      ∀ k, k < s.n → Pending s k st → hepFP s id j k := by
    intro j st _ _ hst hsv
    rcases hS.legal.prio st j hst with ⟨t', ht', hs', _⟩ | h
    · have : svc s j st = svc s j t' + 1 := by
        rw [ht']
        show svc s j t' + (if s.sched t' = some j then 1 else 0) = _
        rw [if_pos hs']
      omega
    · exact h
  -- the blocking job, started at `t₀ - 1`, occupies `[t₀, t₀ + B)`
  have hblk : ∀ v, t₀ ≤ v → v < t₀ + B → ∀ k, s.sched v = some k → i < s.task k := by
    rcases hblock with hB0 | ⟨b, hbn, hbt, hbc, ht1, hbs, hb0⟩
    · intro v h1 h2; omega
    · intro v h1 h2 k hk
      obtain ⟨u, rfl⟩ : ∃ u, t₀ = u + 1 := ⟨t₀ - 1, by omega⟩
      rw [Nat.add_sub_cancel] at hbs hb0
      have := (np_run hS.legal b u hbs hb0 (fun x h1 h2 => hnpall b hbn x h1 h2) (v - u)
        (by omega)).1
      rw [show u + (v - u) = v by omega, hk, Option.some.injEq] at this
      rw [this]
      exact hbt
  obtain ⟨j, hj, hji, hlow⟩ := fp_bound_not_beaten s i a C B (C - 1) _ hS hwf hex hC ho (by omega)
    limit R L t₀ hR' hL hown hcost hhp hseg hblk hRpos
  exact ⟨j, hj, hji, fp_nonpreemptive_sound s id i a C _ B hS hwf hex ho hcnt
    (fun j hj hji => ⟨le_of_eq (hcost j hj hji), fun x h1 h2 => hnpall j hj x h1 h2⟩) limit R hR
    j hj hji, hlow⟩

end RTA.Sched
