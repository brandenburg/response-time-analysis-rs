import RTA.Lemmas.MonoRos
/-! C17, ROS 2 timer / polling-point analyses (chain: `MonoChainOwn`): hardening the analysed
callback's OWN model (more arrivals in every window — more jitter, shorter period — and / or a
larger scalar WCET) never decreases the bound.  (The search space of these analyses is pruned to
the step offsets of the own demand, so this does not follow from the naive all-offset
evaluation.) -/

namespace RTA
open RTA.Spec

namespace MonoRosOwnLemmas
open PruneCoreLemmas RosNaiveLemmas MonoRosLemmas

theorem iv_eq (a : Arr) (C : Nat) (hwf : a.WF) (hpos : 0 < a.N 1) (hC : 1 ≤ C) (A r : Nat) :
    interferenceInterval (.rbf a (.scalar C)) A (max r 1) = A + (r - C) + 1 := by
  rw [iv_scalar a C hwf hpos A (max r 1) (Nat.le_max_right r 1)]
  split <;> omega

/-- inside the busy window no `S < A` can carry `k ≥ N A` jobs plus the interference up to
`S + 1` -/
theorem offset_le_of_sol (sbf N I : Nat → Nat) (hmN : MonoN N) (hmI : MonoN I) (C B A k S : Nat)
    (hk : N A ≤ k)
    (hbw : ∀ L, L < A → ¬ (C * N (max L 1) + B + I (max L 1) ≤ sbf L))
    (h : C * k + B + I (S + 1) ≤ sbf S) : A ≤ S := by
  rcases Nat.lt_or_ge S A with hlt | hge
  · have h1 : C * N (max S 1) ≤ C * k :=
      Nat.mul_le_mul_left C (Nat.le_trans (hmN _ _ (by omega)) hk)
    have h2 : I (max S 1) ≤ I (S + 1) := hmI _ _ (by omega)
    exact absurd (by omega) (hbw S hlt)
  · exact hge

/-- A solution `r'` of the hard per-offset inequality at `A' ≤ A` (with at least as
many own jobs) yields a solution of the easy inequality at `A` that is not larger, provided
`A` lies inside the easy busy window.  In absolute time the last own job starts at
`S = A' + (r' - C')`; the busy-window hypothesis forces `A ≤ S`, and the easy system can start
its job at the same `S`: that is `r = A' + r' + C - (A + C')`. -/
theorem sol_transfer (sbf : Nat → Nat) (hlip : Lipschitz1 sbf) (N N' I : Nat → Nat)
    (hmN : MonoN N) (hmI : MonoN I) (C C' B A A' : Nat) (hCC : C ≤ C')
    (hA' : A' ≤ A) (hstep : N A < N (A + 1)) (hn : N (A + 1) ≤ N' (A' + 1))
    (hbw : ∀ L, L < A → ¬ (C * N (max L 1) + B + I (max L 1) ≤ sbf L))
    (r' : Nat) (hsol : C' * N' (A' + 1) + I (A' + (r' - C') + 1) + B ≤ sbf (A' + r')) :
    ∃ r, r ≤ r' ∧ C * N (A + 1) + I (A + (r - C) + 1) + B ≤ sbf (A + r) := by
  obtain ⟨k, hk⟩ : ∃ k, N' (A' + 1) = k + 1 := ⟨N' (A' + 1) - 1, by omega⟩
  rw [hk, Nat.mul_succ] at hsol
  have hCk : C * k ≤ C' * k := Nat.mul_le_mul_right k hCC
  have hCn : C * N (A + 1) ≤ C * k + C := Nat.mul_le_mul_left C (show N (A + 1) ≤ k + 1 by omega)
  have hS : A ≤ A' + (r' - C') := by
    apply offset_le_of_sol sbf N I hmN hmI C B A k _ (by omega) hbw
    have h1 := lipschitz_mono hlip (A' + r') (A' + (r' - C') + C') (by omega)
    have h2 := lipschitz_add hlip (A' + (r' - C')) C'
    omega
  refine ⟨A' + r' + C - (A + C'), by omega, ?_⟩
  have e : A + (A' + r' + C - (A + C') - C) = A' + (r' - C') := by omega
  have h1 := lipschitz_mono hlip (A' + r') (A + (A' + r' + C - (A + C')) + (C' - C)) (by omega)
  have h2 := lipschitz_add hlip (A + (A' + r' + C - (A + C'))) (C' - C)
  rw [e]
  omega

end MonoRosOwnLemmas
open MonoRosOwnLemmas MonoRosLemmas RosNaiveLemmas PruneCoreLemmas

theorem timer_mono_own (s : Supply) (hs : s.WF)
    (a a' : Arr) (C C' : Nat) (hwf : a.WF) (hex : a.Exact) (hwf' : a'.WF) (hex' : a'.Exact)
    (hC : 1 ≤ C) (hCC : C ≤ C') (hpos : 0 < a.N 1) (hN : ∀ d, a.N d ≤ a'.N d)
    (interf : RB) (hwfi : interf.ArrWF) (hexi : interf.Exact) (B limit : Nat) (hl : 1 ≤ limit) :
    Res.leD (rosTimer s (.rbf a (.scalar C)) interf B limit)
      (rosTimer s (.rbf a' (.scalar C')) interf B limit) := by
  have hC' : 1 ≤ C' := by omega
  have hpos' : 0 < a'.N 1 := Nat.lt_of_lt_of_le hpos (hN 1)
  obtain ⟨h1, h2⟩ := scalar_rb_side a C hwf hex hC
  obtain ⟨h1', h2'⟩ := scalar_rb_side a' C' hwf' hex' hC'
  have hmN' := Arr.N_mono a' hwf'
  have need_eq : ∀ d, (RB.rbf a (.scalar C)).need d = C * a.N d := fun _ => rfl
  have need_eq' : ∀ d, (RB.rbf a' (.scalar C')).need d = C' * a'.N d := fun _ => rfl
  rw [timer_eq_naive_on_steps s hs a C interf hwf hex hC hpos hwfi hexi B limit hl,
    timer_eq_naive_on_steps s hs a' C' interf hwf' hex' hC' hpos' hwfi hexi B limit hl]
  apply rosBoundOn_dom
  · apply nss_leD_same _ _ 0 _ _ limit (fun _ => Nat.le_refl _)
    intro x
    have : C * a.N x ≤ C' * a'.N x := Nat.mul_le_mul hCC (hN x)
    show (RB.rbf a (.scalar C)).need x + B + _ ≤ (RB.rbf a' (.scalar C')).need x + B + _
    rw [need_eq, need_eq']
    omega
  · intro m m' hm _ hle A hA
    rw [mem_rosOffsets _ h1 h2] at hA
    obtain ⟨hAm, hAstep⟩ := hA
    rw [need_eq, need_eq] at hAstep
    have hstep : a.N A < a.N (A + 1) := Nat.lt_of_mul_lt_mul_left hAstep
    -- the greatest step offset `A' ≤ A` of the harder curve carries at least as many jobs
    obtain ⟨A', hA'le, hA'step, hA'eq⟩ :=
      exists_greatest_inc a'.N hmN' (Arr.N_zero a') A (by have := hN (A + 1); omega)
    refine ⟨A', ?_, ?_⟩
    · rw [mem_rosOffsets _ h1' h2', need_eq', need_eq']
      exact ⟨by omega, (Nat.mul_lt_mul_left (by omega : 0 < C')).2 hA'step⟩
    · apply nss_leD
      intro r' hr'
      have hbw : ∀ L, L < A →
          ¬ (C * a.N (max L 1) + B + interf.need (max L 1) ≤ s.sbf L) := by
        intro L hL
        have := ((nss_ok_iff _ _ _ _ _).1 hm).2.2 L (by omega)
        rw [Nat.zero_add] at this
        exact this
      replace hr' : (RB.rbf a' (.scalar C')).need (A' + 1) +
          interf.need (interferenceInterval (.rbf a' (.scalar C')) A' (max r' 1)) + B ≤
            s.sbf (A' + r') := hr'
      rw [iv_eq a' C' hwf' hpos' hC' A' r', need_eq'] at hr'
      obtain ⟨r, hrr, hr⟩ := sol_transfer s.sbf (Supply.sbf_lipschitz s hs) a.N a'.N interf.need
        (Arr.N_mono a hwf) (RB.need_mono interf hwfi hexi) C C' B A A' hCC hA'le hstep
        (by have := hN (A + 1); omega) hbw r' hr'
      refine ⟨r, hrr, ?_⟩
      show (RB.rbf a (.scalar C)).need (A + 1) +
        interf.need (interferenceInterval (.rbf a (.scalar C)) A (max r 1)) + B ≤ s.sbf (A + r)
      rw [iv_eq a C hwf hpos hC A r, need_eq]
      exact hr

theorem pollingPoint_mono_own (s : Supply) (hs : s.WF)
    (a a' : Arr) (C C' : Nat) (hwf : a.WF) (hex : a.Exact) (hwf' : a'.WF) (hex' : a'.Exact)
    (hC : 1 ≤ C) (hCC : C ≤ C') (hpos : 0 < a.N 1) (hN : ∀ d, a.N d ≤ a'.N d)
    (interf : RB) (hwfi : interf.ArrWF) (hexi : interf.Exact) (limit : Nat) (hl : 1 ≤ limit) :
    Res.leD (rosPollingPoint s (.rbf a (.scalar C)) interf limit)
      (rosPollingPoint s (.rbf a' (.scalar C')) interf limit) :=
  timer_mono_own s hs a a' C C' hwf hex hwf' hex' hC hCC hpos hN interf hwfi hexi 0 limit hl

end RTA
