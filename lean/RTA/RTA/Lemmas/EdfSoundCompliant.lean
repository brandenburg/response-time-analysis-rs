import RTA.Lemmas.EdfSound
import RTA.Lemmas.FpSoundCompliant
/-! C02 from the task set (`EdfSetting.of_compliant`): the structural and workload hypotheses of
`EdfSetting` follow from compliance of the job set with the task set (`Compliant`), with the
interference set being all other tasks of the task set.  Kept as hypotheses on the job system:
`JlfpLegal`, the segment bounds `hseg`, positive job costs `hpos`. -/

open Finset Classical

namespace RTA.Sched
open RTA RTA.Spec RTA.Sched.J

/-- indices of all other tasks, in index order -/
def otherIds (n i : ℕ) : List ℕ := (List.range n).filter (fun x => decide (x ≠ i))

/-- the `EdfTask` records the crate's EDF analyses are given for the other tasks -/
def edfOthersOf (ts : List (Arr × Cost)) (Dl sg : ℕ → ℕ) (i : ℕ) : List EdfTask :=
  (otherIds ts.length i).map (fun x => { rb := taskRB ts x, D := Dl x, seg := sg x })

open FifoSoundLemmas FpSoundCompliantLemmas

namespace EdfSoundCompliantLemmas

theorem mem_otherIds (n i x : ℕ) : x ∈ otherIds n i ↔ x < n ∧ x ≠ i := by
  unfold otherIds
  simp only [List.mem_filter, List.mem_range, decide_eq_true_eq]

theorem otherIds_nodup (n i : ℕ) : (otherIds n i).Nodup := by
  unfold otherIds
  exact List.nodup_range.filter _

theorem getD_eq_getElem_of_lt {α : Type} (l : List α) (m : ℕ) (d : α) (hm : m < l.length) :
    l.getD m d = l[m] := by
  simp [List.getD_eq_getElem?_getD, List.getElem?_eq_getElem hm]

theorem otherIds_getD (n i m : ℕ) (hm : m < (otherIds n i).length) :
    (otherIds n i).getD m 0 = (otherIds n i)[m] := by
  exact getD_eq_getElem_of_lt _ m 0 hm

theorem otherIds_getD_mem (n i m : ℕ) (hm : m < (otherIds n i).length) :
    (otherIds n i).getD m 0 < n ∧ (otherIds n i).getD m 0 ≠ i := by
  rw [otherIds_getD n i m hm]
  exact (mem_otherIds n i _).1 (List.getElem_mem hm)

theorem edfOthersOf_length (ts : List (Arr × Cost)) (Dl sg : ℕ → ℕ) (i : ℕ) :
    (edfOthersOf ts Dl sg i).length = (otherIds ts.length i).length := by
  unfold edfOthersOf
  rw [List.length_map]

theorem edfOthersOf_getD (ts : List (Arr × Cost)) (Dl sg : ℕ → ℕ) (i m : ℕ)
    (hm : m < (otherIds ts.length i).length) :
    (edfOthersOf ts Dl sg i).getD m default
      = { rb := taskRB ts ((otherIds ts.length i).getD m 0),
          D := Dl ((otherIds ts.length i).getD m 0),
          seg := sg ((otherIds ts.length i).getD m 0) } := by
  have hm' : m < (edfOthersOf ts Dl sg i).length := by rw [edfOthersOf_length]; exact hm
  rw [getD_eq_getElem_of_lt _ m default hm', otherIds_getD _ _ _ hm]
  simp only [edfOthersOf, List.getElem_map]

theorem edfOthersOK_edfOthersOf (ts : List (Arr × Cost)) (Dl sg : ℕ → ℕ) (i : ℕ)
    (hwf : ∀ p ∈ ts, p.1.WF ∧ p.2.WF)
    (hex : ∀ x, x < ts.length → x ≠ i → (taskRB ts x).Exact) :
    EdfOthersOK (edfOthersOf ts Dl sg i) := by
  intro o ho
  unfold edfOthersOf at ho
  obtain ⟨x, hx, rfl⟩ := List.mem_map.1 ho
  obtain ⟨hx1, hx2⟩ := (mem_otherIds ts.length i x).1 hx
  exact ⟨taskRB_arrWF ts hwf x hx1, hex x hx1 hx2⟩

end EdfSoundCompliantLemmas
open EdfSoundCompliantLemmas

theorem EdfSetting.of_compliant (s : Sys) (ts : List (Arr × Cost)) (Dl sg : ℕ → ℕ) (i : ℕ)
    (hi : i < ts.length)
    (hwf : ∀ p ∈ ts, p.1.WF ∧ p.2.WF) (hc : Compliant s ts)
    (hl : JlfpLegal s (hepEDF s Dl))
    (hseg : ∀ l, l < s.n → s.task l ≠ i → ∀ x len,
      (∀ k, k < len → s.np l (x + k)) → len ≤ sg (s.task l) - 1)
    (hpos : ∀ k, k < s.n → 1 ≤ s.cost k) :
    EdfSetting s Dl i (Dl i) (taskRB ts i) (edfOthersOf ts Dl sg i) (otherIds ts.length i) where
  legal := hl
  ordered := by
    intro a b ha hb hab hle
    exact ordered_of_sorted_task s (s.task b) (hc.comp (s.task b) (hc.task_lt b hb)).sorted
      a b ha hb hab rfl hle
  ids_len := (edfOthersOf_length ts Dl sg i).symm
  ids_ne := fun m hm => (otherIds_getD_mem ts.length i m hm).2
  ids_inj := by
    intro m m' hm hm' h
    rw [otherIds_getD _ _ _ hm, otherIds_getD _ _ _ hm'] at h
    exact (List.Nodup.getElem_inj_iff (otherIds_nodup ts.length i)).1 h
  task_mem := by
    intro k hk
    by_cases h : s.task k = i
    · exact Or.inl h
    · right
      have hmem : s.task k ∈ otherIds ts.length i :=
        (mem_otherIds ts.length i _).2 ⟨hc.task_lt k hk, h⟩
      obtain ⟨m, hm, hget⟩ := List.mem_iff_getElem.1 hmem
      exact ⟨m, hm, by rw [otherIds_getD _ _ _ hm, hget]⟩
  dl_tua := rfl
  dl_other := by
    intro m hm
    rw [edfOthersOf_getD ts Dl sg i m hm]
  w_tua := fun t d => task_work_le_taskRB s ts hwf hc i hi t d
  w_other := by
    intro m hm t d
    rw [edfOthersOf_getD ts Dl sg i m hm]
    exact task_work_le_taskRB s ts hwf hc _ (otherIds_getD_mem ts.length i m hm).1 t d
  seg := by
    intro m hm l hl' hlt x len h
    rw [edfOthersOf_getD ts Dl sg i m hm]
    have hne : s.task l ≠ i := by rw [hlt]; exact (otherIds_getD_mem ts.length i m hm).2
    have := hseg l hl' hne x len h
    rw [hlt] at this
    exact this
  cost_pos := hpos

end RTA.Sched
