import RTA.Lemmas.ExecEndToEndExample
/-! Non-vacuity of the bw end-to-end theorem (`run_meets_of_polling_sound_x` with
`bw_singleton_sound`) and of `timer_exec_sound_x`, at the WCETs, on the run of
`ExecEndToEndExample.lean`: the analyses return the stated values, every hypothesis holds, and every
completion that `Exec.run` reports is within the bounds. -/

namespace RTA.Exec
open RTA RTA.Sched RTA.Spec
open EndToEndExampleLemmas

def exArrs : List Arr := [.periodic 10, .periodic 10, .periodic 20]

end RTA.Exec

namespace RTA.Exec.EndToEndExample2Lemmas
open RTA RTA.Sched RTA.Spec RTA.Exec
open EndToEndExampleLemmas

theorem hwfExact : ∀ cb ∈ exWl, cb.arr.WF ∧ cb.arr.Exact := by
  intro cb hcb
  simp only [exWl, List.mem_cons, List.not_mem_nil, or_false] at hcb
  rcases hcb with rfl | rfl | rfl <;> simp [Arr.WF, Arr.Exact]

theorem hwfArrs : ∀ a ∈ exArrs, a.WF ∧ a.Exact := by
  intro a ha
  simp only [exArrs, List.mem_cons, List.not_mem_nil, or_false] at ha
  rcases ha with rfl | rfl | rfl <;> simp [Arr.WF, Arr.Exact]

theorem hrelArrs : ∀ k, k < exCbs.length → ∀ t d,
    relCount exRels k t d ≤ (exArrs.getD k default).N d := by
  intro k hk t d
  match k, hk with
  | 0, h => exact hrel 0 h t d
  | 1, h => exact hrel 1 h t d
  | 2, h => exact hrel 2 h t d
  | k + 3, h => exact absurd (show k + 3 < 3 from h) (by omega)

end RTA.Exec.EndToEndExample2Lemmas

namespace RTA.Exec
open RTA RTA.Sched RTA.Spec
open EndToEndExampleLemmas

/-- the bw analysis reproduces bounds below the assumed vector (9, 9, 9): every singleton analysis
returns `Ok(6)` -/
theorem bw_example_self_consistent :
    ∀ i, i < exWl.length → ∃ R, bwSubchain .dedicated exWl [i] 100 false = .ok R ∧ R ≤ (exWl.getD i default).rtb := by
  intro i hi
  match i, hi with
  | 0, _ => exact ⟨6, by decide +kernel, by decide⟩
  | 1, _ => exact ⟨6, by decide +kernel, by decide⟩
  | 2, _ => exact ⟨6, by decide +kernel, by decide⟩
  | k + 3, h => exact absurd (show k + 3 < 3 from h) (by omega)

theorem bw_example_bounded :
    ∀ o ∈ Exec.run exCbs (fun _ => none) ((List.range 60).map exSigmaAll) exRels,
      o.2.2 ≤ o.2.1 + (exWl.getD o.1 default).rtb := by
  intro o ho
  rw [← ExecX.run_wcet] at ho
  exact ExecX.run_meets_of_polling_sound_x exCbs _ exSigmaAll exRels 40 hidx hfin
    (wcet_bounds _ (by decide)) exWl rfl (fun i j hi hj => hprio i hi j hj) hrel
    (fun hl htask hpr hN hc => bw_singleton_sound _ exSigmaAll _ hl .dedicated trivial exSigmaAll_sbf exWl
      (fun k => (exCbs.getD k default).cost) hscalar EndToEndExample2Lemmas.hwfExact htask hkinds hpr hN hc
      100 false bw_example_self_consistent)
    60 o.1 o ho rfl

/-- `rta_timer` for the timer (callback 0): no higher-priority timer, blocking bound 2 (the longest
other callback costs 3) -/
theorem timer_example_bound :
    rosTimer .dedicated (.rbf (exArrs.getD 0 default) (.scalar (exCbs.getD 0 default).cost))
      (.agg (((List.range exCbs.length).filter fun k =>
          (exCbs.getD k default).isTimer && decide ((exCbs.getD k default).prio < (exCbs.getD 0 default).prio)).map
        fun k => .rbf (exArrs.getD k default) (.scalar (exCbs.getD k default).cost))) 2 100 = .ok 3 := by
  decide +kernel

theorem timer_example_bounded :
    ∀ o ∈ Exec.run exCbs (fun _ => none) ((List.range 60).map exSigmaAll) exRels, o.1 = 0 → o.2.2 ≤ o.2.1 + 3 := by
  rw [← ExecX.run_wcet]
  exact ExecX.timer_exec_sound_x exCbs _ exSigmaAll exRels 40 0 (by decide) (by decide) hidx hfin
    (wcet_bounds _ (by decide)) (by decide) .dedicated trivial exSigmaAll_sbf exArrs rfl EndToEndExample2Lemmas.hwfArrs EndToEndExample2Lemmas.hrelArrs 2
    (by decide) 100 3 timer_example_bound 60

end RTA.Exec
