import RTA.Lemmas.TimerSound
/-! C04, processing chains (`rta_processing_chain`, Lemma 8 of Casini et al.).

A chain instance is triggered by a source event; its callbacks run one after the other (the
completion of one releases the next); the response time of the chain instance is measured
from the source event to the completion of its LAST callback.

Modelling: every callback instance `k` carries as `s.arr k` the arrival time of the chain
instance (source event) it belongs to — not the (later) time at which the callback itself
becomes ready.  With that reading the executor facts needed are those of `SupplyTimerLegal`
for the last callback `l` with every other callback as interference: non-preemptive; no
idling in a supplied slot while an arrived chain instance is incomplete (one of its callbacks
is ready then); instances of the last callback start in the order of their chain instances.
The analysis is the polling-point analysis for the last callback with the chain prefix and
the other chains as interference. -/

open Finset

namespace RTA.Sched
open RTA RTA.Spec

/-- C04, processing chain: `Ok(R)` of `rta_processing_chain` is never exceeded by the time from
a source event to the completion of the last callback of the chain instance it triggers -/
theorem chain_sound (s : Sys) (σ : ℕ → Bool) (l : ℕ)
    (hl : SupplyTimerLegal s σ l (fun k => k ≠ l))
    (sup : Supply) (hs : sup.WF) (hsbf : ∀ t d, sup.sbf d ≤ service σ t d)
    (a : Arr) (C P : ℕ) (hwf : a.WF) (hex : a.Exact) (hC : 1 ≤ C) (hP : 1 ≤ P)
    (others : RB) (hwfo : others.ArrWF) (hexo : others.Exact)
    (hN : ∀ t d, countOf s l t (t + d) ≤ a.N d)
    (hcost : ∀ k < s.n, s.task k = l → s.cost k ≤ C)
    (hint : ∀ t d, workOf s (fun k => k ≠ l) t (t + d) ≤ (RB.rbf a (.scalar P)).need d + others.need d)
    (limit R : ℕ)
    (hR : rosChain sup (.rbf a (.scalar C)) (.rbf a (.scalar P)) (.rbf a (.scalar (C + P))) others limit = .ok R) :
    ∀ j, j < s.n → s.task j = l → MeetsBound s j R := by
  rw [rosChain_eq_pollingPoint] at hR
  exact pollingPoint_sound s σ l hl sup hs hsbf a C hwf hex hC (.agg [.rbf a (.scalar P), others])
    (by simp only [RB.ArrWF, RB.ArrWFList]; exact ⟨hwf, hwfo, trivial⟩)
    (by simp only [RB.Exact, RB.ExactList]; exact ⟨⟨hex, Cost.scalar_strictPos P hP⟩, hexo, trivial⟩)
    hN hcost (fun t d => by rw [ChainSoundLemmas.need_agg2]; exact hint t d) limit R hR

theorem chain_sound_reservation (s : Sys) (Q D Pd : ℕ) (hQ : 1 ≤ Q) (hQD : Q ≤ D) (hDP : D ≤ Pd)
    (σ : ℕ → Bool) (hσ : Compliant Q D Pd σ) (l : ℕ)
    (hl : SupplyTimerLegal s σ l (fun k => k ≠ l))
    (a : Arr) (C P : ℕ) (hwf : a.WF) (hex : a.Exact) (hC : 1 ≤ C) (hP : 1 ≤ P)
    (others : RB) (hwfo : others.ArrWF) (hexo : others.Exact)
    (hN : ∀ t d, countOf s l t (t + d) ≤ a.N d)
    (hcost : ∀ k < s.n, s.task k = l → s.cost k ≤ C)
    (hint : ∀ t d, workOf s (fun k => k ≠ l) t (t + d) ≤ (RB.rbf a (.scalar P)).need d + others.need d)
    (limit R : ℕ)
    (hR : rosChain (.constrained Q D Pd) (.rbf a (.scalar C)) (.rbf a (.scalar P)) (.rbf a (.scalar (C + P))) others limit = .ok R) :
    ∀ j, j < s.n → s.task j = l → MeetsBound s j R :=
  chain_sound s σ l hl (.constrained Q D Pd) ⟨hQ, hQD, hDP⟩
    (fun t d => cSbf_sound Q D Pd hQ hQD hDP σ hσ t d) a C P hwf hex hC hP others hwfo hexo
    hN hcost hint limit R hR

end RTA.Sched
