import RTA.Lemmas.FpSoundCompliant
import RTA.Lemmas.FpSoundEqExample
/-! Non-vacuity of the task-set level theorems of C01: the concrete system `eqSys` of
`FpSoundEqExample` (two tasks on the same priority level) complies with the task set `eqTs`,
whose interference set for task 0 is the other task. -/

open Finset Classical

namespace RTA.Sched.FpEqExample
open RTA RTA.Spec RTA.Sched RTA.Sched.J

/-- the task set: two periodic tasks with period 10 and WCET 1 -/
def eqTs : List (Arr × Cost) := [(.periodic 10, .scalar 1), (.periodic 10, .scalar 1)]

theorem eqSys_relsOf0 : relsOf eqSys 0 = [0] := by
  simp [relsOf, eqSys, List.range_succ]

theorem eqSys_relsOf1 : relsOf eqSys 1 = [0] := by
  simp [relsOf, eqSys, List.range_succ]

theorem eqSys_costsOf0 : costsOf eqSys 0 = [1] := by
  simp [costsOf, eqSys, List.range_succ]

theorem eqSys_costsOf1 : costsOf eqSys 1 = [1] := by
  simp [costsOf, eqSys, List.range_succ]

theorem runSum_one_le (st m : ℕ) : runSum [1] st m ≤ (Cost.scalar 1).ofJobs m := by
  unfold runSum
  simp only [Cost.ofJobs]
  cases st with
  | zero =>
    cases m with
    | zero => simp
    | succ m => simp
  | succ st => simp

theorem taskCompliant_of (i : ℕ) (hr : relsOf eqSys i = [0]) (hc : costsOf eqSys i = [1]) :
    TaskCompliant eqSys i (.periodic 10) (.scalar 1) := by
  refine { sorted := ?_, adm := ?_, costs := ?_ }
  · rw [hr]; exact List.pairwise_singleton _ _
  · rw [hr]; unfold Admissible; simp [GapsEq]
  · intro st m; rw [hc]; exact runSum_one_le st m

theorem eqSys_compliant : Compliant eqSys eqTs := by
  refine { task_lt := ?_, comp := ?_ }
  · exact fun k hk => hk
  · intro i hi
    have hi2 : i < 2 := hi
    have h01 : i = 0 ∨ i = 1 := by omega
    rcases h01 with rfl | rfl
    · exact taskCompliant_of 0 eqSys_relsOf0 eqSys_costsOf0
    · exact taskCompliant_of 1 eqSys_relsOf1 eqSys_costsOf1

theorem eqSys_hepOthers : hepOthers eqTs eqPr 0 = [tua] := by
  simp [hepOthers, taskRB, eqTs, eqPr, tua, List.range_succ]

theorem eqSys_taskRB : taskRB eqTs 0 = tua := by
  simp [taskRB, eqTs, tua]

theorem eqTs_wf : ∀ p ∈ eqTs, p.1.WF ∧ p.2.WF := by
  intro p hp
  simp only [eqTs, List.mem_cons, List.not_mem_nil, or_false, or_self] at hp
  subst hp
  simp [Arr.WF, Cost.WF]

theorem eqTs_exact : ∀ x, x < eqTs.length → (taskRB eqTs x).Exact := by
  intro x hx
  have hx2 : x < 2 := hx
  have h01 : x = 0 ∨ x = 1 := by omega
  rcases h01 with rfl | rfl
  · rw [eqSys_taskRB]; exact tua_exact
  · have : taskRB eqTs 1 = tua := by simp [taskRB, eqTs, tua]
    rw [this]; exact tua_exact

theorem eqSys_setting : FpEqSetting eqSys eqPr 0 tua [tua] 0 := by
  have h := FpEqSetting.of_compliant eqSys eqTs eqPr 0 (by decide) eqTs_wf eqSys_compliant
    eqSys_legal 0 (fun _ _ h => absurd h (Nat.lt_irrefl 0)) (fun _ _ => le_refl _)
  rwa [eqSys_taskRB, eqSys_hepOthers] at h

/-- `fpe_preemptive_sound` applies, and its bound is attained (`eqSys_attained`): the tie with
the simultaneously released equal-priority job 1 was broken against job 0. -/
theorem eqSys_meets : ∀ j, j < eqSys.n → eqSys.task j = 0 → MeetsBound eqSys j 2 :=
  fpe_preemptive_sound eqSys eqPr 0 tua [tua] eqSys_setting tua_arrWF tua_exact others_ok
    100 2 eqSys_result

end RTA.Sched.FpEqExample
