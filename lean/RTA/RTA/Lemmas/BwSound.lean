import RTA.Lemmas.PollingExec
/-! C05, busy-window-aware analysis (`bw::rta_subchain`, singleton subchains): soundness over
the same schedule-level executor Spec as the rr analysis (`PollingExecLegal`).

Theorem (`bw_singleton_sound`): if for EVERY callback the singleton bw analysis returns `Ok(R)`
with `R` at most the assumed response-time bound of that callback, then every instance of
every callback completes within its assumed bound — every supply process delivering at least
the supply-bound function, every release pattern within the (exact) arrival curves, every
execution time up to the scalar WCET. -/

open Finset

namespace RTA.Sched
open RTA RTA.Spec

namespace BwSoundLemmas
open Classical TimerSoundLemmas RrSoundLemmas

variable {s : Sys} {σ : ℕ → Bool} {E : ExecInfo}
variable {nT : ℕ} {kind : ℕ → CbKind} {N : ℕ → ℕ → ℕ} {C rtb : ℕ → ℕ} {J : ℕ}

/-- `t0` is a quiet time at or before the release of `J`, and every supplied slot between
`t0` and the release of `J` serves a job -/
structure BwCtx (s : Sys) (σ : ℕ → Bool) (J t0 : ℕ) : Prop where
  ht0 : t0 ≤ s.arr J
  quiet : QuietFor s (fun _ => True) t0
  busy : ∀ u, t0 ≤ u → u < s.arr J → σ u = true → ∃ j, s.sched u = some j

theorem exists_t0 (hl : PollingExecLegal s σ E) (J : ℕ) : ∃ t0, BwCtx s σ J t0 := by
  obtain ⟨t0, h1, h2, h3⟩ := exists_last_quiet s (fun _ => True) (s.arr J)
  refine ⟨t0, h1, h2, fun u hu1 hu2 hσ => ?_⟩
  obtain ⟨k, hk, _, hp⟩ := pending_of_not_quiet hl.servesPending _ u
    (h3 (u + 1) (Nat.lt_succ_of_le hu1) hu2)
  exact hl.wc u hσ ⟨k, hk, hp⟩

/-- the instances served after a quiet time `t0` were released at or after `t0` -/
theorem act_released (hl : PollingExecLegal s σ E) (t0 : ℕ) (hq : QuietFor s (fun _ => True) t0)
    (c T K : ℕ)
    (hK : K ∈ ActSet s J c t0 T) : t0 ≤ s.arr K ∧ s.arr K < T := by
  rw [mem_ActSet] at hK
  obtain ⟨hKn, _, _, hlt⟩ := hK
  have hle := hl.servesPending.svc_le_cost K T
  constructor
  · rcases Nat.lt_or_ge (s.arr K) t0 with h | h
    · have := hq K hKn trivial h; omega
    · exact h
  · rcases Nat.lt_or_ge (s.arr K) T with h | h
    · exact h
    · have := hl.servesPending.svc_zero_before K T h; omega

/-- the `arrived` half of the cap -/
theorem act_arrived_bw (A : Ana s σ E nT kind N C) (t0 : ℕ) (hq : QuietFor s (fun _ => True) t0)
    (c S T : ℕ) (hT : T ≤ t0 + S) : (ActSet s J c t0 T).card ≤ N c S :=
  act_card_le A c t0 T t0 T S hT (fun K hK => act_released A.hl t0 hq c T K hK)

/-- instances of callback `c` released at or after `a` that have started before `T` -/
noncomputable def LateSet (s : Sys) (c a T : ℕ) : Finset ℕ :=
  (range s.n).filter (fun K => s.task K = c ∧ a ≤ s.arr K ∧ 0 < svc s K T)

theorem mem_LateSet (c a T K : ℕ) :
    K ∈ LateSet s c a T ↔ (K < s.n ∧ s.task K = c ∧ a ≤ s.arr K ∧ 0 < svc s K T) := by
  unfold LateSet; rw [mem_filter, mem_range]

/-- the instances of a polled callback released at or after `a` start in the windows of the
polling points in `[a, T)`, at most one per window -/
theorem late_le_pp (hl : PollingExecLegal s σ E) (c : ℕ) (hc : E.isTimer c = false) (a : ℕ) :
    ∀ T, (LateSet s c a T).card ≤ (ppIn E a T).card := by
  intro T
  induction T using Nat.strongRecOn with
  | _ T ih =>
    rcases Nat.eq_zero_or_pos (ppIn E a T).card with h0 | hpos
    · rw [h0, Nat.le_zero, card_eq_zero]
      apply eq_empty_of_forall_notMem
      intro K hK
      rw [mem_LateSet] at hK
      obtain ⟨u, hu1, hu2, hst⟩ :=
        start_in K a T (hl.servesPending.svc_zero_before K a hK.2.2.1) hK.2.2.2
      obtain ⟨p, hp, hap⟩ := hl.inWindow u K hst (by rw [hK.2.1]; exact hc)
      have hm : p ∈ ppIn E a T := by
        rw [mem_ppIn]
        exact ⟨by have := hp.2.1; omega, by omega, hp.1⟩
      have := card_pos.2 ⟨p, hm⟩
      omega
    · obtain ⟨q, h1, h2, h3, h4⟩ := ppIn_last a T hpos
      have hsub : LateSet s c a T ⊆ LateSet s c a q ∪ StSet s c q T := by
        intro K hK
        rw [mem_union, mem_LateSet, mem_StSet]
        rw [mem_LateSet] at hK
        rcases Nat.eq_zero_or_pos (svc s K q) with h | h
        · exact Or.inr ⟨hK.1, hK.2.1, h, hK.2.2.2⟩
        · exact Or.inl ⟨hK.1, hK.2.1, hK.2.2.1, h⟩
      have ha := card_le_card hsub
      have hb := card_union_le (LateSet s c a q) (StSet s c q T)
      have hc1 := ih q h2
      have hc2 := one_per_window hl c q T hc h4
      have hc3 := ppIn_card_succ (E := E) a q T h1 h2 h3
      omega

/-- polled callbacks: released before `J` inside the busy window, or started in the
window of one of the polling points that `J` waits through -/
theorem act_polled_bw (A : Ana s σ E nT kind N C) (jc : JobCtx s rtb J) (t0 : ℕ)
    (bw : BwCtx s σ J t0) (c T : ℕ) (hc : E.isTimer c = false) (hT0 : svc s J T = 0) :
    (ActSet s J c t0 T).card ≤ N c (s.arr J - t0) + N (s.task J) (rtb (s.task J)) := by
  have hl := A.hl
  have hsub : ActSet s J c t0 T ⊆
      ((range s.n).filter (fun k => s.task k = c ∧ t0 ≤ s.arr k ∧ s.arr k < s.arr J)) ∪
        LateSet s c (s.arr J) T := by
    intro K hK
    have h := act_released hl t0 bw.quiet c T K hK
    rw [mem_ActSet] at hK
    rw [mem_union, mem_filter, mem_range, mem_LateSet]
    rcases Nat.lt_or_ge (s.arr K) (s.arr J) with h' | h'
    · exact Or.inl ⟨hK.1, hK.2.2.1, h.1, h'⟩
    · exact Or.inr ⟨hK.1, hK.2.2.1, h', by omega⟩
  have h1 := card_le_card hsub
  have h2 := card_union_le
    ((range s.n).filter (fun k => s.task k = c ∧ t0 ≤ s.arr k ∧ s.arr k < s.arr J))
    (LateSet s c (s.arr J) T)
  have h3 : ((range s.n).filter (fun k => s.task k = c ∧ t0 ≤ s.arr k ∧ s.arr k < s.arr J)).card
      ≤ N c (s.arr J - t0) :=
    countOf_window A c t0 (s.arr J) (s.arr J - t0) (by omega)
  have h4 : (LateSet s c (s.arr J) T).card ≤ N (s.task J) (rtb (s.task J)) := by
    cases hti : E.isTimer (s.task J) with
    | true =>
      have : LateSet s c (s.arr J) T = ∅ := by
        apply eq_empty_of_forall_notMem
        intro K hK
        rw [mem_LateSet] at hK
        obtain ⟨u, hu1, hu2, hst⟩ :=
          start_in K (s.arr J) T (hl.servesPending.svc_zero_before K _ hK.2.2.1) hK.2.2.2
        have hJu : svc s J u = 0 := by
          have := svc_mono (s := s) J (show u ≤ T by omega); omega
        have hcJ := (A.hcost J jc.hJ).1
        exact hl.timersFirst u K hst (by rw [hK.2.1]; exact hc) J jc.hJ hti ⟨hu1, by omega⟩
      rw [this, card_empty]
      exact Nat.zero_le _
    | false =>
      have hp := late_le_pp hl c hc (s.arr J) T
      rcases Nat.le_total (s.arr J) T with h | h
      · have := pp_le_starts hl jc.hJ hti T h hT0
        have := own_window A jc T hT0
        omega
      · have : (ppIn E (s.arr J) T).card = 0 := by
          rw [card_eq_zero]
          apply eq_empty_of_forall_notMem
          intro v hv
          rw [mem_ppIn] at hv
          omega
        omega
  omega

/-- own callback: only instances released in the busy window up to the release of `J` -/
theorem act_own_bw (A : Ana s σ E nT kind N C) (jc : JobCtx s rtb J) (t0 : ℕ)
    (bw : BwCtx s σ J t0) (T : ℕ) (hT0 : svc s J T = 0) :
    (ActSet s J (s.task J) t0 T).card + 1 ≤ N (s.task J) (s.arr J - t0 + 1) := by
  have ht0 := bw.ht0
  refine act_own_card_le A jc.hJ t0 T t0 (s.arr J + 1) _ (by omega) ⟨ht0, Nat.lt_succ_self _⟩
    (fun K hK => ?_)
  have h := act_released A.hl t0 bw.quiet _ T K hK
  rw [mem_ActSet] at hK
  refine ⟨h.1, Nat.lt_succ_of_le (Nat.le_of_not_lt (fun h' => ?_))⟩
  -- an instance released after `J` is not started while `J` is unstarted
  obtain ⟨u, hu, hsch, hz⟩ := exists_start (s := s) K T (by omega)
  have hv := (A.hl.valid u K hsch).2.1
  have hJu : svc s J u = 0 := by
    have := svc_mono (s := s) J (show u ≤ T by omega); omega
  have hcJ := (A.hcost J jc.hJ).1
  have := A.hl.fifo u K ⟨hsch, hz⟩ J jc.hJ hK.2.2.1.symm
    ⟨by have := hv.1; omega, by omega⟩ hJu
  omega

theorem le_cappedJobs (k k' : CbKind) (x a cap : ℕ) (h1 : x ≤ a) (h2 : x ≤ cap) :
    x ≤ cappedJobs k k' a cap := by
  unfold cappedJobs
  cases k with
  | timer => exact h1
  | eventSource => exact h1
  | polledUnknown => exact Nat.le_min.2 ⟨h1, by omega⟩
  | polled p =>
    cases k' <;> simp only [] <;> refine Nat.le_min.2 ⟨h1, ?_⟩ <;> omega

/-- the cap of the analysis on the interfering instances of callback `c` -/
theorem act_cap_bw (A : Ana s σ E nT kind N C) (jc : JobCtx s rtb J) (t0 : ℕ)
    (bw : BwCtx s σ J t0) (c S T : ℕ) (hc : c < nT) (hTS : T ≤ t0 + S)
    (hT0 : svc s J T = 0) :
    (ActSet s J c t0 T).card ≤
      cappedJobs (kind c) (kind (s.task J)) (N c S)
        (N c (s.arr J - t0) + N (s.task J) (rtb (s.task J))) := by
  have harr := act_arrived_bw (J := J) A t0 bw.quiet c S T hTS
  have hkc := A.hkinds c hc
  cases hk : kind c with
  | timer => exact harr
  | eventSource => rw [hk] at hkc; exact hkc.elim
  | polledUnknown =>
    rw [hk] at hkc
    exact le_cappedJobs _ _ _ _ _ harr (act_polled_bw A jc t0 bw c T hkc hT0)
  | polled p =>
    rw [hk] at hkc
    have hkc' : E.isTimer c = false ∧ E.prio c = p := hkc
    exact le_cappedJobs _ _ _ _ _ harr (act_polled_bw A jc t0 bw c T hkc'.1 hT0)

/-- the interference term of the bw analysis for callback `i`, activation offset `act`, at `S` -/
noncomputable def bwI (nT : ℕ) (kind : ℕ → CbKind) (N : ℕ → ℕ → ℕ) (C rtb : ℕ → ℕ)
    (i S act : ℕ) : ℕ :=
  ∑ c ∈ range nT, if c = i then C c * (N c (act + 1) - 1)
    else C c * cappedJobs (kind c) (kind i) (N c S) (N c act + N i (rtb i))

/-- while `J` is unstarted, the other jobs receive at most the interference term of the
analysis inside the busy window -/
theorem others_bound_bw (A : Ana s σ E nT kind N C) (jc : JobCtx s rtb J) (t0 : ℕ)
    (bw : BwCtx s σ J t0) (S T : ℕ) (hT : t0 ≤ T) (hTS : T ≤ t0 + S) (hT0 : svc s J T = 0) :
    sv s (fun K => K ≠ J) T ≤
      sv s (fun K => K ≠ J) t0 + bwI nT kind N C rtb (s.task J) S (s.arr J - t0) := by
  refine Nat.le_trans (sv_diff_le A t0 T hT) ?_
  apply Nat.add_le_add_left
  unfold bwI
  apply sum_le_sum
  intro c hc
  have hcn := mem_range.1 hc
  by_cases hci : c = s.task J
  · rw [if_pos hci]
    apply Nat.mul_le_mul_left
    have := act_own_bw A jc t0 bw T hT0
    rw [hci]
    omega
  · rw [if_neg hci]
    apply Nat.mul_le_mul_left
    exact act_cap_bw A jc t0 bw c S T hcn hTS hT0

/-- the activation offset of `J` in its busy window is below the busy-window bound -/
theorem busy_lt (A : Ana s σ E nT kind N C) (t0 : ℕ) (bw : BwCtx s σ J t0) (sbf : ℕ → ℕ)
    (hsbf : ∀ t d, sbf d ≤ service σ t d) (L : ℕ)
    (hL : 1 + ∑ c ∈ range nT, C c * N c L ≤ sbf L) : s.arr J - t0 < L := by
  rcases Nat.lt_or_ge (s.arr J - t0) L with h | h
  · exact h
  · exfalso
    have ht0 := bw.ht0
    have hb := sv_supply (s := s) (σ := σ) (fun K => K ≠ J) t0 L (by
      intro u h1 h2 h3
      obtain ⟨j', hj'⟩ := bw.busy u h1 (by omega) h3
      have hv := A.hl.valid u j' hj'
      refine ⟨j', hj', hv.1, ?_⟩
      intro e
      rw [e] at hv
      have := hv.2.1.1
      omega)
    have hd := sv_diff_le (J := J) A t0 (t0 + L) (by omega)
    have hs : ∑ c ∈ range nT, C c * (ActSet s J c t0 (t0 + L)).card ≤
        ∑ c ∈ range nT, C c * N c L :=
      sum_le_sum (fun c _ => Nat.mul_le_mul_left _
        (act_arrived_bw A t0 bw.quiet c L (t0 + L) (le_refl _)))
    have := hsbf t0 L
    omega

theorem job_done_bw (A : Ana s σ E nT kind N C) (jc : JobCtx s rtb J) (t0 : ℕ)
    (bw : BwCtx s σ J t0) (sbf : ℕ → ℕ) (hsbf : ∀ t d, sbf d ≤ service σ t d) (S f : ℕ)
    (hW : 1 + bwI nT kind N C rtb (s.task J) S (s.arr J - t0) ≤ sbf S)
    (hR : sbf S - 1 + C (s.task J) ≤ sbf f) : svc s J (t0 + f) = s.cost J :=
  window_job_done A.hl sbf hsbf J t0 S f _ _ jc.hJ (A.hcost J jc.hJ).2
    (A.hl.servesPending.svc_zero_before J _ bw.ht0)
    (fun u h1 h2 h3 => (Nat.lt_or_ge u (s.arr J)).elim (fun h => bw.busy u h1 h h2)
      (fun h => A.hl.wc u h2 ⟨J, jc.hJ, h, h3⟩))
    (fun T h1 h2 h3 => others_bound_bw A jc t0 bw S T h1 h2 h3) hW hR

theorem all_done_bw (A : Ana s σ E nT kind N C) (sbf : ℕ → ℕ)
    (hsbf : ∀ t d, sbf d ≤ service σ t d)
    (hana : ∀ i, i < nT → 0 < N i 1 → 1 ≤ C i → 1 ≤ rtb i ∧
      ∃ L, 1 + ∑ c ∈ range nT, C c * N c L ≤ sbf L ∧
        ∀ act, act < L → ∃ S f, 1 + bwI nT kind N C rtb i S act ≤ sbf S ∧
          sbf S - 1 + C i ≤ sbf f ∧ f ≤ act + rtb i) :
    ∀ j, j < s.n → svc s j (s.arr j + rtb (s.task j)) = s.cost j := by
  refine all_done_of A.hl.servesPending rtb (fun j hj jc => ?_)
  have hcj := A.hcost j hj
  have hpos : 0 < N (s.task j) 1 :=
    Nat.lt_of_lt_of_le
      (countOf_pos s (s.task j) (s.arr j) (s.arr j + 1) j hj rfl (le_refl _) (Nat.lt_succ_self _))
      (A.hN (s.task j) (s.arr j) 1)
  obtain ⟨hrtb, L, hL, hact⟩ := hana (s.task j) (A.htask j hj) hpos (by omega)
  obtain ⟨t0, bw⟩ := exists_t0 A.hl j
  have ht0 := bw.ht0
  obtain ⟨S, f, hW, hR, hf⟩ := hact (s.arr j - t0) (busy_lt A t0 bw sbf hsbf L hL)
  exact A.hl.servesPending.done_mono j (by omega)
    (job_done_bw A (jc hrtb) t0 bw sbf hsbf S f hW hR)

theorem cappedJobs_self (k k' : CbKind) (a n : ℕ) : cappedJobs k k' a (a + n) = a := by
  unfold cappedJobs
  cases k with
  | timer => rfl
  | eventSource => rfl
  | polledUnknown => exact Nat.min_eq_left (by omega)
  | polled p => cases k' <;> simp only [] <;> apply Nat.min_eq_left <;> omega

theorem bwInterference_sum (wl : List Callback) (C : ℕ → ℕ)
    (hscalar : ∀ i, i < wl.length → (wl.getD i default).cost = .scalar (C i))
    (i : ℕ) (k : CbKind) (npp S act : ℕ) :
    bwInterference wl i k npp S act = ∑ c ∈ range wl.length, if c = i then 0 else
      C c * cappedJobs (wl.getD c default).kind k ((wl.getD c default).arr.N S)
        ((wl.getD c default).arr.N act + npp) := by
  unfold bwInterference
  rw [sumList_range]
  refine sum_congr rfl (fun c hc => ?_)
  by_cases hci : c = i
  · rw [if_pos hci, if_pos hci]
  · rw [if_neg hci, if_neg hci]
    unfold Callback.bwRbf
    simp only []
    rw [hscalar c (mem_range.1 hc)]
    rfl

theorem naiveBw_ok_inv (sup : Supply) (wl : List Callback) (i limit R : ℕ)
    (h : naiveBw sup wl [i] limit = .ok R) :
    ∃ L, naiveSolveSup sup.sbf 0 (fun ta => 1 + bwInterference wl i (wl.getD i default).kind
        (sumPPBound wl [i]) ta ta + (wl.getD i default).cost.ofJobs ((wl.getD i default).arr.N ta))
        limit = .ok L ∧
      ∀ act, act < L → ∃ v, naiveBwPer sup wl i (sumPPBound wl [i]) true limit act = .ok v ∧ v ≤ R := by
  unfold naiveBw at h
  simp only [List.getLast?_singleton] at h
  split at h
  · rename_i L hL
    refine ⟨L, hL, ?_⟩
    intro act hact
    have := (PruneCoreLemmas.naiveMax_ok_elim _ R h).1
      (naiveBwPer sup wl i (sumPPBound wl [i]) true limit act)
      (List.mem_map.2 ⟨act, List.mem_range.2 hact, by simp⟩)
    exact this
  · rename_i hne
    exact absurd h (hne R)

theorem naiveBwPer_ok_inv (sup : Supply) (wl : List Callback) (i npp limit act v : ℕ)
    (h : naiveBwPer sup wl i npp true limit act = .ok v) :
    ∃ S, naiveSolveSup sup.sbf 0 (fun sStar => 1 + bwInterference wl i (wl.getD i default).kind
        npp sStar act + (wl.getD i default).cost.ofJobs ((wl.getD i default).bwSelfInstances act))
        limit = .ok S ∧
      v = naiveSt sup ((sup.sbf S - 1) +
        ((wl.getD i default).cost.ofJobs ((wl.getD i default).bwSelfInstances act + 1) -
          (wl.getD i default).cost.ofJobs ((wl.getD i default).bwSelfInstances act))) - act := by
  unfold naiveBwPer at h
  simp only [] at h
  split at h
  · rename_i S hS
    refine ⟨S, hS, ?_⟩
    injection h with h
    simpa using h.symm
  · rename_i hne
    exact absurd h (hne v)

/-- what `bw::rta_subchain = Ok(R)` provides for a singleton subchain: a busy-window bound `L`
and, for every activation offset below it, a start bound `S` and a completion bound `f` -/
theorem bw_extract (sup : Supply) (hs : sup.WF) (wl : List Callback) (C : ℕ → ℕ)
    (hscalar : ∀ i, i < wl.length → (wl.getD i default).cost = .scalar (C i))
    (hwf : ∀ cb ∈ wl, cb.arr.WF ∧ cb.arr.Exact) (i : ℕ) (hi : i < wl.length) (hCi : 1 ≤ C i)
    (hpos : 0 < (wl.getD i default).arr.N 1) (limit R : ℕ) (dbg : Bool)
    (h : bwSubchain sup wl [i] limit dbg = .ok R) :
    1 ≤ R ∧ ∃ L, 1 + ∑ c ∈ range wl.length, C c * (wl.getD c default).arr.N L ≤ sup.sbf L ∧
      ∀ act, act < L → ∃ S f,
        1 + bwI wl.length (fun c => (wl.getD c default).kind)
          (fun c d => (wl.getD c default).arr.N d) C (fun c => (wl.getD c default).rtb) i S act
            ≤ sup.sbf S ∧
        sup.sbf S - 1 + C i ≤ sup.sbf f ∧ f ≤ act + R := by
  have hlim : 1 ≤ limit := by
    rcases Nat.eq_zero_or_pos limit with h0 | h'
    · subst h0
      exfalso
      unfold bwSubchain at h
      simp [hi, search, searchWithOffset_limit_zero] at h
    · exact h'
  rw [bw_eq_naive sup hs wl [i] limit hlim (by simp) (by simpa using hi)
    (fun cb hcb => ⟨(hwf cb hcb).1, (hwf cb hcb).2, monoN_of_scalar wl C hscalar cb hcb⟩)
    (by simpa using hpos) dbg] at h
  obtain ⟨L, hL, hper⟩ := naiveBw_ok_inv sup wl i limit R h
  rw [sumPPBound_singleton] at hL hper
  -- the per-offset facts
  have hoff : ∀ act, act < L → ∃ S f,
      1 + bwI wl.length (fun c => (wl.getD c default).kind)
        (fun c d => (wl.getD c default).arr.N d) C (fun c => (wl.getD c default).rtb) i S act
          ≤ sup.sbf S ∧
      sup.sbf S - 1 + C i ≤ sup.sbf f ∧ f ≤ act + R := by
    intro act hact
    obtain ⟨v, hv, hvR⟩ := hper act hact
    obtain ⟨S, hS, hvf⟩ := naiveBwPer_ok_inv sup wl i _ limit act v hv
    have hrhs : ∀ x, 1 + bwInterference wl i (wl.getD i default).kind
          ((wl.getD i default).arr.N (wl.getD i default).rtb) x act +
          (wl.getD i default).cost.ofJobs ((wl.getD i default).bwSelfInstances act) =
        1 + bwI wl.length (fun c => (wl.getD c default).kind)
          (fun c d => (wl.getD c default).arr.N d) C (fun c => (wl.getD c default).rtb) i x act := by
      intro x
      rw [bwInterference_sum wl C hscalar, hscalar i hi, Nat.add_assoc, sum_ite_split _ _ hi]
      unfold bwI
      congr 1
      refine sum_congr rfl (fun c _ => ?_)
      by_cases hci : c = i
      · rw [if_pos hci, if_pos hci, hci]
        rfl
      · rw [if_neg hci, if_neg hci]
    obtain ⟨_, hS'⟩ := SupplyFifoLemmas.nss_ok_pos sup hs _ limit S
      (by rw [hrhs]; exact Nat.le_add_right _ _) hS
    rw [hrhs] at hS'
    rw [hscalar i hi, scalar_ofJobs_succ_sub] at hvf
    refine ⟨S, naiveSt sup (sup.sbf S - 1 + C i), hS', ?_, by omega⟩
    exact (Supply.galois sup hs (sup.sbf S - 1 + C i) (naiveSt sup (sup.sbf S - 1 + C i))).1
      (le_of_eq (RosNaiveLemmas.naiveSt_eq sup hs (sup.sbf S - 1 + C i)).symm)
  have hrhs : ∀ x, 1 + bwInterference wl i (wl.getD i default).kind
        ((wl.getD i default).arr.N (wl.getD i default).rtb) x x +
        (wl.getD i default).cost.ofJobs ((wl.getD i default).arr.N x) =
      1 + ∑ c ∈ range wl.length, C c * (wl.getD c default).arr.N x := by
    intro x
    rw [bwInterference_sum wl C hscalar, hscalar i hi, Nat.add_assoc, sum_ite_split _ _ hi]
    congr 1
    refine sum_congr rfl (fun c _ => ?_)
    by_cases hci : c = i
    · rw [if_pos hci, hci]
      rfl
    · rw [if_neg hci, cappedJobs_self]
  obtain ⟨hLpos, hL'⟩ := SupplyFifoLemmas.nss_ok_pos sup hs _ limit L
    (by rw [hrhs]; exact Nat.le_add_right _ _) hL
  rw [hrhs] at hL'
  refine ⟨?_, L, hL', hoff⟩
  -- the offset 0 is below `L`, and its result is positive
  obtain ⟨S, f, h1, h2, h3⟩ := hoff 0 hLpos
  rcases Nat.eq_zero_or_pos f with rfl | hp
  · rw [Supply.sbf_zero sup hs] at h2
    omega
  · omega

end BwSoundLemmas

theorem bw_singleton_sound (s : Sys) (σ : ℕ → Bool) (E : ExecInfo) (hl : PollingExecLegal s σ E)
    (sup : Supply) (hs : sup.WF) (hsbf : ∀ t d, sup.sbf d ≤ service σ t d)
    (wl : List Callback) (C : ℕ → ℕ)
    (hscalar : ∀ i, i < wl.length → (wl.getD i default).cost = .scalar (C i))
    (hwf : ∀ cb ∈ wl, cb.arr.WF ∧ cb.arr.Exact)
    (htask : ∀ k, k < s.n → s.task k < wl.length)
    (hkinds : KindsAgree wl E)
    (hprio : ∀ i j, i < wl.length → j < wl.length → E.isTimer i = false → E.isTimer j = false →
      E.prio i = E.prio j → i = j)
    (hN : ∀ i t d, countOf s i t (t + d) ≤ (wl.getD i default).arr.N d)
    (hcost : ∀ k, k < s.n → 1 ≤ s.cost k ∧ s.cost k ≤ C (s.task k))
    (limit : ℕ) (dbg : Bool)
    (hself : ∀ i, i < wl.length → ∃ R, bwSubchain sup wl [i] limit dbg = .ok R ∧ R ≤ (wl.getD i default).rtb) :
    ∀ j, j < s.n → MeetsBound s j (wl.getD (s.task j) default).rtb := by
  intro j hj
  have A := RrSoundLemmas.ana_of_workload hl wl C (fun cb h => (hwf cb h).1) htask hkinds hprio hN
    hcost
  exact BwSoundLemmas.all_done_bw (rtb := fun c => (wl.getD c default).rtb) A sup.sbf hsbf (by
      intro i hi hpos hCi
      obtain ⟨R, hR, hle⟩ := hself i hi
      obtain ⟨h1, L, hL, hoff⟩ :=
        BwSoundLemmas.bw_extract sup hs wl C hscalar hwf i hi hCi hpos limit R dbg hR
      refine ⟨by omega, L, hL, ?_⟩
      intro act hact
      obtain ⟨S, f, h2, h3, h4⟩ := hoff act hact
      exact ⟨S, f, h2, h3, by omega⟩) j hj

end RTA.Sched
