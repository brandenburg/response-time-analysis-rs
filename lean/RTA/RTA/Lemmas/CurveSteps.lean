import RTA.Lemmas.CurveN
/-! `Curve::steps_iter` enumerates exactly the increase points of `Curve::number_arrivals`
for every well-formed delta-min vector, vectors that end in a plateau included
(`number_arrivals` splits `delta` into whole periods and a remainder in `1 ..= last`). (C11) -/

namespace RTA

/-- "no plateau at the end": the largest distance is 1, or `last - 1` occurs in the vector,
or the largest distance occurs only once.  No theorem needs it: `curve_steps_spec` holds for
every well-formed vector. -/
def curveExact (d : List Nat) : Prop :=
  d.getLastD 0 = 1 ∨ (d.getLastD 0 - 1) ∈ d ∨ d.count (d.getLastD 0) = 1

instance (d : List Nat) : Decidable (curveExact d) := by unfold curveExact; infer_instance

namespace CurveSteps

/-- `curveDiffs` with an arbitrary predecessor `p` of the first entry: the form the inductions over `d` need -/
def diffsFrom (p : Nat) (d : List Nat) : List Nat :=
  (List.zipWith (fun a b => b - a) (p :: d) d).filter (· ≠ 0)

theorem curveDiffs_eq (d : List Nat) : curveDiffs d = diffsFrom 0 d := rfl

theorem diffsFrom_nil (p : Nat) : diffsFrom p [] = [] := rfl

theorem diffsFrom_cons (p x : Nat) (xs : List Nat) :
    diffsFrom p (x :: xs) = if x - p ≠ 0 then (x - p) :: diffsFrom x xs else diffsFrom x xs := by
  simp [diffsFrom, List.filter_cons]

def psum (l : List Nat) (k : Nat) : Nat := sumList (l.take k)

theorem psum_zero (l : List Nat) : psum l 0 = 0 := by simp [psum, sumList]

theorem psum_nil (k : Nat) : psum [] k = 0 := by simp [psum, sumList]

theorem psum_cons_succ (a : Nat) (l : List Nat) (k : Nat) :
    psum (a :: l) (k + 1) = a + psum l k := by simp [psum, sumList]

theorem psum_ge (l : List Nat) (k : Nat) (h : l.length ≤ k) : psum l k = sumList l := by
  simp [psum, List.take_of_length_le h]

theorem psum_succ (l : List Nat) : ∀ k, k < l.length → psum l (k + 1) = psum l k + l.getD k 0 := by
  induction l with
  | nil => intro k hk; simp at hk
  | cons a l ih =>
    intro k hk
    cases k with
    | zero => simp [psum_cons_succ, psum_zero]
    | succ k =>
      rw [psum_cons_succ, psum_cons_succ, ih k (by simpa using hk)]
      simp [Nat.add_assoc]

theorem psum_lt (l : List Nat) (hpos : ∀ x ∈ l, 0 < x) :
    ∀ k, k < l.length → psum l k < sumList l := by
  induction l with
  | nil => intro k hk; simp at hk
  | cons a l ih =>
    intro k hk
    have ha := hpos a (by simp)
    cases k with
    | zero => rw [psum_zero]; simp only [sumList]; omega
    | succ k =>
      rw [psum_cons_succ]
      have := ih (fun x hx => hpos x (by simp [hx])) k (by simpa using hk)
      simp only [sumList]; omega

theorem diffsFrom_pos (d : List Nat) : ∀ p, ∀ x ∈ diffsFrom p d, 0 < x := by
  intro p x hx
  simp only [diffsFrom, List.mem_filter] at hx
  have := hx.2
  simp at this
  omega

theorem diffsFrom_sum (d : List Nat) : ∀ p, (p :: d).Pairwise (· ≤ ·) →
    p + sumList (diffsFrom p d) = d.getLastD p := by
  induction d with
  | nil => intro p _; simp [diffsFrom_nil, sumList]
  | cons x xs ih =>
    intro p hp
    rw [List.pairwise_cons] at hp
    have hpx := hp.1 x (by simp)
    have := ih x hp.2
    rw [diffsFrom_cons, List.getLastD_cons]
    split
    · simp only [sumList]; omega
    · omega

theorem diffsFrom_psum_mem (d : List Nat) : ∀ p, (p :: d).Pairwise (· ≤ ·) →
    ∀ k, p + psum (diffsFrom p d) k = p ∨ p + psum (diffsFrom p d) k ∈ d := by
  induction d with
  | nil => intro p _ k; simp [diffsFrom_nil, psum_nil]
  | cons x xs ih =>
    intro p hp k
    rw [List.pairwise_cons] at hp
    have hpx := hp.1 x (by simp)
    rw [diffsFrom_cons]
    split
    · cases k with
      | zero => simp [psum_zero]
      | succ k =>
        rw [psum_cons_succ]
        have e : p + (x - p + psum (diffsFrom x xs) k) = x + psum (diffsFrom x xs) k := by omega
        rw [e]
        rcases ih x hp.2 k with h | h
        · rw [h]; simp
        · right; simp [h]
    · have e : p = x := by omega
      subst e
      rcases ih p hp.2 k with h | h
      · left; exact h
      · right; simp [h]

theorem diffsFrom_mem_psum (d : List Nat) : ∀ p, (p :: d).Pairwise (· ≤ ·) →
    ∀ v ∈ d, ∃ k, p + psum (diffsFrom p d) k = v := by
  induction d with
  | nil => intro p _ v hv; simp at hv
  | cons x xs ih =>
    intro p hp v hv
    rw [List.pairwise_cons] at hp
    have hpx := hp.1 x (by simp)
    rw [diffsFrom_cons]
    rw [List.mem_cons] at hv
    split
    · rcases hv with rfl | hv
      · exact ⟨1, by rw [psum_cons_succ, psum_zero]; omega⟩
      · obtain ⟨k, hk⟩ := ih x hp.2 v hv
        exact ⟨k + 1, by rw [psum_cons_succ]; omega⟩
    · have e : p = x := by omega
      subst e
      rcases hv with rfl | hv
      · exact ⟨0, by rw [psum_zero]; omega⟩
      · exact ih p hp.2 v hv

/-- the `j`-th value yielded by `curveStepsAux D` started in `(1, 0)` -/
def stepVal (D : List Nat) (j : Nat) : Nat :=
  1 + (j / D.length) * sumList D + psum D (j % D.length)

theorem stepVal_zero (D : List Nat) : stepVal D 0 = 1 := by
  simp [stepVal, psum_zero]

theorem stepVal_succ (D : List Nat) (hne : D ≠ []) (j : Nat) :
    stepVal D (j + 1) = stepVal D j + D.getD (j % D.length) 0 := by
  have hn : 0 < D.length := List.length_pos_iff.2 hne
  have hr := Nat.mod_lt j hn
  have hj := Nat.div_add_mod j D.length
  unfold stepVal
  by_cases h : j % D.length + 1 < D.length
  · have := (Nat.div_mod_unique (a := j + 1) (d := j / D.length) (c := j % D.length + 1) hn).2
      ⟨by omega, h⟩
    rw [this.1, this.2, psum_succ D _ hr]
    omega
  · have hmul : D.length * (j / D.length + 1) = D.length * (j / D.length) + D.length :=
      Nat.mul_succ _ _
    have := (Nat.div_mod_unique (a := j + 1) (d := j / D.length + 1) (c := 0) hn).2
      ⟨by omega, hn⟩
    rw [this.1, this.2, psum_zero]
    have e : j % D.length + 1 = D.length := by omega
    have h1 := psum_succ D _ hr
    rw [e, psum_ge D _ (Nat.le_refl _)] at h1
    rw [Nat.succ_mul]
    omega

theorem stepVal_add_le (D : List Nat) (hne : D ≠ []) (hpos : ∀ x ∈ D, 0 < x) (j i : Nat) :
    stepVal D j + i ≤ stepVal D (j + i) := by
  have hn : 0 < D.length := List.length_pos_iff.2 hne
  induction i with
  | zero => exact Nat.le_refl _
  | succ i ih =>
    have := stepVal_succ D hne (j + i)
    have := hpos _ (getD_mem_of_lt D (Nat.mod_lt (j + i) hn))
    rw [← Nat.add_assoc j i 1]
    omega

theorem mem_curveStepsAux (D : List Nat) (hne : D ≠ []) (hpos : ∀ x ∈ D, 0 < x) (H x : Nat) :
    ∀ fuel j, x ∈ curveStepsAux D H fuel (stepVal D j) (j % D.length) ↔
      ∃ i, i < fuel ∧ x = stepVal D (j + i) ∧ x ≤ H := by
  intro fuel
  induction fuel with
  | zero => intro j; simp [curveStepsAux]
  | succ fuel ih =>
    intro j
    rw [curveStepsAux]
    split
    · rename_i hle
      rw [List.mem_cons, ← stepVal_succ D hne j, Nat.mod_add_mod, ih (j + 1)]
      constructor
      · rintro (rfl | ⟨i, hi, hx, hxH⟩)
        · exact ⟨0, by omega, rfl, hle⟩
        · exact ⟨i + 1, by omega, by rw [hx]; congr 1; omega, hxH⟩
      · rintro ⟨i, hi, hx, hxH⟩
        cases i with
        | zero => left; exact hx
        | succ i => right; exact ⟨i, by omega, by rw [hx]; congr 1; omega, hxH⟩
    · rename_i hle
      simp only [List.not_mem_nil, false_iff]
      rintro ⟨i, hi, hx, hxH⟩
      have := stepVal_add_le D hne hpos j i
      omega

theorem curveStepsAux_strict (D : List Nat) (hne : D ≠ []) (hpos : ∀ x ∈ D, 0 < x) (H : Nat) :
    ∀ fuel j, (curveStepsAux D H fuel (stepVal D j) (j % D.length)).Pairwise (· < ·) := by
  intro fuel
  induction fuel with
  | zero => intro j; simp [curveStepsAux]
  | succ fuel ih =>
    intro j
    rw [curveStepsAux]
    split
    · rw [← stepVal_succ D hne j, Nat.mod_add_mod, List.pairwise_cons]
      refine ⟨fun z hz => ?_, ih (j + 1)⟩
      rw [mem_curveStepsAux D hne hpos H z] at hz
      obtain ⟨i, _, hz, _⟩ := hz
      have := stepVal_add_le D hne hpos j (1 + i)
      have e : j + (1 + i) = j + 1 + i := by omega
      rw [e] at this
      omega
    · exact List.Pairwise.nil

theorem curveSteps_eq (d : List Nat) (H : Nat) :
    curveSteps d H = curveStepsAux (curveDiffs d) H (H + 1) (stepVal (curveDiffs d) 0)
      (0 % (curveDiffs d).length) := by
  rw [stepVal_zero, Nat.zero_mod]; rfl

theorem zero_cons_sorted (d : List Nat) (hwf : curveWF d) : (0 :: d).Pairwise (· ≤ ·) :=
  List.pairwise_cons.2 ⟨fun _ _ => Nat.zero_le _, hwf.2.1⟩

theorem countLt_nil' (x : Nat) : countLt [] x = 0 := rfl

theorem countLt_all (d : List Nat) (x : Nat) (h : ∀ v ∈ d, v < x) : countLt d x = d.length := by
  induction d with
  | nil => rfl
  | cons a d ih =>
    rw [countLt_cons, ih (fun v hv => h v (by simp [hv])), if_pos (h a (by simp))]
    simp; omega

theorem sorted_le_getLastD (d : List Nat) : ∀ p, d.Pairwise (· ≤ ·) → ∀ v ∈ d, v ≤ d.getLastD p := by
  induction d with
  | nil => intro p _ v hv; simp at hv
  | cons x xs ih =>
    intro p hs v hv
    rw [List.pairwise_cons] at hs
    rw [List.getLastD_cons]
    rw [List.mem_cons] at hv
    cases xs with
    | nil =>
      rcases hv with rfl | hv
      · simp
      · simp at hv
    | cons y ys =>
      have hl := ih x hs.2
      rcases hv with rfl | hv
      · have h1 := hs.1 y (by simp)
        have h2 := hl y (by simp)
        omega
      · exact hl v hv

theorem getLastD_mem (d : List Nat) (hne : d ≠ []) (p : Nat) : d.getLastD p ∈ d := by
  induction d generalizing p with
  | nil => exact absurd rfl hne
  | cons x xs ih =>
    rw [List.getLastD_cons]
    cases xs with
    | nil => simp
    | cons y ys => exact List.mem_cons_of_mem _ (ih (by simp) x)

theorem exists_div_mod_iff (L : Nat) (hL : 0 < L) (P : Nat → Prop) (δ : Nat) (hδ : 1 ≤ δ) :
    (∃ c v, δ = 1 + c * L + v ∧ v < L ∧ P v) ↔ P ((δ - 1) % L) := by
  constructor
  · rintro ⟨c, v, hx, hv, hP⟩
    have : δ - 1 = L * c + v := by rw [Nat.mul_comm]; omega
    rw [this, Nat.mul_add_mod, Nat.mod_eq_of_lt hv]
    exact hP
  · intro h
    refine ⟨(δ - 1) / L, (δ - 1) % L, ?_, Nat.mod_lt _ hL, h⟩
    have := Nat.div_add_mod (δ - 1) L
    rw [Nat.mul_comm]; omega

theorem curveN_increase_aux (d : List Nat) (hwf : curveWF d) (L : Nat) (hLd : d.getLastD 0 = L)
    (q v : Nat) (hr : v < L) :
    curveN d (q * L + v) < curveN d (q * L + v + 1) ↔ (v = 0 ∨ v ∈ d) := by
  have hL : 1 ≤ L := hLd ▸ hwf.2.2
  have hclosed : ∀ c t, 1 ≤ t → t ≤ L →
      curveN d (c * L + t) = c * d.length + (1 + countLt d t) := by
    intro c t ht1 ht
    have := curveN_closed d hwf c t ht1 (by rw [hLd]; exact ht)
    rw [hLd] at this
    exact this
  have hN2 := hclosed q (v + 1) (by omega) (by omega)
  rw [Nat.add_assoc, hN2, countLt_succ]
  by_cases hv0 : v = 0
  · subst hv0
    simp only [Nat.add_zero, true_or, iff_true]
    cases q with
    | zero => rw [Nat.zero_mul, curveN_zero]; omega
    | succ q =>
      have e : (q + 1) * L = q * L + L := Nat.succ_mul q L
      have hlt : countLt d L < d.length :=
        countLt_lt_length d hwf.1 L (by rw [hLd]; exact Nat.le_refl _)
      rw [e, hclosed q L hL (Nat.le_refl _), Nat.succ_mul]
      omega
  · rw [hclosed q v (by omega) (by omega)]
    have := List.count_pos_iff (a := v) (l := d)
    simp only [hv0, false_or]
    rw [← this]
    omega

end CurveSteps

open CurveSteps

theorem curveDiffs_sum (d : List Nat) (hwf : curveWF d) : sumList (curveDiffs d) = d.getLastD 0 := by
  have := diffsFrom_sum d 0 (zero_cons_sorted d hwf)
  rw [curveDiffs_eq]; omega

theorem curveDiffs_pos (d : List Nat) (hwf : curveWF d) :
    curveDiffs d ≠ [] ∧ ∀ x ∈ curveDiffs d, 0 < x := by
  refine ⟨fun h => ?_, diffsFrom_pos d 0⟩
  have := curveDiffs_sum d hwf
  rw [h] at this
  have := hwf.2.2
  simp only [sumList] at *
  omega

theorem CurveSteps.psum_curveDiffs_iff (d : List Nat) (hwf : curveWF d) (v : Nat) :
    (v < d.getLastD 0 ∧ (v = 0 ∨ v ∈ d)) ↔
      ∃ k, k < (curveDiffs d).length ∧ v = psum (curveDiffs d) k := by
  have hs := zero_cons_sorted d hwf
  have hsum := curveDiffs_sum d hwf
  have hpos := curveDiffs_pos d hwf
  constructor
  · rintro ⟨hlt, h0 | hmem⟩
    · exact ⟨0, List.length_pos_iff.2 hpos.1, by rw [psum_zero]; exact h0⟩
    · obtain ⟨k, hk⟩ := diffsFrom_mem_psum d 0 hs v hmem
      rw [← curveDiffs_eq] at hk
      refine ⟨k, ?_, by omega⟩
      apply Nat.lt_of_not_le
      intro hge
      have := psum_ge _ _ hge
      omega
  · rintro ⟨k, hk, rfl⟩
    have h1 := psum_lt _ hpos.2 k hk
    have h2 := diffsFrom_psum_mem d 0 hs k
    rw [← curveDiffs_eq] at h2
    simp only [Nat.zero_add] at h2
    exact ⟨by omega, h2⟩

theorem mem_curveSteps (d : List Nat) (hwf : curveWF d) (H δ : Nat) :
    δ ∈ curveSteps d H ↔
      δ ≤ H ∧ ∃ c v, δ = 1 + c * d.getLastD 0 + v ∧ v < d.getLastD 0 ∧ (v = 0 ∨ v ∈ d) := by
  have hsum := curveDiffs_sum d hwf
  have hpos := curveDiffs_pos d hwf
  have hn : 0 < (curveDiffs d).length := List.length_pos_iff.2 hpos.1
  rw [curveSteps_eq, mem_curveStepsAux _ hpos.1 hpos.2]
  constructor
  · rintro ⟨i, _, hx, hH⟩
    refine ⟨hH, i / (curveDiffs d).length, psum (curveDiffs d) (i % (curveDiffs d).length), ?_, ?_⟩
    · rw [hx, Nat.zero_add, ← hsum]; rfl
    · exact (psum_curveDiffs_iff d hwf _).2 ⟨_, Nat.mod_lt _ hn, rfl⟩
  · rintro ⟨hH, c, v, hx, hv⟩
    obtain ⟨k, hk, rfl⟩ := (psum_curveDiffs_iff d hwf v).1 hv
    have hval : stepVal (curveDiffs d) ((curveDiffs d).length * c + k) = δ := by
      unfold stepVal
      rw [Nat.mul_add_div hn, Nat.mul_add_mod, Nat.div_eq_of_lt hk, Nat.mod_eq_of_lt hk, hsum, hx]
      simp
    have := stepVal_add_le _ hpos.1 hpos.2 0 ((curveDiffs d).length * c + k)
    rw [stepVal_zero, Nat.zero_add, hval] at this
    exact ⟨(curveDiffs d).length * c + k, by omega, by rw [Nat.zero_add, hval], hH⟩

theorem curveSteps_strict (d : List Nat) (hwf : curveWF d) (H : Nat) :
    (curveSteps d H).Pairwise (· < ·) := by
  have hpos := curveDiffs_pos d hwf
  rw [curveSteps_eq]
  exact curveStepsAux_strict _ hpos.1 hpos.2 H _ _

theorem curveN_increase_iff (d : List Nat) (hwf : curveWF d) (δ : Nat)
    (hδ : 1 ≤ δ) :
    curveN d (δ - 1) < curveN d δ ↔
      ∃ c v, δ = 1 + c * d.getLastD 0 + v ∧ v < d.getLastD 0 ∧ (v = 0 ∨ v ∈ d) := by
  have hL := hwf.2.2
  rw [exists_div_mod_iff (d.getLastD 0) hL (fun v => v = 0 ∨ v ∈ d) δ hδ]
  have hdm := Nat.div_add_mod (δ - 1) (d.getLastD 0)
  have hr := Nat.mod_lt (δ - 1) hL
  have := curveN_increase_aux d hwf _ rfl ((δ - 1) / d.getLastD 0) ((δ - 1) % d.getLastD 0) hr
  have e1 : (δ - 1) / d.getLastD 0 * d.getLastD 0 + (δ - 1) % d.getLastD 0 = δ - 1 := by
    rw [Nat.mul_comm]; exact hdm
  rw [e1, Nat.sub_add_cancel hδ] at this
  exact this

/-- C11 for `Curve`: exact for every well-formed delta-min vector -/
theorem curve_steps_spec (d : List Nat) (hwf : curveWF d) (H : Nat) :
    StepsSpec (curveN d) H (curveSteps d H) := by
  refine ⟨curveSteps_strict d hwf H, fun δ => ?_⟩
  rw [mem_curveSteps d hwf H δ]
  constructor
  · rintro ⟨hH, c, v, hx, hv⟩
    have h1 : 1 ≤ δ := by omega
    exact ⟨h1, hH, (curveN_increase_iff d hwf δ h1).2 ⟨c, v, hx, hv⟩⟩
  · rintro ⟨h1, hH, hinc⟩
    exact ⟨hH, (curveN_increase_iff d hwf δ h1).1 hinc⟩

/-- a delta-min vector that ends in a plateau: `steps_iter` yields the increase after
`δ = last` as well -/
theorem curve_steps_plateau_exact :
    StepsSpec (curveN [5, 10, 10]) 20 (curveSteps [5, 10, 10] 20) :=
  curve_steps_spec [5, 10, 10] (by decide) 20

end RTA
