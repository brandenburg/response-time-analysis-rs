import RTA.Lemmas.DeriveReach
/-! The iterator-driven renderings of the derived-curve constructors (what the driver runs:
the horizon is found by watching what the `DeltaMinIterator` has emitted) coincide with the
`number_arrivals`-driven definitions (about which `Lemmas/Derive.lean` proves the C12
theorems) for every well-formed arrival model whose `steps_iter` is exact
(`from_arrival_bound_until`: additionally the horizon within the search range;
`curveOfPrefixIter` is not covered). -/

namespace RTA
open RTA.Spec

namespace DeriveIterLemmas
open DeriveReachLemmas

/-- first `H` of the sequence `H, 2H+1, …` (at most `fuel` doublings) satisfying `p` -/
def search (p : Nat → Bool) : Nat → Nat → Nat
  | 0, H => H
  | f + 1, H => if p H then H else search p f (2 * H + 1)

theorem horizonFor_eq_search (a : Arr) (n : Nat) : ∀ f H,
    Arr.horizonFor a n f H = search (fun H => decide (a.N H ≥ n)) f H := by
  intro f
  induction f with
  | zero => intro H; rfl
  | succ f ih => intro H; simp only [Arr.horizonFor, search, ih, decide_eq_true_eq]

theorem horizonForEntry_eq_search (a : Arr) (q : Nat × Nat → Bool) : ∀ f H,
    Arr.horizonForEntry a q f H = search (fun H => (a.dminEntries H).any q) f H := by
  intro f
  induction f with
  | zero => intro H; rfl
  | succ f ih => intro H; simp only [Arr.horizonForEntry, search, ih]

theorem search_congr (p p' : Nat → Bool) (h : ∀ H, p H = p' H) (f H : Nat) :
    search p f H = search p' f H := by
  have : p = p' := funext h
  rw [this]

theorem le_search (p : Nat → Bool) : ∀ f H, H ≤ search p f H := by
  intro f
  induction f with
  | zero => intro H; exact Nat.le_refl _
  | succ f ih =>
    intro H
    simp only [search]
    split
    · exact Nat.le_refl _
    · have := ih (2 * H + 1); omega

theorem search_imp (p p' : Nat → Bool) (h : ∀ H, p' H = true → p H = true) : ∀ f H,
    search p f H ≤ search p' f H ∧
      (p (search p f H) = true ∨ search p f H = search p' f H) := by
  intro f
  induction f with
  | zero => intro H; exact ⟨Nat.le_refl _, Or.inr rfl⟩
  | succ f ih =>
    intro H
    simp only [search]
    by_cases hp' : p' H = true
    · rw [if_pos hp', if_pos (h H hp')]
      exact ⟨Nat.le_refl _, Or.inr rfl⟩
    · rw [if_neg hp']
      by_cases hp : p H = true
      · rw [if_pos hp]
        have := le_search p' f (2 * H + 1)
        exact ⟨by omega, Or.inl hp⟩
      · rw [if_neg hp]
        exact ih (2 * H + 1)

theorem search_found_or_last (p : Nat → Bool) : ∀ f H,
    p (search p f H) = true ∨ search p f H = lastH f H := by
  intro f
  induction f with
  | zero => intro H; exact Or.inr rfl
  | succ f ih =>
    intro H
    simp only [search, lastH]
    by_cases hp : p H = true
    · rw [if_pos hp]; exact Or.inl hp
    · rw [if_neg hp]; exact ih (2 * H + 1)

theorem lastH_64 : lastH 64 1 = 2 ^ 65 - 1 := lastH_eq 64 1

theorem snd_unique (a : Arr) (hwf : a.WF) (n x y : Nat)
    (hx1 : a.N x < n) (hx2 : n ≤ a.N (x + 1)) (hy1 : a.N y < n) (hy2 : n ≤ a.N (y + 1)) :
    x = y := by
  rcases Nat.lt_trichotomy x y with h | h | h
  · have := Arr.N_mono a hwf (x + 1) y h; omega
  · exact h
  · have := Arr.N_mono a hwf (y + 1) x h; omega

theorem entries_take (a : Arr) (hwf : a.WF) (hex : a.Exact) (H H' : Nat) (hH : H ≤ H') :
    a.dminEntries H = (a.dminEntries H').take (a.N H - 1) := by
  have hm := Arr.N_mono a hwf H H' hH
  have hl := dminEntries_length a hwf hex H
  have hl' := dminEntries_length a hwf hex H'
  apply List.ext_getElem
  · rw [List.length_take, hl, hl']; omega
  · intro i h1 h2
    rw [List.getElem_take]
    have hi' : i < (a.dminEntries H').length := by omega
    have f1 := dminEntries_fst a hwf hex H i h1
    have f2 := dminEntries_fst a hwf hex H' i hi'
    have g1 := dminEntries_facts a hwf hex H _ (List.getElem_mem h1)
    have g2 := dminEntries_facts a hwf hex H' _ (List.getElem_mem hi')
    apply Prod.ext
    · rw [f1, f2]
    · exact snd_unique a hwf (i + 2) _ _ (f1 ▸ g1.2.2.1) (f1 ▸ g1.2.2.2.1) (f2 ▸ g2.2.2.1)
        (f2 ▸ g2.2.2.2.1)

theorem entries_append (a : Arr) (hwf : a.WF) (hex : a.Exact) (H H' : Nat) (hH : H ≤ H') :
    ∃ more, a.dminEntries H' = a.dminEntries H ++ more ∧
      ∀ e ∈ more, a.N H < e.1 ∧ H ≤ e.2 := by
  refine ⟨(a.dminEntries H').drop (a.N H - 1), ?_, ?_⟩
  · rw [entries_take a hwf hex H H' hH, List.take_append_drop]
  · intro e he
    rw [List.mem_drop_iff_getElem] at he
    obtain ⟨j, hj, he⟩ := he
    have hj' : a.N H - 1 + j < (a.dminEntries H').length := Nat.add_comm _ _ ▸ hj
    have f := dminEntries_fst a hwf hex H' _ hj'
    have g := dminEntries_facts a hwf hex H' _ (List.getElem_mem hj')
    rw [he] at f g
    refine ⟨by omega, Nat.le_of_not_lt fun h => ?_⟩
    have := Arr.N_mono a hwf (e.2 + 1) H h
    omega

theorem any_gt (a : Arr) (hwf : a.WF) (hex : a.Exact) (m : Nat) (hm : 1 ≤ m) (H : Nat) :
    (a.dminEntries H).any (fun e => decide (m < e.1)) = decide (a.N H ≥ m + 1) := by
  rw [Bool.eq_iff_iff, List.any_eq_true, decide_eq_true_eq]
  constructor
  · rintro ⟨e, he, hlt⟩
    rw [decide_eq_true_eq] at hlt
    have := dminEntries_facts a hwf hex H e he
    omega
  · intro h
    obtain ⟨x, hx⟩ := dminEntries_exists a hwf hex H (m + 1) (by omega) h
    exact ⟨_, hx, by simp⟩

end DeriveIterLemmas

open DeriveIterLemmas

theorem curveOfBoundIter_eq (a : Arr) (hwf : a.WF) (hex : a.Exact) (upTo : Nat) :
    a.curveOfBoundIter upTo = a.curveOfBound upTo := by
  unfold Arr.curveOfBoundIter Arr.curveOfBound
  simp only []
  rw [horizonForEntry_eq_search, horizonFor_eq_search,
    search_congr _ _ (any_gt a hwf hex (max upTo 3) (by omega))]

/-- the two searches of `from_arrival_bound_until` lead to the same filtered entries whenever
the iterator-driven search found its entry or the horizon lies within the search range -/
theorem curveOfBoundUntilIter_eq_core (a : Arr) (hwf : a.WF) (hex : a.Exact) (horizon : Nat)
    (hh : horizon + 2 ≤ 2 ^ 65 - 1 ∨
      (a.dminEntries (Arr.horizonForEntry a
        (fun e => decide (horizon < e.2) && decide (4 ≤ e.1)) 64 1)).any
        (fun e => decide (horizon < e.2) && decide (4 ≤ e.1)) = true) :
    a.curveOfBoundUntilIter horizon = a.curveOfBoundUntil horizon := by
  unfold Arr.curveOfBoundUntilIter Arr.curveOfBoundUntil
  simp only []
  rw [horizonForEntry_eq_search, horizonFor_eq_search] at *
  generalize hq : (fun e : Nat × Nat => decide (horizon < e.2) && decide (4 ≤ e.1)) = q at *
  have himp : ∀ H, (a.dminEntries H).any q = true → decide (a.N H ≥ 4) = true := by
    intro H h
    rw [List.any_eq_true] at h
    obtain ⟨e, he, hqe⟩ := h
    rw [← hq] at hqe
    simp only [Bool.and_eq_true, decide_eq_true_eq] at hqe
    have := dminEntries_facts a hwf hex H e he
    rw [decide_eq_true_eq]
    omega
  obtain ⟨hle, hdis⟩ := search_imp (fun H => decide (a.N H ≥ 4))
    (fun H => (a.dminEntries H).any q) himp 64 1
  have hlast := search_found_or_last (fun H => (a.dminEntries H).any q) 64 1
  rw [lastH_64] at hlast
  generalize search (fun H => decide (a.N H ≥ 4)) 64 1 = H0 at *
  generalize search (fun H => (a.dminEntries H).any q) 64 1 = H' at *
  rcases Nat.lt_or_ge H' (max (horizon + 2) H0) with hlt | hge
  · -- impossible: the iterator-driven search has found an entry beyond the horizon
    exfalso
    have hfound : (a.dminEntries H').any q = true := by
      rcases hh with hh | hh
      · rcases hlast with h | h
        · exact h
        · omega
      · exact hh
    rw [List.any_eq_true] at hfound
    obtain ⟨e, he, hqe⟩ := hfound
    rw [← hq] at hqe
    simp only [Bool.and_eq_true, decide_eq_true_eq] at hqe
    have := dminEntries_facts a hwf hex H' e he
    omega
  · rcases hdis with h4 | heq
    · rw [decide_eq_true_eq] at h4
      obtain ⟨more, hmore, hrej⟩ := entries_append a hwf hex _ H' hge
      have hmono := Arr.N_mono a hwf H0 (max (horizon + 2) H0) (by omega)
      rw [hmore, List.filter_append]
      have : more.filter (fun e => decide (e.2 ≤ horizon ∨ e.1 ≤ 3)) = [] := by
        rw [List.filter_eq_nil_iff]
        intro e he
        have := hrej e he
        rw [decide_eq_true_eq]
        omega
      rw [this, List.append_nil]
    · have : max (horizon + 2) H0 = H' := by omega
      rw [this]

/-- the horizon has to lie within the range of the 64-step doubling search: for
`a = .periodic (2^66)`, `horizon = 2^67` neither search succeeds (both stop at `2^65 - 1`);
`curveOfBoundUntil` then uses `H = horizon + 2` and returns `[2^66, 2^67]`, while
`curveOfBoundUntilIter` uses `H = 2^65 - 1` and returns `[]` -/
theorem curveOfBoundUntilIter_eq (a : Arr) (hwf : a.WF) (hex : a.Exact) (horizon : Nat)
    (hh : horizon + 2 ≤ 2 ^ 65 - 1) :
    a.curveOfBoundUntilIter horizon = a.curveOfBoundUntil horizon :=
  curveOfBoundUntilIter_eq_core a hwf hex horizon (Or.inl hh)

theorem curveOfBoundUntilIter_eq_of_found (a : Arr) (hwf : a.WF) (hex : a.Exact) (horizon : Nat)
    (hfound : (a.dminEntries (Arr.horizonForEntry a
        (fun e => decide (horizon < e.2) && decide (4 ≤ e.1)) 64 1)).any
        (fun e => decide (horizon < e.2) && decide (4 ≤ e.1)) = true) :
    a.curveOfBoundUntilIter horizon = a.curveOfBoundUntil horizon :=
  curveOfBoundUntilIter_eq_core a hwf hex horizon (Or.inr hfound)

theorem dminIterTakeIter_eq (a : Arr) (hwf : a.WF) (hex : a.Exact) (k : Nat) :
    a.dminIterTakeIter k = a.dminIterTake k := by
  unfold Arr.dminIterTakeIter Arr.dminIterTake
  simp only []
  rcases Nat.lt_or_ge k 3 with hk | hk
  · rw [List.take_append, List.take_append]
    have : k - [((0 : Nat), (0 : Nat)), (1, 0)].length = 0 := by
      simp only [List.length_cons, List.length_nil]; omega
    rw [this, List.take_zero, List.take_zero]
  · have hcrit : (fun e : Nat × Nat => decide (k ≤ e.1 + 1)) =
        (fun e : Nat × Nat => decide (k - 2 < e.1)) := by
      funext e
      rw [decide_eq_decide]
      omega
    rw [hcrit, horizonForEntry_eq_search, horizonFor_eq_search,
      search_congr _ _ (any_gt a hwf hex (k - 2) (by omega))]
    have himp : ∀ H, decide (a.N H ≥ k + 1) = true → decide (a.N H ≥ k - 2 + 1) = true := by
      intro H h
      rw [decide_eq_true_eq] at *
      omega
    obtain ⟨hle, hdis⟩ := search_imp (fun H => decide (a.N H ≥ k - 2 + 1))
      (fun H => decide (a.N H ≥ k + 1)) himp 64 1
    generalize search (fun H => decide (a.N H ≥ k - 2 + 1)) 64 1 = H1 at *
    generalize search (fun H => decide (a.N H ≥ k + 1)) 64 1 = H2 at *
    rcases hdis with h | h
    · simp only [decide_eq_true_eq] at h
      rw [List.take_append, List.take_append]
      congr 1
      rw [entries_take a hwf hex H1 H2 hle, List.take_take]
      congr 1
      simp only [List.length_cons, List.length_nil]
      omega
    · rw [h]

theorem curveOfSporadicIter_eq (T J : Nat) (hT : 1 ≤ T) :
    curveOfSporadicIter T J = curveOfSporadic T J := by
  unfold curveOfSporadicIter curveOfSporadic
  exact curveOfBoundIter_eq _ (by simp only [Arr.WF]; exact hT) (by simp only [Arr.Exact]) _

end RTA
