import RTA.Lemmas.FpSoundEq
/-! C01 with distinct task priorities: the job-level order "higher task priority, or same task
and earlier job" and its setting are a special case of the order with ties (`FpSetting.toEq`),
so the theorems of `FpSoundEq` apply. -/

open Finset Classical

namespace RTA.Sched
open RTA RTA.Spec RTA.Sched.J

/-- job-level priority order of fixed-priority scheduling with distinct task priorities
(`pr`, smaller number = higher priority); jobs of one task in job (= release) order -/
def hepFP (s : Sys) (pr : ℕ → ℕ) (a b : ℕ) : Prop :=
  pr (s.task a) < pr (s.task b) ∨ (s.task a = s.task b ∧ a ≤ b)

/-- the setting of the fixed-priority analyses for task `i`: a legal schedule under the
fixed-priority policy with non-preemptive segments; the workload of task `i` is bounded by
`tua`, the workload of all higher-priority tasks by `others`; every run of consecutive
non-preemptable service levels of a lower-priority job is at most `B` long (blocking bound
= longest lower-priority non-preemptive segment minus one) -/
structure FpSetting (s : Sys) (pr : ℕ → ℕ) (i : ℕ) (tua : RB) (others : List RB) (B : ℕ) : Prop where
  legal : JlfpLegal s (hepFP s pr)
  inj : ∀ a b, pr a = pr b → a = b
  ordered : ∀ a b, a < s.n → b < s.n → s.task a = s.task b → a ≤ b → s.arr a ≤ s.arr b
  w_tua : ∀ t d, workOf s (fun x => x = i) t (t + d) ≤ tua.need d
  w_hp : ∀ t d, workOf s (fun x => pr x < pr i) t (t + d) ≤ sumNeed others d
  blocking : ∀ l, l < s.n → pr i < pr (s.task l) → ∀ x len, (∀ k, k < len → s.np l (x + k)) → len ≤ B
  cost_pos : ∀ k, k < s.n → 1 ≤ s.cost k

theorem hepFP_trans (s : Sys) (pr : ℕ → ℕ) (a b c : ℕ) (h1 : hepFP s pr a b) (h2 : hepFP s pr b c) :
    hepFP s pr a c := by
  unfold hepFP at *
  rcases h1 with h1 | ⟨h1, h1'⟩ <;> rcases h2 with h2 | ⟨h2, h2'⟩
  · left; omega
  · left; rw [← h2]; exact h1
  · left; rw [h1]; exact h2
  · right; exact ⟨h1.trans h2, by omega⟩

theorem hepFP_refl (s : Sys) (pr : ℕ → ℕ) (a : ℕ) : hepFP s pr a a := by
  right; exact ⟨rfl, le_refl _⟩

open FpSoundLemmas

/-- jobs of one task are released in job order, so the order with ties is the coarser one -/
theorem FpSetting.hepFPe_of_hepFP {s : Sys} {pr : ℕ → ℕ} {i : ℕ} {tua : RB} {others : List RB}
    {B : ℕ} (hS : FpSetting s pr i tua others B) {a b : ℕ} (ha : a < s.n) (hb : b < s.n)
    (h : hepFP s pr a b) : hepFPe s pr a b :=
  h.imp id fun h => ⟨by rw [h.1], hS.ordered a b ha hb h.1 h.2⟩

theorem FpSetting.toEq {s : Sys} {pr : ℕ → ℕ} {i : ℕ} {tua : RB} {others : List RB} {B : ℕ}
    (hS : FpSetting s pr i tua others B) : FpEqSetting s pr i tua others B where
  legal :=
    { toValid := hS.legal.toValid
      cont := hS.legal.cont
      prio := fun t j hs => (hS.legal.prio t j hs).imp id fun h k hk hp =>
        hS.hepFPe_of_hepFP (hS.legal.valid t j hs).1 hk (h k hk hp) }
  w_tua := hS.w_tua
  w_hep := by
    intro t d
    have h := hS.w_hp t d
    rw [workOf_eq_wk] at h ⊢
    refine le_trans (wk_imp _ _ ?_) h
    rintro k _ ⟨⟨h1, h2⟩, ha, hb⟩
    exact ⟨lt_of_le_of_ne h1 (fun e => h2 (hS.inj _ _ e)), ha, hb⟩
  blocking := hS.blocking
  cost_pos := hS.cost_pos

theorem fp_preemptive_sound (s : Sys) (pr : ℕ → ℕ) (i : ℕ) (tua : RB) (others : List RB)
    (hS : FpSetting s pr i tua others 0) (hwf : tua.ArrWF) (hex : tua.Exact) (ho : OthersOK others)
    (limit R : ℕ) (hR : fpPreemptive tua others limit = .ok R) :
    ∀ j, j < s.n → s.task j = i → MeetsBound s j R :=
  fpe_preemptive_sound s pr i tua others hS.toEq hwf hex ho limit R hR

theorem fp_nonpreemptive_sound (s : Sys) (pr : ℕ → ℕ) (i : ℕ) (a : Arr) (C : ℕ) (others : List RB) (B : ℕ)
    (hS : FpSetting s pr i (.rbf a (.scalar C)) others B) (hwf : a.WF) (hex : a.Exact)
    (ho : OthersOK others)
    (hcnt : ∀ t d, cntOf s (fun x => x = i) t (t + d) ≤ a.N d)
    (hown : ∀ j, j < s.n → s.task j = i → s.cost j ≤ C ∧ ∀ x, 1 ≤ x → x < s.cost j → s.np j x)
    (limit R : ℕ) (hR : fpNonpreemptive a C B others limit = .ok R) :
    ∀ j, j < s.n → s.task j = i → MeetsBound s j R :=
  fpe_nonpreemptive_sound s pr i a C others B hS.toEq hwf hex ho hcnt hown limit R hR

end RTA.Sched
