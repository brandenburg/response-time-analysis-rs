import RTA.Lemmas.Tight
import RTA.Lemmas.FpSound
/-! C18, fixed priority: the bound is attained.

Setting: priorities = task indices (`pr := id`, smaller index = higher priority).  If, from
some instant `t₀` on, the analysed task `i` releases exactly as many jobs as its curve allows in
every window `[t₀, t₀ + Δ)` up to the busy-window length, the higher-priority tasks release
exactly their maximal workload, and every job of `i` runs for its WCET, then in EVERY legal
schedule some job of task `i` has a response time equal to the bound returned by the analysis
(no smaller bound is met).  One counting argument (`fp_bound_not_beaten`) serves the fully
preemptive analysis, proved here, and the fully non-preemptive one (`TightNP.lean`). -/

open Finset

namespace RTA.Sched
open RTA RTA.Spec

namespace TightFPLemmas
open TightLemmas FpSoundLemmas RTA.PruneCoreLemmas RTA.PruneFPLemmas

theorem rbf_scalar_ok {a : Arr} {C : ℕ} (hwf : a.WF) (hex : a.Exact) (hC : 1 ≤ C) :
    (RB.rbf a (.scalar C)).ArrWF ∧ (RB.rbf a (.scalar C)).Exact :=
  ⟨by simp only [RB.ArrWF]; exact hwf,
    by simp only [RB.Exact]; exact ⟨hex, Cost.scalar_strictPos C hC⟩⟩

theorem othersOK_scalar (hp : List (Arr × ℕ)) (hwfo : ∀ p ∈ hp, p.1.WF ∧ p.1.Exact ∧ 1 ≤ p.2) :
    OthersOK (hp.map fun p => RB.rbf p.1 (.scalar p.2)) := by
  intro o hoo
  obtain ⟨q, hq, rfl⟩ := List.mem_map.1 hoo
  obtain ⟨h1, h2, h3⟩ := hwfo q hq
  exact rbf_scalar_ok h1 h2 h3

theorem svc_after_slot (s : Sys) (j st t lvl : ℕ) (hst : s.sched st = some j)
    (hsv : svc s j st = lvl) (hlt : lvl < svc s j t) : st + (svc s j t - lvl) ≤ t := by
  rcases Nat.lt_or_ge st t with h | h
  · have h1 : svc s j (st + 1) = lvl + 1 := by
      show svc s j st + (if s.sched st = some j then 1 else 0) = _
      rw [if_pos hst, hsv]
    have := svc_le_len (s := s) j (st + 1) (t - (st + 1))
    rw [show st + 1 + (t - (st + 1)) = t by omega, h1] at this
    omega
  · have := svc_mono (s := s) j h
    omega

theorem exists_last_job (s : Sys) (i t₀ d : ℕ) (h : 0 < cntOf s (fun x => x = i) t₀ (t₀ + d)) :
    ∃ Jb, Jb < s.n ∧ s.task Jb = i ∧ t₀ ≤ s.arr Jb ∧ s.arr Jb < t₀ + d ∧
      ∀ k, k < s.n → s.task k = i → t₀ ≤ s.arr k → s.arr k < t₀ + d → k ≤ Jb := by
  classical
  have hne : ((range s.n).filter
      (fun k => s.task k = i ∧ t₀ ≤ s.arr k ∧ s.arr k < t₀ + d)).Nonempty := by
    by_contra hemp
    rw [Finset.not_nonempty_iff_eq_empty] at hemp
    have h0 : cntOf s (fun x => x = i) t₀ (t₀ + d) = 0 := by
      unfold cntOf
      refine sum_eq_zero (fun k hk => if_neg (fun hh => ?_))
      have hkS : k ∈ (range s.n).filter
          (fun k => s.task k = i ∧ t₀ ≤ s.arr k ∧ s.arr k < t₀ + d) := by
        rw [mem_filter]; exact ⟨hk, hh⟩
      rw [hemp] at hkS
      simp at hkS
    omega
  obtain ⟨Jb, hJS, hmax⟩ := Finset.exists_max_image _ id hne
  obtain ⟨hJr, hJi, hJa0, hJa1⟩ := mem_filter.1 hJS
  exact ⟨Jb, mem_range.1 hJr, hJi, hJa0, hJa1, fun k hk h1 h2 h3 =>
    hmax k (mem_filter.2 ⟨mem_range.2 hk, h1, h2, h3⟩)⟩

theorem fpCore_zero (a : Arr) (C B q : ℕ) (others : List RB) (limit R L : ℕ)
    (hwf : a.WF) (hex : a.Exact) (hC : 1 ≤ C) (ho : OthersOK others) (hq : q < C)
    (hL : naiveSolve (fun x => B + sumNeed others x + (RB.rbf a (.scalar C)).need x) limit = .ok L)
    (hN : ∀ Δ, Δ ≤ L → a.N Δ = 0)
    (hR : fpCore (.rbf a (.scalar C)) others B q limit = .ok R) : R = 0 := by
  have hlim := limit_pos_of_ok (fun l => fpCore _ others B q l) (fpCore_limit_zero _ _ _ _) hR
  obtain ⟨S, _, hm, he⟩ := fpCore_form (RB.rbf a (.scalar C)) others B q limit
    (rbf_scalar_ok hwf hex hC).1 (rbf_scalar_ok hwf hex hC).2 ho hlim (scalar_hstep a C q hq) L hL
  have hS0 : S = [] := by
    apply List.eq_nil_iff_forall_not_mem.2
    intro A hA
    obtain ⟨hAL, hlt⟩ := (hm A).1 hA
    simp only [RB.need, Cost.ofJobs] at hlt
    rw [hN A (by omega), hN (A + 1) (by omega)] at hlt
    omega
  rw [he, hS0] at hR
  exact (Res.ok.inj hR).symm

/-- a positive bound is the result of some offset `A` below the busy-window length `L`:
`R = AF - A + q` with `AF` the LEAST solution of the offset's inequality -/
theorem fpCore_attained (a : Arr) (C B q : ℕ) (others : List RB) (limit R L : ℕ)
    (hwf : a.WF) (hex : a.Exact) (hC : 1 ≤ C) (ho : OthersOK others) (hq : q < C)
    (hpos : 0 < a.N 1)
    (hR : fpCore (.rbf a (.scalar C)) others B q limit = .ok R)
    (hL : naiveSolve (fun x => B + sumNeed others x + (RB.rbf a (.scalar C)).need x) limit = .ok L)
    (hRpos : 0 < R) :
    ∃ A AF, A < L ∧ 0 < a.N (A + 1) ∧ AF - A + q = R ∧
      B + sumNeed others L + (RB.rbf a (.scalar C)).need L ≤ L ∧
      ∀ r, r < AF →
        ¬ B + ((RB.rbf a (.scalar C)).need (A + 1) - q) + sumNeed others (max r 1) ≤ r := by
  obtain ⟨h1, h2, h3⟩ := scalar_side a C hwf hex hC hpos
  have hlim := limit_pos_of_ok (fun l => fpCore _ others B q l) (fpCore_limit_zero _ _ _ _) hR
  rw [fpCore_eq_naive _ others B q limit h1 h2 ho hlim h3 (scalar_hstep a C q hq), naiveFp_eq,
    hL] at hR
  simp only at hR
  obtain ⟨A, hA, hfA⟩ := List.mem_map.1 ((naiveMax_ok_elim _ R hR).2.resolve_left (Nat.pos_iff_ne_zero.1 hRpos))
  have hAL : A < L := List.mem_range.1 hA
  unfold fpPer at hfA
  rcases naiveSolve_cases
    (fun AF => B + ((RB.rbf a (.scalar C)).need (A + 1) - q) + sumNeed others AF) limit with
    ⟨AF, h⟩ | h
  swap
  · rw [h] at hfA; cases hfA
  rw [h] at hfA
  obtain ⟨_, _, hleast⟩ := (naiveSolve_ok_iff _ _ _).1 h
  have hLs := ((naiveSolve_ok_iff _ _ _).1 hL).2.1
  rw [Nat.max_eq_left (by omega : 1 ≤ L)] at hLs
  refine ⟨A, AF, hAL, ?_, Res.ok.inj hfA, hLs, hleast⟩
  apply Nat.pos_of_ne_zero
  intro h0
  have := RB.need_mono _ h1 h2 1 (A + 1) (by omega)
  simp only [RB.need, Cost.ofJobs] at this h3
  rw [h0] at this
  omega

/-- the arithmetic of `start_lower_bound`: `w'` the cost of the jobs counted other than `Jb`,
`wi`/`wh` the workloads of the analysed task and of the higher-priority tasks -/
theorem served_arith (B C q t₀ st w' wi wh wo : ℕ) (hq : q < C) (hstB : t₀ + B ≤ st)
    (hlen : w' + (C - q - 1) ≤ 0 + (st - (t₀ + B))) (hsplit : w' + C = wi + wh)
    (hown : wo + C = wi) : B + (wi - q) + wh + t₀ ≤ st + 1 := by
  omega

/-- the least solution `AF` of an offset's inequality is at most `x = st + 1 - t₀` if the slots
`[t₀, st]` hold the blocking, the demand `nA - q` and the higher-priority workload `w` released
in them — which is the maximal one, `hp x`, as long as `x ≤ L`; beyond, `L` itself is a solution -/
theorem least_solution_le (hp : ℕ → ℕ) (B q nA nL L AF st w t₀ : ℕ)
    (hleast : ∀ r, r < AF → ¬ B + (nA - q) + hp (max r 1) ≤ r)
    (hLs : B + hp L + nL ≤ L) (hmono : nA ≤ nL) (hL1 : 1 ≤ L) (ht : t₀ ≤ st)
    (hlow : B + (nA - q) + w + t₀ ≤ st + 1) (hw : ∀ x, st + 1 = t₀ + x → x ≤ L → w = hp x) :
    t₀ + AF ≤ st + 1 := by
  obtain ⟨x, hx⟩ : ∃ x, st + 1 = t₀ + x := ⟨st + 1 - t₀, by omega⟩
  by_contra hlt
  rcases Nat.lt_or_ge L x with hLx | hxL
  · have hc := hleast L (by omega)
    rw [Nat.max_eq_left hL1] at hc
    omega
  · have hc := hleast x (by omega)
    rw [Nat.max_eq_left (by omega : 1 ≤ x), ← hw x hx hxL] at hc
    omega

theorem level_lt {C q : ℕ} (hq : q < C) : C - q - 1 < C := by omega

/-- a job of cost `C` released in `[t₀, t₀ + A]` that is served at level `C - q - 1` in a slot
`st ≥ t₀ + AF - 1` does not meet a bound below `AF - A + q` -/
theorem response_arith (t₀ A AF C q R R' r st : ℕ) (hfA : AF - A + q = R) (hR' : R' < R)
    (hq : q < C) (hJa1 : r < t₀ + (A + 1)) (hpJ1 : r ≤ st) (hAF : t₀ + AF ≤ st + 1)
    (hge : st + (C - (C - q - 1)) ≤ r + R') : False := by
  omega

/-- Job `Jb` of task `i`, the last one released in `[t₀, t₀ + A]`, is served in slot `st` at
service level `C - q - 1` while it has priority over every pending job, and the slots
`[t₀, t₀ + B)` serve lower-priority jobs.  Then everything released from `t₀` on that precedes
this unit of service — the blocking, the other jobs of task `i` of the window and `C - q - 1`
units of `Jb` itself, all higher-priority jobs released up to `st` — has been served in
`[t₀, st)`. -/
theorem start_lower_bound {s : Sys} (hl : JlfpLegal s (hepFP s id))
    (hord : ∀ a b, a < s.n → b < s.n → s.task a = s.task b → a ≤ b → s.arr a ≤ s.arr b)
    (i C q B t₀ A : ℕ) (hq : q < C) (hcost : ∀ k, k < s.n → s.task k = i → s.cost k = C)
    (hblk : ∀ v, t₀ ≤ v → v < t₀ + B → ∀ k, s.sched v = some k → i < s.task k)
    (Jb st : ℕ) (hJ : Jb < s.n) (hJi : s.task Jb = i) (hJa0 : t₀ ≤ s.arr Jb)
    (hJa1 : s.arr Jb < t₀ + (A + 1))
    (hmax : ∀ k, k < s.n → s.task k = i → t₀ ≤ s.arr k → s.arr k < t₀ + (A + 1) → k ≤ Jb)
    (hst : s.sched st = some Jb) (hsv : svc s Jb st = C - q - 1)
    (hprio : ∀ k, k < s.n → Pending s k st → hepFP s id Jb k) :
    B + (workOf s (fun x => x = i) t₀ (t₀ + (A + 1)) - q)
      + workOf s (fun x => x < i) t₀ (st + 1) + t₀ ≤ st + 1 := by
  classical
  have hpJ1 : s.arr Jb ≤ st := (hl.valid st Jb hst).2.1
  -- a released job over which `Jb` has no priority is complete
  have hnotpend : ∀ k, k < s.n → s.arr k ≤ st → ¬ hepFP s id Jb k → svc s k st = s.cost k := by
    intro k hk hka hnh
    have hnp : ¬ Pending s k st := fun hpk => hnh (hprio k hk hpk)
    unfold Pending at hnp
    have := hl.servesPending.svc_le_cost k st
    omega
  have hstB : t₀ + B ≤ st := Nat.le_of_not_lt fun hlt =>
    absurd (hblk st (le_trans hJa0 hpJ1) hlt Jb hst) (by rw [hJi]; exact Nat.lt_irrefl i)
  have hzeroB : ∀ k, k < s.n → s.task k ≤ i → t₀ ≤ s.arr k → svc s k (t₀ + B) = 0 := by
    intro k _ hki hka
    rw [svc_const k t₀ (t₀ + B) (Nat.le_add_right _ _) (fun v h1 h2 hv => by have := hblk v h1 h2 k hv; omega)]
    exact hl.servesPending.svc_zero_before k t₀ hka
  let P : ℕ → Prop := fun k => (s.task k = i ∧ t₀ ≤ s.arr k ∧ s.arr k < t₀ + (A + 1)) ∨
    (s.task k < i ∧ t₀ ≤ s.arr k ∧ s.arr k < st + 1)
  have hPJ : P Jb := Or.inl ⟨hJi, hJa0, hJa1⟩
  have hdone : sv s (fun k => k ≠ Jb ∧ P k) st = wk s (fun k => k ≠ Jb ∧ P k) := by
    unfold sv wk
    refine sum_congr rfl (fun k hk => ?_)
    have hk' := mem_range.1 hk
    by_cases hpk : k ≠ Jb ∧ P k
    · rw [if_pos hpk, if_pos hpk]
      obtain ⟨hne, ⟨h1, h2, h3⟩ | ⟨h1, h2, h3⟩⟩ := hpk
      · have hle := hmax k hk' h1 h2 h3
        have := hord k Jb hk' hJ (by rw [h1, hJi]) hle
        apply hnotpend k hk' (le_trans this hpJ1)
        unfold hepFP
        simp only [id]
        rintro (hh | ⟨_, hh⟩)
        · rw [h1, hJi] at hh; omega
        · omega
      · apply hnotpend k hk' (Nat.le_of_lt_succ h3)
        unfold hepFP
        simp only [id]
        rintro (hh | ⟨hh, _⟩)
        · rw [hJi] at hh; omega
        · rw [hJi] at hh; omega
    · rw [if_neg hpk, if_neg hpk]
  have hzero : sv s P (t₀ + B) = 0 := by
    unfold sv
    refine sum_eq_zero (fun k hk => ?_)
    by_cases hpk : P k
    · rw [if_pos hpk]
      rcases hpk with ⟨h1, h2, _⟩ | ⟨h1, h2, _⟩
      · exact hzeroB k (mem_range.1 hk) (le_of_eq h1) h2
      · exact hzeroB k (mem_range.1 hk) (le_of_lt h1) h2
    · rw [if_neg hpk]
  have hlen := sv_le_len (s := s) P (t₀ + B) (st - (t₀ + B))
  rw [show t₀ + B + (st - (t₀ + B)) = st by omega, hzero, ← sv_split_eq s P Jb st hJ hPJ,
    hdone, hsv] at hlen
  have hwork : wk s P = workOf s (fun x => x = i) t₀ (t₀ + (A + 1)) +
      workOf s (fun x => x < i) t₀ (st + 1) := by
    rw [workOf_eq_wk, workOf_eq_wk]
    exact wk_or_disj _ _ (fun k h1 h2 => absurd h2.1 (by rw [h1.1]; exact Nat.lt_irrefl i))
  have hsplit := wk_split s P Jb hJ hPJ
  have hown := wk_split s (fun k => s.task k = i ∧ t₀ ≤ s.arr k ∧ s.arr k < t₀ + (A + 1))
    Jb hJ ⟨hJi, hJa0, hJa1⟩
  have e : workOf s (fun x => x = i) t₀ (t₀ + (A + 1)) = wk s (fun k =>
      s.task k = i ∧ t₀ ≤ s.arr k ∧ s.arr k < t₀ + (A + 1)) := workOf_eq_wk s _ _ _
  rw [← e, hcost Jb hJ hJi] at hown
  rw [hcost Jb hJ hJi, hwork] at hsplit
  exact served_arith B C q t₀ st _ _ _ _ hq hstB hlen hsplit hown

/-- C18 for the fixed-priority analyses with a run-to-completion remainder `q` (the last
`q + 1` units of a job of the analysed task cannot be preempted: `hseg` asks that the unit at
service level `C - q - 1` is scheduled by priority) and a blocking bound `B` (`hblk`: the slots
`[t₀, t₀ + B)` serve lower-priority jobs).  In EVERY legal schedule of a job set that realises
the curves from `t₀`, some job of the analysed task meets no bound smaller than the one
returned.  `q = 0`, `B = 0` is the fully preemptive analysis, `q = C - 1` the fully
non-preemptive one. -/
theorem fp_bound_not_beaten (s : Sys) (i : ℕ) (a : Arr) (C B q : ℕ) (others : List RB)
    (hS : FpSetting s id i (.rbf a (.scalar C)) others B)
    (hwf : a.WF) (hex : a.Exact) (hC : 1 ≤ C) (ho : OthersOK others) (hq : q < C)
    (limit R L t₀ : ℕ)
    (hR : fpCore (.rbf a (.scalar C)) others B q limit = .ok R)
    (hL : naiveSolve (fun x => B + sumNeed others x + (RB.rbf a (.scalar C)).need x) limit = .ok L)
    (hown : ∀ Δ, Δ ≤ L → cntOf s (fun x => x = i) t₀ (t₀ + Δ) = a.N Δ)
    (hcost : ∀ k, k < s.n → s.task k = i → s.cost k = C)
    (hhp : ∀ Δ, Δ ≤ L → workOf s (fun x => x < i) t₀ (t₀ + Δ) = sumNeed others Δ)
    (hseg : ∀ j st, j < s.n → s.task j = i → s.sched st = some j → svc s j st = C - q - 1 →
      ∀ k, k < s.n → Pending s k st → hepFP s id j k)
    (hblk : ∀ v, t₀ ≤ v → v < t₀ + B → ∀ k, s.sched v = some k → i < s.task k)
    (hRpos : 0 < R) :
    ∃ j, j < s.n ∧ s.task j = i ∧ ∀ R', R' < R → ¬ MeetsBound s j R' := by
  classical
  have hl := hS.legal
  have hneed : ∀ d, (RB.rbf a (.scalar C)).need d = C * a.N d := fun d => by
    simp only [RB.need, Cost.ofJobs]
  -- task `i` has a job (otherwise the bound is 0)
  have hjob : ∃ j, j < s.n ∧ s.task j = i := by
    by_contra hno
    push Not at hno
    have hN : ∀ Δ, Δ ≤ L → a.N Δ = 0 := by
      intro Δ hΔ
      rw [← hown Δ hΔ]
      unfold cntOf
      exact sum_eq_zero (fun k hk => if_neg (fun h => hno k (mem_range.1 hk) h.1))
    have := fpCore_zero a C B q others limit R L hwf hex hC ho hq hL hN hR
    omega
  have hposN : 0 < a.N 1 := by
    obtain ⟨j, hj, hji⟩ := hjob
    have h1 := hS.w_tua (s.arr j) 1
    rw [workOf_eq_wk, hneed] at h1
    have h2 := wk_split s (fun k => s.task k = i ∧ s.arr j ≤ s.arr k ∧ s.arr k < s.arr j + 1)
      j hj ⟨hji, le_refl _, by omega⟩
    have := hS.cost_pos j hj
    apply Nat.pos_of_ne_zero
    intro h0
    rw [h0, Nat.mul_zero] at h1
    omega
  obtain ⟨A, AF, hAL, hN1, hfA, hLs, hleast⟩ :=
    fpCore_attained a C B q others limit R L hwf hex hC ho hq hposN hR hL hRpos
  obtain ⟨Jb, hJ, hJi, hJa0, hJa1, hmax⟩ := exists_last_job s i t₀ (A + 1)
    (by rw [hown _ (by omega)]; exact hN1)
  refine ⟨Jb, hJ, hJi, ?_⟩
  intro R' hR' hm
  have hm : svc s Jb (s.arr Jb + R') = s.cost Jb := hm
  have hcJ := hcost Jb hJ hJi
  -- the slot in which `Jb` receives the unit after which it runs to completion
  have hlvl : C - q - 1 < svc s Jb (s.arr Jb + R') := by rw [hm, hcJ]; exact level_lt hq
  obtain ⟨st, _, hst, hsv⟩ := exists_slot_of_level (s := s) Jb (C - q - 1) (s.arr Jb + R') hlvl
  have hlow := start_lower_bound hl hS.ordered i C q B t₀ A hq hcost hblk Jb st hJ hJi hJa0 hJa1
    hmax hst hsv (hseg Jb st hJ hJi hst hsv)
  have hwI : workOf s (fun x => x = i) t₀ (t₀ + (A + 1)) = (RB.rbf a (.scalar C)).need (A + 1) := by
    rw [hneed, ← hown (A + 1) (by omega)]
    unfold workOf cntOf
    rw [mul_sum]
    refine sum_congr rfl (fun k hk => ?_)
    by_cases hh : s.task k = i ∧ t₀ ≤ s.arr k ∧ s.arr k < t₀ + (A + 1)
    · rw [if_pos hh, if_pos hh, hcost k (mem_range.1 hk) hh.1, Nat.mul_one]
    · rw [if_neg hh, if_neg hh, Nat.mul_zero]
  have hpJ1 : s.arr Jb ≤ st := (hl.valid st Jb hst).2.1
  rw [hwI] at hlow
  have hAF : t₀ + AF ≤ st + 1 :=
    least_solution_le (sumNeed others) B q _ _ L AF st _ t₀ hleast hLs
      (RB.need_mono _ (rbf_scalar_ok hwf hex hC).1 (rbf_scalar_ok hwf hex hC).2 (A + 1) L hAL)
      (Nat.lt_of_le_of_lt (Nat.zero_le A) hAL) (le_trans hJa0 hpJ1) hlow
      (fun x hx hxL => by rw [hx]; exact hhp x hxL)
  have hge := svc_after_slot s Jb st (s.arr Jb + R') (C - q - 1) hst hsv hlvl
  rw [hm, hcJ] at hge
  exact response_arith t₀ A AF C q R R' _ st hfA hR' hq hJa1 hpJ1 hAF hge

/-- priority key: (task index, job index) lexicographically, for job indices `< n` -/
def key (js : JobSet) (k : ℕ) : ℕ := js.task k * js.n + k

theorem key_le (js : JobSet) (j k : ℕ) (hk : k < js.n)
    (h : key js j ≤ key js k) :
    js.task j < js.task k ∨ (js.task j = js.task k ∧ j ≤ k) := by
  unfold key at h
  rcases Nat.lt_trichotomy (js.task j) (js.task k) with hlt | heq | hgt
  · exact Or.inl hlt
  · right
    rw [heq] at h
    exact ⟨heq, by omega⟩
  · exfalso
    have h1 : (js.task k + 1) * js.n ≤ js.task j * js.n := Nat.mul_le_mul_right _ hgt
    rw [Nat.add_mul, Nat.one_mul] at h1
    omega

end TightFPLemmas
open TightFPLemmas TightLemmas FpSoundLemmas RTA.PruneCoreLemmas RTA.PruneFPLemmas

/-- C18, fully preemptive FP: the bound is attained in every legal schedule of a job set that
realises the curves from `t₀` -/
theorem fp_preemptive_bound_attained (s : Sys) (i : ℕ) (a : Arr) (C : ℕ) (hp : List (Arr × ℕ))
    (hS : FpSetting s id i (.rbf a (.scalar C)) (hp.map fun p => RB.rbf p.1 (.scalar p.2)) 0)
    (hnp : ∀ l x, ¬ s.np l x)
    (hwf : a.WF) (hex : a.Exact) (hC : 1 ≤ C)
    (hwfo : ∀ p ∈ hp, p.1.WF ∧ p.1.Exact ∧ 1 ≤ p.2)
    (limit R L t₀ : ℕ)
    (hR : fpPreemptive (.rbf a (.scalar C)) (hp.map fun p => RB.rbf p.1 (.scalar p.2)) limit = .ok R)
    (hL : naiveSolve (fun x => 0 + sumNeed (hp.map fun p => RB.rbf p.1 (.scalar p.2)) x +
        (RB.rbf a (.scalar C)).need x) limit = .ok L)
    (hown : ∀ Δ, Δ ≤ L → cntOf s (fun x => x = i) t₀ (t₀ + Δ) = a.N Δ)
    (hcost : ∀ k, k < s.n → s.task k = i → s.cost k = C)
    (hhp : ∀ Δ, Δ ≤ L → workOf s (fun x => x < i) t₀ (t₀ + Δ) =
        sumNeed (hp.map fun p => RB.rbf p.1 (.scalar p.2)) Δ)
    (hRpos : 0 < R) :
    ∃ j, j < s.n ∧ s.task j = i ∧ MeetsBound s j R ∧ ∀ R', R' < R → ¬ MeetsBound s j R' := by
  have ho := othersOK_scalar hp hwfo
  obtain ⟨j, hj, hji, hlow⟩ := fp_bound_not_beaten s i a C 0 0 _ hS hwf hex hC ho (by omega)
    limit R L t₀ hR hL hown hcost hhp
    (fun j st _ _ hst _ => by
      -- without non-preemptable states every slot is scheduled by priority
      rcases hS.legal.prio st j hst with ⟨_, _, _, h⟩ | h
      · exact absurd h (hnp _ _)
      · exact h)
    (fun v h1 h2 => by omega) hRpos
  exact ⟨j, hj, hji, fp_preemptive_sound s id i _ _ hS (rbf_scalar_ok hwf hex hC).1
    (rbf_scalar_ok hwf hex hC).2 ho limit R hR j hj hji, hlow⟩

/-- every job set has a legal fully preemptive fixed-priority schedule (priorities = task
indices, jobs of one task in index order) -/
theorem exists_fp_preemptive_schedule (js : JobSet) :
    ∃ sched, JlfpLegal (js.withSched sched) (hepFP (js.withSched sched) id) := by
  refine ⟨greedy js (key js) (fun _ _ => false),
    greedy_valid js (key js) _ _ (fun _ _ h => by cases h), fun _ _ _ _ hnp => hnp.elim, ?_⟩
  intro t j h
  rcases greedy_min js (key js) (fun _ _ => false) (fun _ _ => False) t j h with ⟨_, _, _, h⟩ | h
  · cases h
  · exact Or.inr fun k hk hpk => key_le js j k hk (h k hk hpk)

end RTA.Sched
