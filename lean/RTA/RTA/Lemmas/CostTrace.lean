import RTA.Lemmas.Cost
/-! C14: a WCET curve inferred from a trace of job costs bounds every run of consecutive jobs.
`wcet::Curve::from_trace` sums its sliding window from the newest cost backwards (crate commit
88c7b2d, finding F1); `CostTraceLemmas` holds the invariant of that loop. -/

namespace RTA

/-- total cost of the run of `n` consecutive jobs of the trace starting at position `s` -/
def runCost (tr : List Nat) (s n : Nat) : Nat := sumList ((tr.drop s).take n)

namespace CostTraceLemmas
open CostLemmas

theorem runCost_zero (tr : List Nat) (s : Nat) : runCost tr s 0 = 0 := by
  rw [runCost, List.take_zero]; rfl

theorem runCost_add (tr : List Nat) (s a b : Nat) :
    runCost tr s (a + b) = runCost tr s a + runCost tr (s + a) b := by
  simp only [runCost, sumList_eq_sum]
  rw [List.take_add, List.sum_append, List.drop_drop]

theorem runCost_cons_succ (c : Nat) (rd : List Nat) (j n : Nat) :
    runCost (c :: rd) (j + 1) n = runCost rd j n := by
  rw [runCost, List.drop_succ_cons]; rfl

theorem runCost_reverse (tr : List Nat) (s j n : Nat) (h : s + n + j = tr.length) :
    runCost tr.reverse j n = runCost tr s n := by
  simp only [runCost, sumList_eq_sum]
  rw [List.drop_reverse, List.take_reverse, List.sum_reverse, List.length_take, List.drop_take,
    show tr.length - j = s + n by omega, show min (s + n) tr.length - n = s by omega,
    Nat.add_sub_cancel_left]

/-- a missing entry of `cs` counts as 0, so both non-trivial equations of `go` are one -/
theorem costTraceUpdate_go_cons (cs : List Nat) (v : Nat) (vs : List Nat) (tot : Nat) :
    costTraceUpdate.go cs (v :: vs) tot =
      max (cs.getD 0 0) (tot + v) :: costTraceUpdate.go cs.tail vs (tot + v) := by
  cases cs with
  | nil => rw [costTraceUpdate.go]; exact congrArg (· :: _) (Nat.zero_max _).symm
  | cons x xs => rw [costTraceUpdate.go]; rfl

theorem costTraceUpdate_go_length : ∀ (ks cs : List Nat) (tot : Nat),
    (costTraceUpdate.go cs ks tot).length = max cs.length ks.length := by
  intro ks
  induction ks with
  | nil => intro cs tot; cases cs <;> rfl
  | cons v vs ih =>
    intro cs tot
    rw [costTraceUpdate_go_cons, List.length_cons, ih]
    cases cs with
    | nil => rw [List.tail_nil, List.length_nil, Nat.zero_max, Nat.zero_max, List.length_cons]
    | cons x xs => rw [List.tail_cons, List.length_cons, List.length_cons, Nat.succ_max_succ]

theorem costTraceUpdate_go_getD : ∀ (ks cs : List Nat) (tot k : Nat),
    (costTraceUpdate.go cs ks tot).getD k 0 =
      if k < ks.length then max (cs.getD k 0) (tot + sumList (ks.take (k + 1))) else cs.getD k 0 := by
  intro ks
  induction ks with
  | nil => intro cs tot k; cases cs <;> rfl
  | cons v vs ih =>
    intro cs tot k
    rw [costTraceUpdate_go_cons, List.length_cons, List.take_succ_cons, sumList]
    cases k with
    | zero => rw [List.getD_cons_zero, if_pos (Nat.succ_pos _), List.take_zero, sumList, Nat.add_zero]
    | succ k =>
      have et : cs.tail.getD k 0 = cs.getD (k + 1) 0 := by cases cs <;> rfl
      rw [List.getD_cons_succ, ih, et, Nat.add_assoc]
      simp only [Nat.add_lt_add_iff_right]
/-- `v` is the largest total cost of a run of `m` consecutive entries of `rd` -/
def IsMaxRun (rd : List Nat) (m v : Nat) : Prop :=
  (∀ j, j + m ≤ rd.length → runCost rd j m ≤ v) ∧ (∃ j, j + m ≤ rd.length ∧ runCost rd j m = v)

/-- a new entry in front adds exactly one run of each length: the one starting there -/
theorem IsMaxRun.cons {rd : List Nat} {m v : Nat} (h : IsMaxRun rd m v) (c : Nat) :
    IsMaxRun (c :: rd) m (max v (runCost (c :: rd) 0 m)) := by
  obtain ⟨hub, j0, hj0, hatt⟩ := h
  constructor
  · intro j _
    cases j with
    | zero => exact Nat.le_max_right _ _
    | succ j =>
      rw [runCost_cons_succ]
      exact Nat.le_trans (hub j (by rw [List.length_cons] at *; omega)) (Nat.le_max_left _ _)
  · rcases Nat.le_total (runCost (c :: rd) 0 m) v with hmax | hmax
    · exact ⟨j0 + 1, by rw [List.length_cons]; omega,
        by rw [runCost_cons_succ, Nat.max_eq_left hmax, hatt]⟩
    · exact ⟨0, by rw [List.length_cons]; omega, by rw [Nat.max_eq_right hmax]⟩

theorem isMaxRun_whole (l : List Nat) : IsMaxRun l l.length (runCost l 0 l.length) :=
  ⟨fun j hj => by rw [show j = 0 by omega]; exact Nat.le_refl _, 0, by omega, rfl⟩

/-- the invariant of `from_trace`: `rd` = the costs processed so far, most recent first -/
def FromTraceInv (maxN : Nat) (rd costOf : List Nat) : Prop :=
  costOf.length = min maxN rd.length ∧ ∀ i, i < costOf.length → IsMaxRun rd (i + 1) (costOf.getD i 0)

theorem fromTraceInv_step (maxN : Nat) (rd costOf : List Nat) (c : Nat) (h : FromTraceInv maxN rd costOf) :
    FromTraceInv maxN (c :: rd) (costTraceUpdate.go costOf ((c :: rd).take maxN) 0) := by
  obtain ⟨hlen, hk⟩ := h
  have hwl : ((c :: rd).take maxN).length = min maxN (rd.length + 1) := List.length_take
  have hlen' : (costTraceUpdate.go costOf ((c :: rd).take maxN) 0).length
      = min maxN (rd.length + 1) := by
    rw [costTraceUpdate_go_length, hwl, hlen]; omega
  refine ⟨hlen', fun i hi => ?_⟩
  rw [hlen'] at hi
  obtain ⟨h1, h2⟩ := Nat.lt_min.1 hi
  rw [costTraceUpdate_go_getD, hwl, if_pos hi, Nat.zero_add, List.take_take, Nat.min_eq_left h1]
  show IsMaxRun (c :: rd) (i + 1) (max (costOf.getD i 0) (runCost (c :: rd) 0 (i + 1)))
  by_cases hic : i < costOf.length
  · exact (hk i hic).cons c
  · -- no run of `i + 1` entries before: the whole of `c :: rd` is the only one now
    rw [List.getD_eq_getElem?_getD, List.getElem?_eq_none (Nat.le_of_not_lt hic), Option.getD_none,
      Nat.zero_max,
      show i + 1 = (c :: rd).length by rw [List.length_cons]; omega]
    exact isMaxRun_whole _

theorem window_step (maxN : Nat) (rd window : List Nat) (c : Nat)
    (hw : window.reverse = rd.take maxN) :
    (if (window ++ [c]).length > maxN then (window ++ [c]).drop 1 else window ++ [c]).reverse
      = (c :: rd).take maxN := by
  have hr : (window ++ [c]).reverse = c :: rd.take maxN := by
    rw [List.reverse_append, hw]; rfl
  by_cases hgt : (window ++ [c]).length > maxN
  · have hl : window.length ≤ maxN := by
      rw [← List.length_reverse, hw, List.length_take]; exact Nat.min_le_left _ _
    rw [if_pos hgt, List.reverse_drop, hr]
    rw [List.length_append, List.length_singleton] at hgt ⊢
    rw [Nat.add_sub_cancel, Nat.le_antisymm hl (Nat.le_of_lt_succ hgt), take_cons_take]
  · rw [if_neg hgt, hr, ← take_cons_take maxN c rd]
    exact (List.take_of_length_le
      (by rw [← hr, List.length_reverse]; exact Nat.le_of_not_lt hgt)).symm

theorem costFromTraceAux_inv (maxN : Nat) : ∀ (rest rd costOf window : List Nat),
    window.reverse = rd.take maxN → FromTraceInv maxN rd costOf →
    FromTraceInv maxN (rest.reverse ++ rd) (costFromTraceAux maxN rest costOf window) := by
  intro rest
  induction rest with
  | nil => intro rd costOf window _ h; exact h
  | cons c cs ih =>
    intro rd costOf window hw h
    rw [costFromTraceAux, List.reverse_cons, List.append_assoc, List.singleton_append]
    have hw2 := window_step maxN rd window c hw
    apply ih (c :: rd) _ _ hw2
    rw [costTraceUpdate, hw2]
    exact fromTraceInv_step maxN rd costOf c h

end CostTraceLemmas
open CostTraceLemmas CostLemmas

/-- `from_trace` records, for every `i < min max_n len`, the maximum total cost over all
runs of `i + 1` consecutive jobs of the trace -/
theorem costFromTrace_spec (tr : List Nat) (maxN : Nat) :
    (costFromTrace tr maxN).length = min maxN tr.length ∧
    ∀ i, i < (costFromTrace tr maxN).length →
      (∀ s, s + (i + 1) ≤ tr.length → runCost tr s (i + 1) ≤ (costFromTrace tr maxN).getD i 0) ∧
      (∃ s, s + (i + 1) ≤ tr.length ∧ runCost tr s (i + 1) = (costFromTrace tr maxN).getD i 0) := by
  have h := costFromTraceAux_inv maxN tr [] [] [] List.take_nil.symm ⟨(Nat.min_zero maxN).symm, fun i hi => absurd hi (Nat.not_lt_zero i)⟩
  rw [List.append_nil] at h
  obtain ⟨hlen, hk⟩ := h
  rw [List.length_reverse] at hlen
  refine ⟨hlen, fun i hi => ?_⟩
  obtain ⟨hub, j0, hj0, hatt⟩ := hk i hi
  rw [List.length_reverse] at hub hj0
  -- `runCost_reverse`: positions `s` of the trace and `j` of the reversed trace with
  -- `s + (i + 1) + j = len` start the same run
  constructor
  · intro s hs
    obtain ⟨j, hj⟩ := Nat.exists_eq_add_of_le hs
    rw [← runCost_reverse tr s j (i + 1) hj.symm]
    exact hub j (by omega)
  · obtain ⟨s, hs⟩ := Nat.exists_eq_add_of_le hj0
    refine ⟨s, by omega, ?_⟩
    rw [← runCost_reverse tr s j0 (i + 1) (by omega)]
    exact hatt

theorem costFromTrace_sorted (tr : List Nat) (maxN : Nat) :
    (costFromTrace tr maxN).Pairwise (· ≤ ·) := by
  apply sorted_of_adjacent
  intro k hk
  obtain ⟨hlen, hspec⟩ := costFromTrace_spec tr maxN
  -- a maximal run of `k + 1` jobs extends by one job to the right, or else to the left
  obtain ⟨s, hs, hatt⟩ := (hspec k (by omega)).2
  have hub := (hspec (k + 1) hk).1
  rw [← hatt]
  by_cases hr : s + (k + 1 + 1) ≤ tr.length
  · have h1 := hub s hr
    rw [runCost_add tr s (k + 1) 1] at h1
    exact Nat.le_trans (Nat.le_add_right _ _) h1
  · obtain ⟨s', rfl⟩ : ∃ s', s = s' + 1 := ⟨s - 1, by omega⟩
    have h1 := hub s' (by omega)
    rw [Nat.add_comm (k + 1) 1, runCost_add tr s' 1 (k + 1)] at h1
    exact Nat.le_trans (Nat.le_add_left _ _) h1

/-- a cumulative vector bounds the runs of a trace up to its length -/
def BoundsRuns (w tr : List Nat) : Prop :=
  ∀ s n, 1 ≤ n → n ≤ w.length → s + n ≤ tr.length → runCost tr s n ≤ w.getD (n - 1) 0

theorem costFromTrace_boundsRuns (tr : List Nat) (maxN : Nat) :
    BoundsRuns (costFromTrace tr maxN) tr := by
  intro s n h1 h2 h3
  have := ((costFromTrace_spec tr maxN).2 (n - 1) (by omega)).1 s (by omega)
  rwa [Nat.sub_add_cancel h1] at this

/-- if `W` bounds all runs up to its length, so does `W` with its extrapolated entry: that
entry is `W[i] + W[j]` with `(i + 1) + (j + 1)` jobs, and the run splits there -/
theorem boundsRuns_step (W tr : List Nat) (hne : W ≠ []) (hb : BoundsRuns W tr) :
    BoundsRuns (W ++ [costExtrapolateNext W]) tr := by
  intro s n hn1 hn hrun
  rw [List.length_append, List.length_singleton] at hn
  rcases Nat.lt_or_ge W.length n with hlt | hle
  · obtain ⟨⟨i, j, hij, he⟩, _⟩ := costExtrapolateNext_spec W hne
    obtain rfl : n = (i + 1) + (j + 1) := by omega
    rw [show i + 1 + (j + 1) - 1 = W.length by omega, getD_append_last, he, runCost_add]
    rw [← Nat.add_assoc] at hrun
    exact Nat.add_le_add (hb s (i + 1) (Nat.succ_pos i) (by omega) (Nat.le_trans (Nat.le_add_right _ _) hrun))
      (hb (s + (i + 1)) (j + 1) (Nat.succ_pos j) (by omega) hrun)
  · rw [getD_append_left (Nat.lt_of_lt_of_le (Nat.sub_lt hn1 Nat.one_pos) hle)]
    exact hb s n hn1 hle hrun

theorem costIterExt_boundsRuns (w tr : List Nat) (hne : w ≠ []) (hb : BoundsRuns w tr) (k : Nat) :
    BoundsRuns (costIterExt w k) tr :=
  (costIterExt_induction (P := fun W => W ≠ [] ∧ BoundsRuns W tr) ⟨hne, hb⟩
    (fun W h => ⟨List.append_ne_nil_of_left_ne_nil h.1 _, boundsRuns_step W tr h.1 h.2⟩) k).2

/-- C14 (`from_trace_bounds_every_run`, `extrapolation_dominates_trace`): a curve over a vector that
bounds the runs up to its length bounds every run of every length. -/
theorem costCurveOf_boundsRuns (w tr : List Nat) (hne : w ≠ []) (hb : BoundsRuns w tr) (s n : Nat)
    (hrun : s + n ≤ tr.length) : runCost tr s n ≤ costCurveOf w n :=
  le_costCurveOf_of_blocks w hne (runCost tr) tr.length
    (fun s a b _ => Nat.le_of_eq (runCost_add tr s a b))
    (fun s n hn hs => by
      rcases Nat.eq_zero_or_pos n with rfl | h1
      · rw [runCost_zero]; exact Nat.zero_le _
      · rw [costCurveOf_lookup w n h1 hn]; exact hb s n h1 hn hs)
    n s hrun

end RTA
