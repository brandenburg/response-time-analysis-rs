import Mathlib.Algebra.BigOperators.Group.Finset.Basic
import Mathlib.Algebra.BigOperators.Group.Finset.Piecewise
import Mathlib.Algebra.Order.BigOperators.Group.Finset
import Mathlib.Algebra.BigOperators.Ring.Finset
import Mathlib.Tactic.Linarith
import RTA.Spec.Sched
import RTA.Spec.SupplyProc
/-! Service counting over a schedule, shared by every schedule-level soundness proof.

Every notion of a legal schedule in this development (dedicated processor or reservation,
FIFO, fixed priority, the ROS 2 executor) agrees on one thing: a slot serves only a released,
incomplete job (`ServesPending`).  What follows from that alone is collected here: the service
`sv` and the cost `wk` of a class of jobs, the supply a class receives in a window whose
supplied slots all serve it (`sv_supply`), completion of a class in a window that serves only it
and a blocking class and supplies its cost plus the blocking (`window_done`), and the last quiet
time before a release. -/

open Finset Classical

namespace RTA.Sched
open RTA.Spec

variable {s : Sys} {σ : ℕ → Bool}

theorem svc_succ (j t : ℕ) :
    svc s j (t + 1) = svc s j t + if s.sched t = some j then 1 else 0 := rfl

theorem svc_succ_of_ne (j t : ℕ) (h : s.sched t ≠ some j) : svc s j (t + 1) = svc s j t := by
  rw [svc_succ, if_neg h]; rfl

theorem svc_succ_of_eq (j t : ℕ) (h : s.sched t = some j) : svc s j (t + 1) = svc s j t + 1 := by
  rw [svc_succ, if_pos h]

theorem sched_of_svc_lt (j t : ℕ) (h : svc s j t < svc s j (t + 1)) : s.sched t = some j := by
  by_cases hs : s.sched t = some j
  · exact hs
  · rw [svc_succ_of_ne j t hs] at h; omega

theorem svc_mono (j : ℕ) {a b : ℕ} (h : a ≤ b) : svc s j a ≤ svc s j b := by
  induction b, h using Nat.le_induction with
  | base => exact le_refl _
  | succ b _ ih => rw [svc_succ]; omega

theorem svc_run (k a : ℕ) : ∀ len, (∀ i < len, s.sched (a + i) = some k) →
    svc s k (a + len) = svc s k a + len := by
  intro len
  induction len with
  | zero => intro _; rfl
  | succ len ih =>
    intro h
    rw [← Nat.add_assoc, svc_succ_of_eq k _ (h len (Nat.lt_succ_self _)),
      ih (fun i hi => h i (by omega)), Nat.add_assoc]

theorem svc_const (k x : ℕ) : ∀ y, x ≤ y → (∀ u, x ≤ u → u < y → s.sched u ≠ some k) →
    svc s k y = svc s k x := by
  intro y hxy
  induction y, hxy using Nat.le_induction with
  | base => intro _; rfl
  | succ y hy ih =>
    intro h
    rw [svc_succ_of_ne k y (h y hy (by omega))]
    exact ih (fun u h1 h2 => h u h1 (by omega))

theorem svc_le_len (k x : ℕ) : ∀ len, svc s k (x + len) ≤ svc s k x + len := by
  intro len
  induction len with
  | zero => exact le_refl _
  | succ len ih =>
    have e : x + (len + 1) = (x + len) + 1 := by omega
    rw [e, svc_succ]
    split <;> omega

theorem exists_slot_of_level (j lvl : ℕ) : ∀ t, lvl < svc s j t →
    ∃ st, st < t ∧ s.sched st = some j ∧ svc s j st = lvl := by
  intro t
  induction t with
  | zero => intro h; exact absurd h (Nat.not_lt_zero _)
  | succ t ih =>
    intro h
    rcases Nat.lt_or_ge lvl (svc s j t) with h1 | h1
    · obtain ⟨st, h2, h3⟩ := ih h1
      exact ⟨st, by omega, h3⟩
    · exact ⟨t, Nat.lt_succ_self t, sched_of_svc_lt j t (by omega), by
        have := svc_le_len (s := s) j t 1
        omega⟩

theorem exists_start (k x : ℕ) (h : 0 < svc s k x) :
    ∃ u, u < x ∧ s.sched u = some k ∧ svc s k u = 0 := exists_slot_of_level k 0 x h

theorem exists_last_unstarted (s : Sys) (j T : ℕ) :
    ∃ st, st ≤ T ∧ svc s j st = 0 ∧ ∀ u, st < u → u ≤ T → 0 < svc s j u :=
  ⟨Nat.findGreatest (fun u => svc s j u = 0) T, Nat.findGreatest_le _,
    Nat.findGreatest_spec (P := fun u => svc s j u = 0) (Nat.zero_le _) rfl,
    fun _ h1 h2 => Nat.pos_of_ne_zero
      (Nat.findGreatest_is_greatest (P := fun u => svc s j u = 0) h1 h2)⟩

/-- only released, incomplete jobs are served -/
def ServesPending (s : Sys) : Prop := ∀ t j, s.sched t = some j → Pending s j t

theorem Valid.servesPending (h : Valid s) : ServesPending s := fun t j e => (h.valid t j e).2

namespace ServesPending

theorem svc_le_cost (hv : ServesPending s) (j t : ℕ) : svc s j t ≤ s.cost j := by
  induction t with
  | zero => exact Nat.zero_le _
  | succ t ih =>
    by_cases h : s.sched t = some j
    · have := (hv t j h).2
      rw [svc_succ_of_eq j t h]; omega
    · rw [svc_succ_of_ne j t h]; exact ih

theorem svc_zero_before (hv : ServesPending s) (j t : ℕ) (h : t ≤ s.arr j) : svc s j t = 0 := by
  induction t with
  | zero => rfl
  | succ t ih =>
    rw [svc_succ_of_ne j t (fun e => by have := (hv t j e).1; omega)]
    exact ih (by omega)

theorem done_mono (hv : ServesPending s) (j : ℕ) {a b : ℕ} (h : a ≤ b)
    (hd : svc s j a = s.cost j) : svc s j b = s.cost j := by
  induction b, h using Nat.le_induction with
  | base => exact hd
  | succ b _ ih =>
    rw [svc_succ_of_ne j b (fun e => by have := (hv b j e).2; omega)]
    exact ih

end ServesPending

theorem service_true (t d : ℕ) : service (fun _ => true) t d = d := by
  induction d with
  | zero => rfl
  | succ d ih => simp [service, ih]

/-- service received up to `t` by the jobs in class `P` -/
noncomputable def sv (s : Sys) (P : ℕ → Prop) (t : ℕ) : ℕ :=
  ∑ k ∈ range s.n, if P k then svc s k t else 0

/-- total cost of the jobs in class `P` -/
noncomputable def wk (s : Sys) (P : ℕ → Prop) : ℕ :=
  ∑ k ∈ range s.n, if P k then s.cost k else 0

theorem sv_step (P : ℕ → Prop) (t j : ℕ) (hj : s.sched t = some j) (hjn : j < s.n) (hP : P j) :
    sv s P (t + 1) = sv s P t + 1 := by
  unfold sv
  have : ∀ k ∈ range s.n, (if P k then svc s k (t + 1) else 0)
      = (if P k then svc s k t else 0) + (if k = j then 1 else 0) := by
    intro k _
    by_cases hk : k = j
    · subst hk; rw [svc_succ_of_eq k t hj]; simp [hP]
    · have : s.sched t ≠ some k := by rw [hj]; intro h; injection h with h; exact hk h.symm
      rw [svc_succ_of_ne k t this]; simp [hk]
  rw [sum_congr rfl this, sum_add_distrib]
  congr 1
  rw [sum_ite_eq']
  simp [hjn]

theorem sv_le_succ (P : ℕ → Prop) (t : ℕ) : sv s P t ≤ sv s P (t + 1) := by
  unfold sv
  refine sum_le_sum (fun k _ => ?_)
  split
  · exact Nat.le_add_right _ _
  · exact le_refl _

theorem sv_step_le (P : ℕ → Prop) (t : ℕ) : sv s P (t + 1) ≤ sv s P t + 1 := by
  by_cases h : ∃ j, s.sched t = some j ∧ j < s.n ∧ P j
  · obtain ⟨j, h1, h2, h3⟩ := h
    rw [sv_step P t j h1 h2 h3]
  · have : sv s P (t + 1) = sv s P t := by
      unfold sv
      refine sum_congr rfl (fun k hk => ?_)
      by_cases hP : P k
      · rw [if_pos hP, if_pos hP]
        exact svc_succ_of_ne k t (fun hs => h ⟨k, hs, mem_range.1 hk, hP⟩)
      · rw [if_neg hP, if_neg hP]
    omega

theorem sv_le_len (P : ℕ → Prop) (x : ℕ) : ∀ len, sv s P (x + len) ≤ sv s P x + len := by
  intro len
  induction len with
  | zero => exact le_refl _
  | succ len ih =>
    have e : x + (len + 1) = (x + len) + 1 := by omega
    have := sv_step_le (s := s) P (x + len)
    rw [e]; omega

theorem sv_supply (P : ℕ → Prop) (a : ℕ) :
    ∀ len, (∀ u, a ≤ u → u < a + len → σ u = true →
        ∃ j, s.sched u = some j ∧ j < s.n ∧ P j) →
      sv s P a + service σ a len ≤ sv s P (a + len) := by
  intro len
  induction len with
  | zero => intro _; exact le_refl _
  | succ len ih =>
    intro h
    have ih' := ih (fun u h1 h2 => h u h1 (by omega))
    have e : a + (len + 1) = (a + len) + 1 := by omega
    rw [e]
    show sv s P a + (service σ a len + (if σ (a + len) then 1 else 0)) ≤ _
    by_cases hσ : σ (a + len) = true
    · obtain ⟨j, hj, hjn, hjP⟩ := h (a + len) (by omega) (by omega) hσ
      rw [sv_step P (a + len) j hj hjn hjP, if_pos hσ]; omega
    · have := sv_le_succ (s := s) P (a + len)
      rw [if_neg hσ]; omega

theorem sv_le_wk (hv : ServesPending s) (P : ℕ → Prop) (t : ℕ) : sv s P t ≤ wk s P := by
  unfold sv wk
  refine sum_le_sum (fun k _ => ?_)
  split
  · exact hv.svc_le_cost k t
  · exact le_refl _

theorem all_done_of_sv_eq (hv : ServesPending s) (P : ℕ → Prop) (t : ℕ)
    (h : sv s P t = wk s P) (k : ℕ) (hk : k < s.n) (hP : P k) : svc s k t = s.cost k := by
  unfold sv wk at h
  have hle : ∀ i ∈ range s.n, (if P i then svc s i t else 0) ≤ (if P i then s.cost i else 0) := by
    intro i _
    split
    · exact hv.svc_le_cost i t
    · exact le_refl _
  have := (sum_eq_sum_iff_of_le hle).1 h k (mem_range.2 hk)
  rwa [if_pos hP, if_pos hP] at this

theorem sv_imp (P Q : ℕ → Prop) (t : ℕ) (h : ∀ k, k < s.n → P k → Q k) : sv s P t ≤ sv s Q t := by
  unfold sv
  refine sum_le_sum (fun k hk => ?_)
  by_cases hP : P k
  · rw [if_pos hP, if_pos (h k (mem_range.1 hk) hP)]
  · rw [if_neg hP]; exact Nat.zero_le _

theorem sv_or_le (P Q : ℕ → Prop) (t : ℕ) :
    sv s (fun k => P k ∨ Q k) t ≤ sv s P t + sv s Q t := by
  unfold sv
  rw [← sum_add_distrib]
  refine sum_le_sum (fun k _ => ?_)
  by_cases hP : P k <;> by_cases hQ : Q k <;> simp [hP, hQ]

theorem sv_or_disj (P Q : ℕ → Prop) (t : ℕ) (hd : ∀ k, P k → Q k → False) :
    sv s (fun k => P k ∨ Q k) t = sv s P t + sv s Q t := by
  unfold sv
  rw [← sum_add_distrib]
  refine sum_congr rfl (fun k _ => ?_)
  by_cases hP : P k <;> by_cases hQ : Q k
  · exact absurd hQ (fun h => hd k hP h)
  · simp [hP, hQ]
  · simp [hP, hQ]
  · simp [hP, hQ]

theorem sv_zero (P : ℕ → Prop) (t : ℕ) (h : ∀ k, k < s.n → P k → svc s k t = 0) : sv s P t = 0 := by
  unfold sv
  refine sum_eq_zero (fun k hk => ?_)
  by_cases hP : P k
  · rw [if_pos hP]; exact h k (mem_range.1 hk) hP
  · rw [if_neg hP]

theorem sv_single (J t : ℕ) (hJ : J < s.n) : sv s (fun k => k = J) t = svc s J t := by
  unfold sv
  have e : (∑ k ∈ range s.n, if k = J then svc s k t else 0) = svc s J t := by
    rw [sum_ite_eq', if_pos (mem_range.2 hJ)]
  rw [← e]
  refine sum_congr rfl (fun k _ => ?_)
  split_ifs <;> rfl

theorem sv_split (hv : ServesPending s) (P : ℕ → Prop) (j t : ℕ) (hj : j < s.n) :
    sv s P t ≤ wk s (fun k => k ≠ j ∧ P k) + svc s j t := by
  unfold sv wk
  have : ∀ k ∈ range s.n, (if P k then svc s k t else 0)
      ≤ (if (k ≠ j ∧ P k) then s.cost k else 0) + (if k = j then svc s j t else 0) := by
    intro k _
    by_cases hk : k = j
    · subst hk; simp; split <;> omega
    · simp [hk]; split
      · exact hv.svc_le_cost k t
      · exact le_refl _
  calc _ ≤ ∑ k ∈ range s.n, ((if (k ≠ j ∧ P k) then s.cost k else 0) + (if k = j then svc s j t else 0)) :=
        sum_le_sum this
    _ = _ := by
      rw [sum_add_distrib, sum_ite_eq']
      simp only [mem_range, hj, if_true]
      congr 1
      refine sum_congr rfl (fun k _ => ?_)
      split_ifs <;> rfl

theorem wk_imp (P Q : ℕ → Prop) (h : ∀ k, k < s.n → P k → Q k) : wk s P ≤ wk s Q := by
  unfold wk
  refine sum_le_sum (fun k hk => ?_)
  by_cases hP : P k
  · rw [if_pos hP, if_pos (h k (mem_range.1 hk) hP)]
  · rw [if_neg hP]; exact Nat.zero_le _

theorem wk_or_le (P Q : ℕ → Prop) : wk s (fun k => P k ∨ Q k) ≤ wk s P + wk s Q := by
  unfold wk
  rw [← sum_add_distrib]
  refine sum_le_sum (fun k _ => ?_)
  by_cases hP : P k <;> by_cases hQ : Q k <;> simp [hP, hQ]

theorem sum_split_off {n j : ℕ} (hj : j < n) (F G : ℕ → ℕ) (h : ∀ k, k ≠ j → G k = F k)
    (h0 : G j = 0) {x : ℕ} (hx : F j = x) : ∑ k ∈ range n, G k + x = ∑ k ∈ range n, F k := by
  rw [← add_sum_erase _ F (mem_range.2 hj), ← add_sum_erase _ G (mem_range.2 hj), h0, hx,
    Nat.zero_add, Nat.add_comm]
  congr 1
  exact sum_congr rfl fun k hk => h k (ne_of_mem_erase hk)

theorem sv_split_eq (s : Sys) (P : ℕ → Prop) (j t : ℕ) (hj : j < s.n) (hP : P j) :
    sv s (fun k => k ≠ j ∧ P k) t + svc s j t = sv s P t := by
  unfold sv
  exact sum_split_off hj _ _ (fun k hk => by simp only [hk, ne_eq, not_false_eq_true, true_and])
    (by simp) (if_pos hP)

theorem wk_split (s : Sys) (P : ℕ → Prop) (j : ℕ) (hj : j < s.n) (hP : P j) :
    wk s (fun k => k ≠ j ∧ P k) + s.cost j = wk s P := by
  unfold wk
  exact sum_split_off hj _ _ (fun k hk => by simp only [hk, ne_eq, not_false_eq_true, true_and])
    (by simp) (if_pos hP)

theorem wk_or_disj (P Q : ℕ → Prop) (hd : ∀ k, P k → Q k → False) :
    wk s (fun k => P k ∨ Q k) = wk s P + wk s Q := by
  unfold wk
  rw [← sum_add_distrib]
  refine sum_congr rfl (fun k _ => ?_)
  by_cases hP : P k <;> by_cases hQ : Q k
  · exact absurd hQ (fun h => hd k hP h)
  · simp [hP, hQ]
  · simp [hP, hQ]
  · simp [hP, hQ]

/-- number of the jobs in class `P` -/
noncomputable def cntP (s : Sys) (P : ℕ → Prop) : ℕ := ∑ k ∈ range s.n, if P k then 1 else 0

theorem cntP_split (s : Sys) (P : ℕ → Prop) (j : ℕ) (hj : j < s.n) (hP : P j) :
    cntP s (fun k => k ≠ j ∧ P k) + 1 = cntP s P := by
  unfold cntP
  exact sum_split_off hj _ _ (fun k hk => by simp only [hk, ne_eq, not_false_eq_true, true_and])
    (by simp) (if_pos hP)

theorem wk_le_mul_cntP (s : Sys) (P : ℕ → Prop) (C : ℕ)
    (h : ∀ k, k < s.n → P k → s.cost k ≤ C) : wk s P ≤ C * cntP s P := by
  unfold wk cntP
  rw [mul_sum]
  refine sum_le_sum (fun k hk => ?_)
  by_cases hP : P k
  · rw [if_pos hP, if_pos hP, Nat.mul_one]; exact h k (mem_range.1 hk) hP
  · rw [if_neg hP]; exact Nat.zero_le _

theorem work_eq_wk (s : Sys) (a b : ℕ) : work s a b = wk s (fun k => a ≤ s.arr k ∧ s.arr k < b) := by
  unfold work wk
  refine sum_congr rfl (fun k _ => ?_)
  split_ifs <;> rfl

theorem cost_le_work (s : Sys) (j : ℕ) (hj : j < s.n) :
    s.cost j ≤ work s (s.arr j) (s.arr j + 1) := by
  unfold work
  have h := single_le_sum (f := fun k => if s.arr j ≤ s.arr k ∧ s.arr k < s.arr j + 1 then s.cost k else 0)
    (fun _ _ => Nat.zero_le _) (mem_range.2 hj)
  simpa using h

theorem workOf_eq_wk (s : Sys) (ts : ℕ → Prop) [DecidablePred ts] (a b : ℕ) :
    workOf s ts a b = wk s (fun k => ts (s.task k) ∧ a ≤ s.arr k ∧ s.arr k < b) := by
  unfold workOf wk
  refine sum_congr rfl (fun k _ => ?_)
  split_ifs <;> rfl

/-- all jobs of class `P` released before `t` are complete at `t` -/
def QuietFor (s : Sys) (P : ℕ → Prop) (t : ℕ) : Prop :=
  ∀ k < s.n, P k → s.arr k < t → svc s k t = s.cost k

theorem exists_last_quiet (s : Sys) (P : ℕ → Prop) (a : ℕ) :
    ∃ t0, t0 ≤ a ∧ QuietFor s P t0 ∧ ∀ t, t0 < t → t ≤ a → ¬ QuietFor s P t :=
  ⟨Nat.findGreatest (QuietFor s P) a, Nat.findGreatest_le _,
    Nat.findGreatest_spec (P := QuietFor s P) (Nat.zero_le _)
      (fun _ _ _ h => absurd h (Nat.not_lt_zero _)),
    fun _ h1 h2 => Nat.findGreatest_is_greatest h1 h2⟩

theorem pending_of_not_quiet (hv : ServesPending s) (P : ℕ → Prop) (u : ℕ)
    (h : ¬ QuietFor s P (u + 1)) : ∃ k, k < s.n ∧ P k ∧ Pending s k u := by
  apply Classical.byContradiction
  intro hno
  apply h
  intro k hk hP ha
  apply Classical.byContradiction
  intro hne
  apply hno
  refine ⟨k, hk, hP, by omega, ?_⟩
  have := hv.svc_le_cost k (u + 1)
  have := svc_succ (s := s) k u
  split at this <;> omega

theorem arr_ge_of_quiet (hv : ServesPending s) {P : ℕ → Prop} {g u j : ℕ} (hq : QuietFor s P g)
    (hu : g ≤ u) (hs : s.sched u = some j) (hj : j < s.n) (hP : P j) : g ≤ s.arr j := by
  by_contra hlt
  have := hv.done_mono j hu (hq j hj hP (by omega))
  have := (hv u j hs).2
  omega

theorem quiet_of_window_done (hv : ServesPending s) (P : ℕ → Prop) (t0 len : ℕ)
    (hq : QuietFor s P t0)
    (hdone : ∀ k, k < s.n → P k → t0 ≤ s.arr k → s.arr k < t0 + len →
      svc s k (t0 + len) = s.cost k) : QuietFor s P (t0 + len) := by
  intro k hk hP ha
  rcases Nat.lt_or_ge (s.arr k) t0 with hlt | hge
  · exact hv.done_mono k (Nat.le_add_right _ _) (hq k hk hP hlt)
  · exact hdone k hk hP hge ha

/-- A window `[a, a + len)` whose supplied slots all serve a job of class `P` or of class
`Bk`: if no member of `P` was released before `a`, the service of `Bk` grows by at most `B`
over the window and the supply covers the cost of `P` plus `B`, every member of `P` is
complete at the end of the window. -/
theorem window_done (hv : ServesPending s) (P Bk : ℕ → Prop) (hd : ∀ k, Bk k → P k → False)
    (a len B : ℕ)
    (hserve : ∀ u, a ≤ u → u < a + len → σ u = true →
      ∃ j, s.sched u = some j ∧ j < s.n ∧ (Bk j ∨ P j))
    (hP0 : ∀ k, k < s.n → P k → a ≤ s.arr k)
    (hBk : sv s Bk (a + len) ≤ sv s Bk a + B)
    (hw : wk s P + B ≤ service σ a len) :
    ∀ k, k < s.n → P k → svc s k (a + len) = s.cost k := by
  have hb := sv_supply (s := s) (σ := σ) (fun k => Bk k ∨ P k) a len hserve
  rw [sv_or_disj _ _ _ hd, sv_or_disj _ _ _ hd,
    sv_zero P a (fun k hk hP => hv.svc_zero_before k a (hP0 k hk hP))] at hb
  have := sv_le_wk hv P (a + len)
  exact all_done_of_sv_eq hv P (a + len) (by omega)

/-- In a schedule that serves some pending job in every supplied slot, a quiet time `g` is
followed by another one within `L` slots whenever the supply of `[g, g + L)` covers the work
released in it. -/
theorem next_quiet (hv : ServesPending s) (hn : ∀ t j, s.sched t = some j → j < s.n)
    (hwc : ∀ t, σ t = true → (∃ k < s.n, Pending s k t) → ∃ j, s.sched t = some j)
    (g L : ℕ) (hL : 0 < L) (hq : QuietFor s (fun _ => True) g)
    (hw : work s g (g + L) ≤ service σ g L) :
    ∃ g', g < g' ∧ g' ≤ g + L ∧ QuietFor s (fun _ => True) g' := by
  by_contra hno
  push Not at hno
  apply hno (g + L) (by omega) (le_refl _)
  refine quiet_of_window_done hv _ g L hq fun k hk _ h1 h2 => ?_
  rw [work_eq_wk] at hw
  refine window_done (σ := σ) hv (fun k => g ≤ s.arr k ∧ s.arr k < g + L) (fun _ => False)
    (fun _ h _ => h) g L 0 ?_ (fun _ _ h => h.1) ?_ hw k hk ⟨h1, h2⟩
  · intro u hu1 hu2 hσ
    obtain ⟨k', hk', _, hp⟩ := pending_of_not_quiet hv _ u (hno (u + 1) (by omega) (by omega))
    obtain ⟨j', hj'⟩ := hwc u hσ ⟨k', hk', hp⟩
    have := (hv u j' hj').1
    exact ⟨j', hj', hn u j' hj',
      Or.inr ⟨arr_ge_of_quiet hv hq hu1 hj' (hn u j' hj') trivial, by omega⟩⟩
  · rw [sv_zero _ _ (fun _ _ h => h.elim)]; exact Nat.zero_le _

end RTA.Sched
