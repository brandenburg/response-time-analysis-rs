import RTA.Lemmas.FpSoundEq
/-! Non-vacuity of `fpe_preemptive_sound`: a concrete system with TWO DIFFERENT TASKS ON THE
SAME PRIORITY LEVEL (not expressible with `FpSetting`, whose field `inj` demands distinct
priorities), a schedule that is legal for the order with ties, and the analysis result; the
setting itself follows from compliance with the task set in `FpSoundCompliantExample`. -/

open Finset Classical

namespace RTA.Sched.FpEqExample
open RTA RTA.Spec RTA.Sched RTA.Sched.J

/-- two jobs, one of task 0 and one of task 1, both released at time 0 with cost 1; the tie
is broken AGAINST task 0: job 1 runs in slot 0, job 0 in slot 1 -/
def eqSys : Sys :=
  { n := 2, task := fun k => k, arr := fun _ => 0, cost := fun _ => 1, np := fun _ _ => False,
    sched := fun t => if t = 0 then some 1 else if t = 1 then some 0 else none }

/-- both tasks share priority level 0 -/
def eqPr : ℕ → ℕ := fun _ => 0

/-- request bound of either task: periodic with period 10, WCET 1 -/
def tua : RB := .rbf (.periodic 10) (.scalar 1)

theorem eqSys_sched_iff (t k : ℕ) : eqSys.sched t = some k ↔ t + k = 1 := by
  show (if t = 0 then some 1 else if t = 1 then some 0 else none) = some k ↔ _
  split_ifs with h0 h1
  · subst h0; simp only [Option.some.injEq]; omega
  · subst h1; simp only [Option.some.injEq]; omega
  · simp only [false_iff]; omega

theorem eqSys_svc (k t : ℕ) (hk : k ≤ 1) : svc eqSys k t = min (t + k - 1) 1 := by
  induction t with
  | zero => show 0 = _; omega
  | succ t ih => simp only [svc, ih, eqSys_sched_iff]; split_ifs <;> omega

theorem eqSys_legal : JlfpLegal eqSys (hepFPe eqSys eqPr) := by
  refine { valid := ?_, wc := ?_, cont := ?_, prio := ?_ }
  · intro t j h
    have hj := (eqSys_sched_iff t j).1 h
    refine ⟨show j < 2 by omega, Nat.zero_le _, ?_⟩
    rw [eqSys_svc j t (by omega)]
    show _ < 1
    omega
  · rintro t ⟨k, hk, _, hp⟩
    have hk2 : k < 2 := hk
    rw [eqSys_svc k t (by omega)] at hp
    have hp1 : min (t + k - 1) 1 < 1 := hp
    exact ⟨1 - t, (eqSys_sched_iff t _).2 (by omega)⟩
  · intro t k _ _ hnp
    exact absurd hnp (by simp [eqSys])
  · intro t j _
    right
    intro k _ _
    right
    exact ⟨rfl, le_refl _⟩

theorem tua_arrWF : tua.ArrWF := by
  simp [tua, RB.ArrWF, Arr.WF]

theorem tua_exact : tua.Exact := by
  simp only [tua, RB.Exact, Arr.Exact, true_and]
  exact Cost.scalar_strictPos 1 (le_refl _)

theorem others_ok : OthersOK [tua] := by
  intro o ho
  simp only [List.mem_singleton] at ho
  subst ho
  exact ⟨tua_arrWF, tua_exact⟩

/-- the analysis result for task 0: interference of one job of the equal-priority task 1 -/
theorem eqSys_result : fpPreemptive tua [tua] 100 = .ok 2 := by
  decide +kernel

/-- job 0 is not complete at time `release + 1`: the bound 2 is tight for this schedule -/
theorem eqSys_attained : ¬ MeetsBound eqSys 0 1 ∧ MeetsBound eqSys 0 2 := by
  unfold MeetsBound Completed
  rw [eqSys_svc 0 _ (Nat.zero_le _), eqSys_svc 0 _ (Nat.zero_le _)]
  decide

end RTA.Sched.FpEqExample
