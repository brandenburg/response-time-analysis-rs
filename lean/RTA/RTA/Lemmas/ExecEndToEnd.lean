import RTA.Lemmas.ExecJobs
import RTA.Lemmas.PollingExec
/-! Counting for the end-to-end theorems, whose hypotheses are on the INPUTS of a run (callback
table `cbs`, release pattern `rels`, arrival curves): the jobs of a run are its release events,
so the number and the work of the jobs released in a window are bounded through
`relCount rels k t d` = number of releases of callback `k` in the window `[t, t + d)`. -/

namespace RTA.Exec
open RTA RTA.Sched RTA.Spec

/-- number of releases of callback `k` in the slots `[t, t + d)` -/
def relCount (rels : ℕ → List ℕ) (k t d : ℕ) : ℕ :=
  ((List.range d).map fun u => (rels (t + u)).count k).sum

end RTA.Exec

namespace RTA.Exec.EndToEndLemmas
open RTA RTA.Sched RTA.Spec RTA.Exec Finset

theorem sum_range_getD {α} (f : α → ℕ) (d : α) : ∀ l : List α,
    ∑ k ∈ range l.length, f (l.getD k d) = (l.map f).sum := by
  intro l
  induction l with
  | nil => simp
  | cons a l ih =>
    rw [List.length_cons, Finset.sum_range_succ', List.map_cons, List.sum_cons, ← ih]
    simp [Nat.add_comm]

theorem list_range_sum (f : ℕ → ℕ) : ∀ n, ((List.range n).map f).sum = ∑ i ∈ range n, f i := by
  intro n
  induction n with
  | zero => simp
  | succ n ih => rw [List.range_succ, List.map_append, List.sum_append, ih, Finset.sum_range_succ]; simp

theorem list_filter_sum (p : ℕ → Bool) (g : ℕ → ℕ) : ∀ n,
    (((List.range n).filter p).map g).sum = ∑ k ∈ range n, if p k = true then g k else 0 := by
  intro n
  induction n with
  | zero => simp
  | succ n ih =>
    rw [List.range_succ, List.filter_append, List.map_append, List.sum_append, ih,
      Finset.sum_range_succ]
    cases hp : p n <;> simp [hp]

theorem events_sum (rels : ℕ → List ℕ) (w : ℕ × ℕ → ℕ) : ∀ H,
    ((events rels H).map w).sum = ∑ u ∈ range H, ((rels u).map fun i => w (u, i)).sum := by
  intro H
  induction H with
  | zero => simp [events]
  | succ H ih =>
    rw [RefineLemmas.events_succ, List.map_append, List.sum_append, ih, Finset.sum_range_succ,
      List.map_map]
    rfl

theorem window_sum_le (f : ℕ → ℕ) (H t d : ℕ) :
    ∑ u ∈ range H, (if t ≤ u ∧ u < t + d then f u else 0) ≤ ∑ v ∈ range d, f (t + v) := by
  rw [← Finset.sum_filter]
  have e : ∑ v ∈ range d, f (t + v) = ∑ u ∈ (range d).image (fun v => t + v), f u := by
    rw [Finset.sum_image]
    intro a _ b _ h
    simpa using h
  rw [e]
  apply Finset.sum_le_sum_of_subset
  intro u hu
  simp only [Finset.mem_filter, Finset.mem_range] at hu
  simp only [Finset.mem_image, Finset.mem_range]
  exact ⟨u - t, by omega, by omega⟩

theorem events_sum_le (rels : ℕ → List ℕ) (H t d : ℕ)
    (P : ℕ → Prop) [DecidablePred P] (c : ℕ → ℕ) :
    (∑ k ∈ range (events rels H).length,
      if P ((events rels H).getD k (0, 0)).2 ∧ t ≤ ((events rels H).getD k (0, 0)).1 ∧
          ((events rels H).getD k (0, 0)).1 < t + d
        then c ((events rels H).getD k (0, 0)).2 else 0) ≤
    ∑ v ∈ range d, ((rels (t + v)).map fun i => if P i then c i else 0).sum := by
  have e1 := sum_range_getD
    (fun e : ℕ × ℕ => if P e.2 ∧ t ≤ e.1 ∧ e.1 < t + d then c e.2 else 0) (0, 0) (events rels H)
  have e2 := events_sum rels
    (fun e : ℕ × ℕ => if P e.2 ∧ t ≤ e.1 ∧ e.1 < t + d then c e.2 else 0) H
  have e3 := window_sum_le (fun u => ((rels u).map fun i => if P i then c i else 0).sum) H t d
  rw [e1, e2]
  refine Nat.le_trans (Nat.le_of_eq ?_) e3
  apply Finset.sum_congr rfl
  intro u _
  by_cases hu : t ≤ u ∧ u < t + d
  · rw [if_pos hu]
    congr 1
    apply List.map_congr_left
    intro i _
    simp [hu]
  · rw [if_neg hu]
    apply List.sum_eq_zero
    intro x hx
    simp only [List.mem_map] at hx
    obtain ⟨i, _, rfl⟩ := hx
    rw [if_neg (fun h => hu h.2)]

theorem count_eq_sum (k : ℕ) : ∀ l : List ℕ,
    (l.map fun i => if i = k then 1 else 0).sum = l.count k := by
  intro l
  induction l with
  | nil => simp
  | cons a l ih =>
    rw [List.map_cons, List.sum_cons, ih, List.count_cons]
    by_cases h : a = k
    · subst h; simp; omega
    · have : ¬ (a == k) = true := by simpa using h
      simp [h]

theorem relCount_eq (rels : ℕ → List ℕ) (k t d : ℕ) :
    relCount rels k t d = ∑ v ∈ range d, (rels (t + v)).count k := by
  unfold relCount
  exact list_range_sum _ d

theorem group_sum (n : ℕ) (P : ℕ → Prop) [DecidablePred P] (c : ℕ → ℕ) : ∀ l : List ℕ,
    (∀ i ∈ l, i < n) →
    (l.map fun i => if P i then c i else 0).sum =
      ∑ k ∈ range n, if P k then l.count k * c k else 0 := by
  intro l
  induction l with
  | nil => intro _; simp
  | cons a l ih =>
    intro hl
    have ha : a < n := hl a (by simp)
    rw [List.map_cons, List.sum_cons, ih (fun i hi => hl i (List.mem_cons_of_mem _ hi))]
    have : ∀ k, (if P k then (a :: l).count k * c k else 0) =
        (if k = a then (if P k then c k else 0) else 0) + (if P k then l.count k * c k else 0) := by
      intro k
      rw [List.count_cons]
      by_cases hk : k = a
      · subst hk
        by_cases hp : P k
        · simp [hp, Nat.add_mul]; omega
        · simp [hp]
      · have : ¬ (a == k) = true := by simpa using fun h => hk h.symm
        simp [hk, this]
    rw [Finset.sum_congr rfl (fun k _ => this k), Finset.sum_add_distrib, Finset.sum_ite_eq']
    simp [ha]

theorem count_events_le (rels : ℕ → List ℕ) (H k t d : ℕ) :
    (∑ j ∈ range (events rels H).length,
      if ((events rels H).getD j (0, 0)).2 = k ∧ t ≤ ((events rels H).getD j (0, 0)).1 ∧
          ((events rels H).getD j (0, 0)).1 < t + d then 1 else 0) ≤ relCount rels k t d := by
  rw [relCount_eq]
  refine Nat.le_trans (events_sum_le rels H t d (fun i => i = k) (fun _ => 1)) (Nat.le_of_eq ?_)
  apply Finset.sum_congr rfl
  intro v _
  exact count_eq_sum k _

theorem work_events_le (cbs : List Cb) (rels : ℕ → List ℕ) (H : ℕ)
    (hidx : ∀ t, ∀ i ∈ rels t, i < cbs.length)
    (ts : ℕ → Prop) [DecidablePred ts] (t d : ℕ) :
    (∑ j ∈ range (events rels H).length,
      if ts ((events rels H).getD j (0, 0)).2 ∧ t ≤ ((events rels H).getD j (0, 0)).1 ∧
          ((events rels H).getD j (0, 0)).1 < t + d
        then (cbs.getD ((events rels H).getD j (0, 0)).2 default).cost else 0) ≤
      (((List.range cbs.length).filter fun k => decide (ts k)).map fun k =>
        relCount rels k t d * (cbs.getD k default).cost).sum := by
  refine Nat.le_trans (events_sum_le rels H t d ts (fun i => (cbs.getD i default).cost))
    (Nat.le_of_eq ?_)
  rw [list_filter_sum]
  rw [Finset.sum_congr rfl (fun v _ => group_sum cbs.length ts
    (fun i => (cbs.getD i default).cost) (rels (t + v)) (hidx (t + v)))]
  rw [Finset.sum_comm]
  apply Finset.sum_congr rfl
  intro k _
  by_cases hk : ts k
  · simp only [hk, if_true, decide_true]
    rw [relCount_eq, Finset.sum_mul]
  · simp [hk]

theorem agg_wf (arrs : List Arr) (n : ℕ) (hlen : arrs.length = n)
    (hwf : ∀ a ∈ arrs, a.WF ∧ a.Exact) (c : ℕ → ℕ) (hc : ∀ k, k < n → 1 ≤ c k) :
    ∀ ks : List ℕ, (∀ k ∈ ks, k < n) →
      RB.ArrWFList (ks.map fun k => .rbf (arrs.getD k default) (.scalar (c k))) ∧
      RB.ExactList (ks.map fun k => .rbf (arrs.getD k default) (.scalar (c k))) := by
  intro ks
  induction ks with
  | nil => intro _; simp [RB.ArrWFList, RB.ExactList]
  | cons a ks ih =>
    intro h
    have ha : a < n := h a (by simp)
    have hm := hwf _ (getD_mem arrs a (by omega))
    have := ih (fun k hk => h k (List.mem_cons_of_mem _ hk))
    simp only [List.map_cons, RB.ArrWFList, RB.ExactList, RB.ArrWF, RB.Exact]
    exact ⟨⟨hm.1, this.1⟩, ⟨hm.2, Cost.scalar_strictPos _ (hc a ha)⟩, this.2⟩

theorem need_le (arrs : List Arr) (rels : ℕ → List ℕ) (c : ℕ → ℕ) (t d : ℕ) :
    ∀ ks : List ℕ, (∀ k ∈ ks, relCount rels k t d ≤ (arrs.getD k default).N d) →
      (ks.map fun k => relCount rels k t d * c k).sum ≤
        RB.needList (ks.map fun k => .rbf (arrs.getD k default) (.scalar (c k))) d := by
  intro ks
  induction ks with
  | nil => intro _; simp [RB.needList]
  | cons a ks ih =>
    intro h
    have := ih (fun k hk => h k (List.mem_cons_of_mem _ hk))
    simp only [List.map_cons, List.sum_cons, RB.needList, RB.need, Cost.ofJobs]
    have h1 : relCount rels a t d * c a ≤ c a * (arrs.getD a default).N d := by
      rw [Nat.mul_comm]; exact Nat.mul_le_mul_left _ (h a (by simp))
    omega

theorem relCount_succ (rels : ℕ → List ℕ) (k t d : ℕ) :
    relCount rels k t (d + 1) = relCount rels k t d + (rels (t + d)).count k := by
  unfold relCount
  rw [List.range_succ, List.map_append, List.sum_append]
  simp

/-- the releases in `[t, t + d)` are at most the multiples of `p` there:
`⌈(t + d) / p⌉ - ⌈t / p⌉ ≤ ⌈d / p⌉` -/
theorem relCount_periodic (rels : ℕ → List ℕ) (k p : ℕ) (hp : 1 ≤ p)
    (h : ∀ x, (rels x).count k ≤ if x % p = 0 then 1 else 0) (t d : ℕ) :
    relCount rels k t d ≤ (Arr.periodic p).N d := by
  have key : ∀ d, relCount rels k t d + ceilDiv t p ≤ ceilDiv (t + d) p := by
    intro d
    induction d with
    | zero => simp [relCount]
    | succ d ih =>
      rw [relCount_succ]
      have hc := h (t + d)
      by_cases hm : (t + d) % p = 0
      · rw [if_pos hm] at hc
        have := (ceilDiv_step (t + d) p hp).2
          ⟨(t + d) / p, by have := Nat.div_add_mod (t + d) p; omega⟩
        rw [Nat.add_assoc] at this
        omega
      · rw [if_neg hm] at hc
        have := ceilDiv_le_of_le p hp (show t + d ≤ t + (d + 1) by omega)
        omega
  have := key d
  have := ceilDiv_add_le p hp t d
  rw [periodic_N_eq]
  omega

theorem relCount_zero (rels : ℕ → List ℕ) (n : ℕ) (hidx : ∀ t, ∀ i ∈ rels t, i < n)
    (k : ℕ) (hk : n ≤ k) (t d : ℕ) : relCount rels k t d = 0 := by
  unfold relCount
  apply List.sum_eq_zero
  intro x hx
  simp only [List.mem_map, List.mem_range] at hx
  obtain ⟨u, _, rfl⟩ := hx
  apply List.count_eq_zero.2
  intro hm
  have := hidx _ _ hm
  omega

theorem mem_filter_range_lt (n : ℕ) (p : ℕ → Bool) : ∀ k ∈ (List.range n).filter p, k < n := by
  intro k hk
  exact List.mem_range.1 (List.mem_filter.1 hk).1

end RTA.Exec.EndToEndLemmas
