import RTA.Lemmas.Derive
/-! The hypothesis `hreach` of the C12 theorems (the 64-step doubling search of the model finds
a horizon by which the source admits enough arrivals) follows from a plain size condition: the
source admits that many arrivals within `2^65 - 1` time units. -/

namespace RTA

namespace DeriveReachLemmas

/-- the horizon after `fuel` unconditional doublings from `H`: where the doubling search gives up -/
def lastH : Nat → Nat → Nat
  | 0, H => H
  | f + 1, H => lastH f (2 * H + 1)

theorem lastH_eq (f H : Nat) : lastH f H = 2 ^ f * (H + 1) - 1 := by
  induction f generalizing H with
  | zero => simp [lastH]
  | succ f ih =>
    rw [lastH, ih, Nat.pow_succ]
    have : 2 * H + 1 + 1 = 2 * (H + 1) := by omega
    rw [this, Nat.mul_assoc]

theorem horizonFor_lastH (a : Arr) (n : Nat) (fuel : Nat) :
    ∀ H, n ≤ a.N (lastH fuel H) → n ≤ a.N (Arr.horizonFor a n fuel H) := by
  induction fuel with
  | zero => intro H h; simpa [lastH, Arr.horizonFor] using h
  | succ f ih =>
    intro H h
    rw [Arr.horizonFor]
    split
    · assumption
    · exact ih _ (by simpa [lastH] using h)

end DeriveReachLemmas

/-- the doubling search (64 doublings from 1: horizons 1, 3, 7, …, 2^65 - 1) reaches `n`
arrivals whenever the source admits `n` arrivals within `2^65 - 1` time units -/
theorem Arr.horizonFor_reaches (a : Arr) (n : Nat) (h : n ≤ a.N (2 ^ 65 - 1)) :
    n ≤ a.N (Arr.horizonFor a n 64 1) := by
  apply DeriveReachLemmas.horizonFor_lastH
  rw [DeriveReachLemmas.lastH_eq]
  exact h

theorem curveOfBound_dominates_of_size (a : Arr) (hwf : a.WF) (hex : a.Exact) (upTo : Nat)
    (hsize : max upTo 3 + 1 ≤ a.N (2 ^ 65 - 1))
    (hpos : 1 ≤ a.N 1) (hsub : SubAdditive a.N) (hlast : 1 ≤ (a.curveOfBound upTo).getLastD 0) :
    (∀ x, a.N x ≤ curveN (a.curveOfBound upTo) x) ∧
    (∀ x, x < (a.curveOfBound upTo).getLastD 0 → curveN (a.curveOfBound upTo) x = a.N x) :=
  curveOfBound_dominates a hwf hex upTo (Arr.horizonFor_reaches a _ hsize) hpos hsub hlast

end RTA
