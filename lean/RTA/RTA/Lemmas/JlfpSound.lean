import RTA.Lemmas.SchedJlfp
import RTA.Lemmas.PruneFP
/-! C01/C02: what the instances of the abstract busy-window theorem share.  The number of
releases of a task in a window, the own workload of the task under analysis in its busy window,
and what `Ok(R)` means for an analysis that first solves for the busy-window bound `L` and then
maximises per-offset solutions over `A < L`. -/

open Finset Classical

namespace RTA.Sched
open RTA RTA.Spec RTA.Sched.J

/-- number of jobs of the tasks in `ts` released in `[a, b)` -/
noncomputable def cntOf (s : Sys) (ts : ℕ → Prop) (a b : ℕ) : ℕ :=
  ∑ k ∈ range s.n, if ts (s.task k) ∧ a ≤ s.arr k ∧ s.arr k < b then 1 else 0

namespace FpSoundLemmas
open RTA.PruneCoreLemmas RTA.PruneFPLemmas

theorem cntOf_eq (s : Sys) (ts : ℕ → Prop) (a b : ℕ) :
    cntOf s ts a b = cntP s (fun k => ts (s.task k) ∧ a ≤ s.arr k ∧ s.arr k < b) := by
  unfold cntOf cntP
  refine sum_congr rfl (fun k _ => ?_)
  split_ifs <;> rfl

theorem own_work_le (s : Sys) (i : ℕ) (tua : RB)
    (hw : ∀ t d, workOf s (fun x => x = i) t (t + d) ≤ tua.need d)
    (j : ℕ) (hj : j < s.n) (hji : s.task j = i) (t0 : ℕ) (ht0 : t0 ≤ s.arr j) :
    wk s (fun k => k ≠ j ∧ (s.task k = i ∧ t0 ≤ s.arr k ∧ s.arr k < s.arr j + 1)) + s.cost j
      ≤ tua.need (s.arr j - t0 + 1) := by
  have h1 := hw t0 (s.arr j - t0 + 1)
  rw [workOf_eq_wk, show t0 + (s.arr j - t0 + 1) = s.arr j + 1 by omega] at h1
  rw [wk_split s (fun k => s.task k = i ∧ t0 ≤ s.arr k ∧ s.arr k < s.arr j + 1) j hj
    ⟨hji, ht0, by omega⟩]
  exact h1

theorem own_work_le_scalar (s : Sys) (i : ℕ) (a : Arr) (C : ℕ)
    (hcnt : ∀ t d, cntOf s (fun x => x = i) t (t + d) ≤ a.N d)
    (hC : ∀ k, k < s.n → s.task k = i → s.cost k ≤ C)
    (j : ℕ) (hj : j < s.n) (hji : s.task j = i) (t0 : ℕ) (ht0 : t0 ≤ s.arr j) :
    wk s (fun k => k ≠ j ∧ (s.task k = i ∧ t0 ≤ s.arr k ∧ s.arr k < s.arr j + 1)) + C
      ≤ (RB.rbf a (.scalar C)).need (s.arr j - t0 + 1) := by
  have h1 := hcnt t0 (s.arr j - t0 + 1)
  rw [cntOf_eq, show t0 + (s.arr j - t0 + 1) = s.arr j + 1 by omega,
    ← cntP_split s (fun k => s.task k = i ∧ t0 ≤ s.arr k ∧ s.arr k < s.arr j + 1) j hj
      ⟨hji, ht0, by omega⟩] at h1
  have h3 := wk_le_mul_cntP s
    (fun k => k ≠ j ∧ (s.task k = i ∧ t0 ≤ s.arr k ∧ s.arr k < s.arr j + 1)) C
    (fun k hk hp => hC k hk hp.2.1)
  have h4 := Nat.mul_le_mul_left C h1
  rw [Nat.mul_succ] at h4
  show _ ≤ C * a.N (s.arr j - t0 + 1)
  omega

theorem solution_pos {B N rem I AF W rt : ℕ} (hAF : B + (N - rem) + I ≤ AF)
    (hown : W + rt + rem ≤ N) (hrt0 : 0 < rt) : max AF 1 = AF := by omega

/-- a solution `AF` of the per-offset recurrence with own workload `W + rt + rem ≤ N` solves the
recurrence of `reach_rt`, and `AF - A + rem` covers the completion of a job needing
`c - rt ≤ rem` more -/
theorem solution_arith {B N rem I AF R W rt c a t0 : ℕ} (hAF : B + (N - rem) + I ≤ AF)
    (hAFR : AF - (a - t0) + rem ≤ R) (hown : W + rt + rem ≤ N) (hc : c ≤ rt + rem)
    (ht0 : t0 ≤ a) : B + (W + I) + rt ≤ AF ∧ t0 + AF + (c - rt) ≤ a + R := by omega

/-- what `Ok(R)` means for a busy-window bound `L` solving `wL` followed by the maximum over
the offsets `A < L` of `AF - A + rem`, `AF` solving `w A` -/
theorem naive_offsets_ok (wL : ℕ → ℕ) (w : ℕ → ℕ → ℕ) (per : ℕ → Res) (rem limit R : ℕ)
    (hper : ∀ A, per A = match naiveSolve (w A) limit with
      | .ok AF => .ok (AF - A + rem)
      | e => e)
    (hw1 : 0 < wL 1)
    (hR : (match naiveSolve wL limit with
      | .ok L => naiveMax ((List.range L).map per)
      | e => e) = .ok R) :
    ∃ L, 0 < L ∧ wL L ≤ L ∧ ∀ A, A < L → ∃ AF, w A (max AF 1) ≤ AF ∧ AF - A + rem ≤ R := by
  rcases naiveSolve_cases wL limit with ⟨L, hL⟩ | hd
  · rw [hL] at hR
    have hLs : wL (max L 1) ≤ L := ((naiveSolve_ok_iff _ _ _).1 hL).2.1
    have hLpos : 0 < L := by
      by_contra h0
      obtain rfl : L = 0 := by omega
      have : wL 1 ≤ 0 := hLs
      omega
    rw [Nat.max_eq_left hLpos] at hLs
    refine ⟨L, hLpos, hLs, fun A hA => ?_⟩
    obtain ⟨v, hv, hvR⟩ := (naiveMax_ok_elim _ R hR).1 (per A)
      (List.mem_map.2 ⟨A, List.mem_range.2 hA, rfl⟩)
    rw [hper] at hv
    rcases naiveSolve_cases (w A) limit with ⟨AF, h⟩ | h
    · rw [h] at hv
      injection hv with hv
      exact ⟨AF, ((naiveSolve_ok_iff _ _ _).1 h).2.1, by omega⟩
    · rw [h] at hv
      cases hv
  · rw [hd] at hR
    cases hR

end FpSoundLemmas

end RTA.Sched
