import RTA.Lemmas.Extrapolate
/-! C13, cache transparency: every history of queries on clones sharing one
`ExtrapolatingCurve` cache returns what fresh objects would return; a fresh iterator enumerates
`xcurveSteps` (`freshNext_eq_steps`, `freshNext_isSome`). -/

namespace RTA

/-- the value returned by the `k`-th `next()` (k = 0, 1, …) of an iterator obtained from a
FRESH `ExtrapolatingCurve` over `d0` on which nothing else is ever done -/
def freshNext (d0 : List Nat) (k : Nat) : Option Nat :=
  (((XState.init d0).run (.newIter :: List.replicate (k + 1) (.next 0))).getLast?).join

/-- history-free reference semantics: `number_arrivals` answers `xcurveN d0`, the `k`-th
`next()` of any iterator answers `freshNext d0 k`; `cs` = number of `next()` calls so far
per iterator -/
def xPure (d0 : List Nat) : List XOp → List Nat → List (Option Nat)
  | [], _ => []
  | .na delta :: ops, cs => some (xcurveN d0 delta) :: xPure d0 ops cs
  | .newIter :: ops, cs => none :: xPure d0 ops (cs ++ [0])
  | .next i :: ops, cs =>
    match cs[i]? with
    | none => none :: xPure d0 ops cs
    | some k => freshNext d0 k :: xPure d0 ops (cs.set i (k + 1))

namespace XLTS

theorem iterExt_add (d : List Nat) (n k : Nat) : iterExt (iterExt d n) k = iterExt d (n + k) := by
  induction k with
  | zero => rfl
  | succ k ih =>
    show iterExt (iterExt d n) k ++ [extrapolateNext (iterExt (iterExt d n) k)]
      = iterExt d (n + k) ++ [extrapolateNext (iterExt d (n + k))]
    rw [ih]

theorem xAdvance_is_iterExt (dist fuel : Nat) : ∀ (P : List Nat) (nj : Nat),
    ∃ n, (xAdvance dist fuel P nj).1 = iterExt P n := by
  induction fuel with
  | zero => intro P nj; exact ⟨0, rfl⟩
  | succ f ih =>
    intro P nj
    unfold xAdvance
    split
    · obtain ⟨k, hk⟩ := extrapolateSteps_is_iterExt P (nj + 1) (nj + 1)
      obtain ⟨n, hn⟩ := ih (extrapolateSteps P (nj + 1) (nj + 1)) (nj + 1)
      exact ⟨k + n, by rw [hn, hk, iterExt_add]⟩
    · exact ⟨0, rfl⟩

theorem step_na (s : XState) (delta : Nat) :
    s.step (.na delta) =
      if delta = 0 then (s, some 0)
      else ({ s with pfx := extrapolate s.pfx (delta + 1) (extrapolateFuel s.pfx (delta + 1)) },
        some (curveN (extrapolate s.pfx (delta + 1) (extrapolateFuel s.pfx (delta + 1))) delta)) := rfl

theorem step_newIter (s : XState) :
    s.step .newIter =
      if s.pfx.length ≥ 2 then ({ s with iters := s.iters ++ [.ext 0 0] }, none)
      else ({ s with iters := s.iters ++ [.per (minDistance s.pfx 2) 0] }, none) := rfl

theorem step_next_none (s : XState) (i : Nat) (h : s.iters[i]? = none) :
    s.step (.next i) = (s, none) := by
  simp only [XState.step, h]

theorem step_next_per (s : XState) (i period j : Nat) (h : s.iters[i]? = some (.per period j)) :
    s.step (.next i) =
      ({ s with iters := s.iters.set i (.per period (j + 1)) }, some (period * j + 1)) := by
  simp only [XState.step, h]

theorem step_next_ext (s : XState) (i dist nj : Nat) (h : s.iters[i]? = some (.ext dist nj)) :
    s.step (.next i) =
      ({ pfx := (xAdvance dist (xAdvanceFuel s.pfx dist nj) s.pfx nj).1,
         iters := s.iters.set i
          (.ext (minDistance (xAdvance dist (xAdvanceFuel s.pfx dist nj) s.pfx nj).1
                  (xAdvance dist (xAdvanceFuel s.pfx dist nj) s.pfx nj).2)
                (xAdvance dist (xAdvanceFuel s.pfx dist nj) s.pfx nj).2) },
       some (1 + dist)) := by
  simp only [XState.step, h]

/-- entry `i` of the infinitely extrapolated delta-min sequence -/
def dInf (d0 : List Nat) (i : Nat) : Nat := (iterExt d0 (i + 1)).getD i 0

theorem iterExt_getD_dInf (d0 : List Nat) (n i : Nat) (hi : i < d0.length + n) :
    (iterExt d0 n).getD i 0 = dInf d0 i := by
  unfold dInf
  rcases Nat.le_total n (i + 1) with h | h
  · obtain ⟨k, hk⟩ : ∃ k, i + 1 = n + k := ⟨i + 1 - n, by omega⟩
    rw [hk, iterExt_getD_prefix d0 n k i hi]
  · obtain ⟨k, hk⟩ : ∃ k, n = (i + 1) + k := ⟨n - (i + 1), by omega⟩
    rw [hk, iterExt_getD_prefix d0 (i + 1) k i (by omega)]

theorem dInf_mono (d0 : List Nat) (hwf : curveWF d0) (i j : Nat) (hij : i ≤ j) :
    dInf d0 i ≤ dInf d0 j := by
  rw [← iterExt_getD_dInf d0 (j + 1) i (by omega), ← iterExt_getD_dInf d0 (j + 1) j (by omega)]
  exact sorted_getD_le _ (iterExt_wf d0 hwf (j + 1)).2.1 i j hij (by rw [iterExt_length]; omega)

/-- `min_distance` on the infinite sequence -/
def minDInf (d0 : List Nat) (j : Nat) : Nat := if j > 1 then dInf d0 (j - 2) else 0

theorem minDInf_mono (d0 : List Nat) (hwf : curveWF d0) (i j : Nat) (hij : i ≤ j) :
    minDInf d0 i ≤ minDInf d0 j := by
  unfold minDInf
  split
  · rw [if_pos (by omega)]
    exact dInf_mono d0 hwf _ _ (by omega)
  · exact Nat.zero_le _

theorem minDistance_iterExt (d0 : List Nat) (n j : Nat) (h2 : 2 ≤ d0.length)
    (hj : j ≤ d0.length + n) : minDistance (iterExt d0 n) j = minDInf d0 j := by
  unfold minDistance minDInf
  split
  · rw [iterExt_length, Nat.min_eq_left (by omega), iterExt_getD_dInf d0 n (j - 2) (by omega)]
  · rfl

theorem dInf_ge (d0 : List Nat) (hwf : curveWF d0) (h2 : 2 ≤ d0.length) (i : Nat) :
    (i + 1) / d0.length ≤ dInf d0 i := by
  by_cases hi : i + 1 < d0.length
  · rw [Nat.div_eq_of_lt hi]; exact Nat.zero_le _
  · obtain ⟨n, hn⟩ : ∃ n, i + 1 = d0.length + n := ⟨i + 1 - d0.length, by omega⟩
    have h := iterExt_last_ge d0 hwf h2 n
    rw [← getD_last _, iterExt_length, ← hn, Nat.add_sub_cancel,
      iterExt_getD_dInf d0 n i (by omega)] at h
    exact h

def advPure (d0 : List Nat) (dist : Nat) : Nat → Nat → Nat
  | 0, nj => nj
  | fuel + 1, nj => if minDInf d0 nj ≤ dist then advPure d0 dist fuel (nj + 1) else nj

/-- `r` is the first job count `≥ nj` whose minimum distance exceeds `dist` -/
def IsAdv (d0 : List Nat) (dist nj r : Nat) : Prop :=
  nj ≤ r ∧ dist < minDInf d0 r ∧ ∀ j, nj ≤ j → j < r → minDInf d0 j ≤ dist

theorem advPure_spec (d0 : List Nat) (dist fuel : Nat) : ∀ nj,
    (∃ j, nj ≤ j ∧ j < nj + fuel ∧ dist < minDInf d0 j) →
    IsAdv d0 dist nj (advPure d0 dist fuel nj) := by
  induction fuel with
  | zero => rintro nj ⟨j, h1, h2, _⟩; omega
  | succ f ih =>
    rintro nj ⟨j, h1, h2, h3⟩
    unfold advPure
    split
    · rename_i hc
      have hne : j ≠ nj := by rintro rfl; omega
      obtain ⟨a, b, c⟩ := ih (nj + 1) ⟨j, by omega, by omega, h3⟩
      refine ⟨by omega, b, ?_⟩
      intro j' hj1 hj2
      by_cases e : j' = nj
      · subst e; exact hc
      · exact c j' (by omega) hj2
    · rename_i hc
      exact ⟨Nat.le_refl _, by omega, fun j' a b => by omega⟩

theorem isAdv_unique (d0 : List Nat) (dist nj r r' : Nat) (h : IsAdv d0 dist nj r)
    (h' : IsAdv d0 dist nj r') : r = r' := by
  obtain ⟨a, b, c⟩ := h
  obtain ⟨a', b', c'⟩ := h'
  rcases Nat.lt_trichotomy r r' with hlt | heq | hgt
  · have := c' r a hlt; omega
  · exact heq
  · have := c r' a' hgt; omega

theorem xAdvanceFuel_suffices (d0 : List Nat) (hwf : curveWF d0) (h2 : 2 ≤ d0.length) (dist nj : Nat)
    (P : List Nat) (hL : d0.length ≤ P.length) :
    ∃ j, nj ≤ j ∧ j < nj + xAdvanceFuel P dist nj ∧ dist < minDInf d0 j := by
  unfold xAdvanceFuel
  generalize P.length = L at hL
  have hm : (dist + 1) * d0.length ≤ (dist + 2) * (L + 2) :=
    Nat.mul_le_mul (by omega) (by omega)
  have hpos : 0 < (dist + 1) * d0.length := Nat.mul_pos (by omega) (by omega)
  -- any `j` beyond `(dist + 1) * len` will do
  have hub : ∀ j, (dist + 1) * d0.length + 1 ≤ j → dist < minDInf d0 j := by
    intro j hj
    unfold minDInf
    rw [if_pos (by omega)]
    refine Nat.lt_of_lt_of_le ?_ (dInf_ge d0 hwf h2 (j - 2))
    rw [Nat.lt_iff_add_one_le, Nat.le_div_iff_mul_le (by omega)]
    omega
  by_cases hc : nj ≤ (dist + 1) * d0.length + 1
  · exact ⟨(dist + 1) * d0.length + 1, hc, by omega, hub _ (Nat.le_refl _)⟩
  · exact ⟨nj, Nat.le_refl _, by omega, hub nj (by omega)⟩

theorem advPure_indep (d0 : List Nat) (hwf : curveWF d0) (h2 : 2 ≤ d0.length) (dist nj : Nat)
    (P P' : List Nat) (hL : d0.length ≤ P.length) (hL' : d0.length ≤ P'.length) :
    advPure d0 dist (xAdvanceFuel P dist nj) nj = advPure d0 dist (xAdvanceFuel P' dist nj) nj :=
  isAdv_unique d0 dist nj _ _
    (advPure_spec d0 dist _ nj (xAdvanceFuel_suffices d0 hwf h2 dist nj P hL))
    (advPure_spec d0 dist _ nj (xAdvanceFuel_suffices d0 hwf h2 dist nj P' hL'))

theorem extSteps_spec (m fuel : Nat) : ∀ (P : List Nat), 2 ≤ P.length → m ≤ P.length + fuel →
    ∃ k, extrapolateSteps P m fuel = iterExt P k ∧ m ≤ P.length + k := by
  induction fuel with
  | zero => intro P _ hf; exact ⟨0, rfl, hf⟩
  | succ f ih =>
    intro P h2 hf
    unfold extrapolateSteps
    split
    · obtain ⟨k, hk, hm⟩ := ih (P ++ [extrapolateNext P]) (by simp; omega) (by simp; omega)
      refine ⟨k + 1, by rw [hk, iterExt_succ_left], ?_⟩
      simp at hm; omega
    · exact ⟨0, rfl, by omega⟩

theorem xAdvance_eq (d0 : List Nat) (h2 : 2 ≤ d0.length) (dist fuel : Nat) : ∀ (n nj : Nat),
    nj ≤ d0.length + n →
    ∃ n', n ≤ n' ∧ xAdvance dist fuel (iterExt d0 n) nj = (iterExt d0 n', advPure d0 dist fuel nj)
      ∧ advPure d0 dist fuel nj ≤ d0.length + n' := by
  induction fuel with
  | zero => intro n nj h; exact ⟨n, Nat.le_refl _, rfl, h⟩
  | succ f ih =>
    intro n nj h
    unfold xAdvance advPure
    rw [minDistance_iterExt d0 n nj h2 h]
    split
    · obtain ⟨k, hk, hm⟩ := extSteps_spec (nj + 1) (nj + 1) (iterExt d0 n)
        (by rw [iterExt_length]; omega) (by omega)
      rw [hk, iterExt_add]
      rw [iterExt_length] at hm
      obtain ⟨n', h1, h3, h4⟩ := ih (n + k) (nj + 1) (by omega)
      exact ⟨n', by omega, h3, h4⟩
    · exact ⟨n, Nat.le_refl _, rfl, h⟩

/-- `(dist, njobs)` of a `StepsIter` after `k` calls of `next()` -/
def iterState (d0 : List Nat) : Nat → Nat × Nat
  | 0 => (0, 0)
  | k + 1 =>
    (minDInf d0 (advPure d0 (iterState d0 k).1
        (xAdvanceFuel d0 (iterState d0 k).1 (iterState d0 k).2) (iterState d0 k).2),
     advPure d0 (iterState d0 k).1
        (xAdvanceFuel d0 (iterState d0 k).1 (iterState d0 k).2) (iterState d0 k).2)

def iterOf (d0 : List Nat) (k : Nat) : XIter :=
  if 2 ≤ d0.length then .ext (iterState d0 k).1 (iterState d0 k).2
  else .per (minDistance d0 2) k

theorem iterOf_long (d0 : List Nat) (h2 : 2 ≤ d0.length) (k : Nat) :
    iterOf d0 k = .ext (iterState d0 k).1 (iterState d0 k).2 := if_pos h2

theorem iterOf_short (d0 : List Nat) (h2 : ¬ 2 ≤ d0.length) (k : Nat) :
    iterOf d0 k = .per (minDistance d0 2) k := if_neg h2

def outOf : XIter → Nat
  | .ext dist _ => 1 + dist
  | .per p j => p * j + 1

def pureOut (d0 : List Nat) (k : Nat) : Option Nat := some (outOf (iterOf d0 k))

/-- `cs[i]` = number of `next()` calls made so far on iterator `i`: the shared vector is some
extrapolation of `d0`, every iterator is where a fresh one would be after as many calls, and the
vector is long enough for each iterator's job count -/
structure Inv (d0 : List Nat) (s : XState) (cs : List Nat) : Prop where
  pfx : ∃ n, s.pfx = iterExt d0 n ∧ (d0.length < 2 → n = 0)
  iters : s.iters = cs.map (iterOf d0)
  bound : 2 ≤ d0.length → ∀ k ∈ cs, (iterState d0 k).2 ≤ s.pfx.length

theorem inv_na (d0 : List Nat) (hwf : curveWF d0) (s : XState) (cs : List Nat)
    (hI : Inv d0 s cs) (delta : Nat) :
    (s.step (.na delta)).2 = some (xcurveN d0 delta) ∧ Inv d0 (s.step (.na delta)).1 cs := by
  rw [step_na]
  split
  · rename_i h0
    subst h0
    exact ⟨by rw [xcurveN_zero], hI⟩
  · rename_i h0
    obtain ⟨⟨n, hn, hshort⟩, hit, hb⟩ := hI
    by_cases h2 : 2 ≤ d0.length
    · have hwfP := iterExt_wf d0 hwf n
      obtain ⟨m, hm, hr⟩ := extrapolate_iterExt_reaches (iterExt d0 n) hwfP
        (by rw [iterExt_length]; omega) (delta + 1)
      rw [iterExt_add] at hr
      rw [hn, hm, iterExt_add]
      refine ⟨?_, ⟨⟨n + m, rfl, fun h => by omega⟩, hit, ?_⟩⟩
      · show some (curveN (iterExt d0 (n + m)) delta) = _
        rw [curveN_iterExt_eq_xcurveN d0 hwf h2 (n + m) delta (by omega)]
      · intro _ k hk
        have := hb h2 k hk
        show _ ≤ (iterExt d0 (n + m)).length
        rw [hn, iterExt_length] at this
        rw [iterExt_length]; omega
    · have hn0 := hshort (by omega)
      subst hn0
      have hp : s.pfx = d0 := hn
      rw [hp, extrapolate_short d0 _ _ (by omega)]
      refine ⟨?_, ⟨⟨0, rfl, fun _ => rfl⟩, hit, fun h => absurd h h2⟩⟩
      show some (curveN d0 delta) = _
      rw [xcurveN_short d0 delta (by omega)]

theorem inv_newIter (d0 : List Nat) (s : XState) (cs : List Nat) (hI : Inv d0 s cs) :
    (s.step .newIter).2 = none ∧ Inv d0 (s.step .newIter).1 (cs ++ [0]) := by
  rw [step_newIter]
  obtain ⟨⟨n, hn, hshort⟩, hit, hb⟩ := hI
  have hb' : 2 ≤ d0.length → ∀ k ∈ cs ++ [0], (iterState d0 k).2 ≤ s.pfx.length := by
    intro h2 k hk
    rw [List.mem_append, List.mem_singleton] at hk
    rcases hk with hk | hk
    · exact hb h2 k hk
    · subst hk; exact Nat.zero_le _
  by_cases h2 : 2 ≤ d0.length
  · rw [if_pos (by rw [hn, iterExt_length]; omega)]
    refine ⟨rfl, ⟨⟨n, hn, hshort⟩, ?_, hb'⟩⟩
    show s.iters ++ [XIter.ext 0 0] = _
    rw [List.map_append, hit, List.map_singleton, iterOf_long d0 h2]; rfl
  · have hn0 := hshort (by omega)
    subst hn0
    have hp : s.pfx = d0 := hn
    rw [if_neg (by rw [hp]; omega)]
    refine ⟨rfl, ⟨⟨0, hn, hshort⟩, ?_, hb'⟩⟩
    show s.iters ++ [XIter.per (minDistance s.pfx 2) 0] = _
    rw [List.map_append, hit, List.map_singleton, iterOf_short d0 h2, hp]

theorem inv_next_none (d0 : List Nat) (s : XState) (cs : List Nat) (hI : Inv d0 s cs) (i : Nat)
    (hi : cs[i]? = none) : s.step (.next i) = (s, none) := by
  apply step_next_none
  rw [hI.iters, List.getElem?_map, hi]; rfl

theorem inv_next_some (d0 : List Nat) (hwf : curveWF d0) (s : XState) (cs : List Nat)
    (hI : Inv d0 s cs) (i k : Nat) (hi : cs[i]? = some k) :
    (s.step (.next i)).2 = pureOut d0 k ∧ Inv d0 (s.step (.next i)).1 (cs.set i (k + 1)) := by
  obtain ⟨⟨n, hn, hshort⟩, hit, hb⟩ := hI
  have hsi : s.iters[i]? = some (iterOf d0 k) := by
    rw [hit, List.getElem?_map, hi]; rfl
  have hkmem : k ∈ cs := List.mem_of_getElem? hi
  by_cases h2 : 2 ≤ d0.length
  · have hst := iterOf_long d0 h2 k
    rw [hst] at hsi
    rw [step_next_ext s i _ _ hsi]
    have hbk := hb h2 k hkmem
    rw [hn, iterExt_length] at hbk
    obtain ⟨n', hn', hx, hle⟩ := xAdvance_eq d0 h2 (iterState d0 k).1
      (xAdvanceFuel (iterExt d0 n) (iterState d0 k).1 (iterState d0 k).2) n (iterState d0 k).2 hbk
    have hfuel : advPure d0 (iterState d0 k).1
        (xAdvanceFuel (iterExt d0 n) (iterState d0 k).1 (iterState d0 k).2) (iterState d0 k).2
        = (iterState d0 (k + 1)).2 :=
      advPure_indep d0 hwf h2 _ _ _ d0 (by rw [iterExt_length]; omega) (Nat.le_refl _)
    rw [hfuel] at hx hle
    rw [hn, hx]
    have hnew : iterOf d0 (k + 1)
        = .ext (minDistance (iterExt d0 n') (iterState d0 (k + 1)).2) (iterState d0 (k + 1)).2 := by
      rw [iterOf_long d0 h2, minDistance_iterExt d0 n' _ h2 hle]
      rfl
    refine ⟨?_, ⟨⟨n', rfl, fun h => by omega⟩, ?_, ?_⟩⟩
    · show some (1 + (iterState d0 k).1) = pureOut d0 k
      unfold pureOut
      rw [hst]; rfl
    · show s.iters.set i (.ext (minDistance (iterExt d0 n') (iterState d0 (k + 1)).2)
          (iterState d0 (k + 1)).2) = _
      rw [← hnew, hit, List.map_set]
    · intro _ k' hk'
      show _ ≤ (iterExt d0 n').length
      rw [iterExt_length]
      rcases List.mem_or_eq_of_mem_set hk' with h | h
      · have := hb h2 k' h
        rw [hn, iterExt_length] at this
        omega
      · subst h; exact hle
  · have hst := iterOf_short d0 h2
    rw [hst] at hsi
    rw [step_next_per s i _ _ hsi]
    refine ⟨?_, ⟨⟨n, hn, hshort⟩, ?_, fun h => absurd h h2⟩⟩
    · show some (minDistance d0 2 * k + 1) = pureOut d0 k
      unfold pureOut
      rw [hst]; rfl
    · show s.iters.set i (.per (minDistance d0 2) (k + 1)) = _
      rw [← hst (k + 1), hit, List.map_set]

theorem run_cons (s : XState) (op : XOp) (ops : List XOp) :
    s.run (op :: ops) = (s.step op).2 :: (s.step op).1.run ops := rfl

theorem inv_init (d0 : List Nat) : Inv d0 (XState.init d0) [] :=
  ⟨⟨0, rfl, fun _ => rfl⟩, rfl, fun _ k hk => by simp at hk⟩

theorem run_nexts_last (d0 : List Nat) (hwf : curveWF d0) (m : Nat) : ∀ (s : XState) (cs : List Nat)
    (c : Nat), Inv d0 s cs → cs[0]? = some c →
    (s.run (List.replicate (m + 1) (.next 0))).getLast? = some (pureOut d0 (c + m)) := by
  induction m with
  | zero =>
    intro s cs c hI hc
    rw [List.replicate_one, run_cons, (inv_next_some d0 hwf s cs hI 0 c hc).1]
    rfl
  | succ m ih =>
    intro s cs c hI hc
    obtain ⟨_, hI'⟩ := inv_next_some d0 hwf s cs hI 0 c hc
    have hc' : (cs.set 0 (c + 1))[0]? = some (c + 1) := by
      cases cs with
      | nil => cases hc
      | cons _ _ => rfl
    rw [List.replicate_succ, run_cons, List.getLast?_cons, ih _ _ _ hI' hc', Option.getD_some,
      Nat.add_right_comm, Nat.add_assoc]

theorem freshNext_eq (d0 : List Nat) (hwf : curveWF d0) (k : Nat) :
    freshNext d0 k = pureOut d0 k := by
  unfold freshNext
  rw [run_cons, List.getLast?_cons,
    run_nexts_last d0 hwf k _ _ 0 (inv_newIter d0 _ _ (inv_init d0)).2 rfl, Nat.zero_add]
  rfl

theorem run_eq (d0 : List Nat) (hwf : curveWF d0) (ops : List XOp) : ∀ (s : XState) (cs : List Nat),
    Inv d0 s cs → s.run ops = xPure d0 ops cs := by
  induction ops with
  | nil => intro s cs _; rfl
  | cons op ops ih =>
    intro s cs hI
    rw [run_cons]
    cases op with
    | na delta =>
      obtain ⟨h1, h2⟩ := inv_na d0 hwf s cs hI delta
      rw [h1, ih _ _ h2]; rfl
    | newIter =>
      obtain ⟨h1, h2⟩ := inv_newIter d0 s cs hI
      rw [h1, ih _ _ h2]; rfl
    | next i =>
      cases hi : cs[i]? with
      | none =>
        rw [inv_next_none d0 s cs hI i hi, ih _ _ hI]
        simp only [xPure, hi]
      | some k =>
        obtain ⟨h1, h2⟩ := inv_next_some d0 hwf s cs hI i k hi
        rw [h1, ih _ _ h2, ← freshNext_eq d0 hwf k]
        simp only [xPure, hi]

theorem iterState_dist (d0 : List Nat) (k : Nat) :
    (iterState d0 k).1 = minDInf d0 (iterState d0 k).2 := by
  cases k with
  | zero => rfl
  | succ k => rfl

theorem iterState_adv (d0 : List Nat) (hwf : curveWF d0) (h2 : 2 ≤ d0.length) (k : Nat) :
    IsAdv d0 (iterState d0 k).1 (iterState d0 k).2 (iterState d0 (k + 1)).2 := by
  show IsAdv d0 _ _ (advPure d0 (iterState d0 k).1
        (xAdvanceFuel d0 (iterState d0 k).1 (iterState d0 k).2) (iterState d0 k).2)
  exact advPure_spec d0 _ _ _ (xAdvanceFuel_suffices d0 hwf h2 _ _ d0 (Nat.le_refl _))

theorem iterState_lt (d0 : List Nat) (hwf : curveWF d0) (h2 : 2 ≤ d0.length) (k : Nat) :
    (iterState d0 k).1 < (iterState d0 (k + 1)).1 := by
  rw [iterState_dist d0 (k + 1)]
  exact (iterState_adv d0 hwf h2 k).2.1

theorem iterState_least (d0 : List Nat) (hwf : curveWF d0) (h2 : 2 ≤ d0.length) (k i : Nat)
    (hi : (iterState d0 k).1 < dInf d0 i) : (iterState d0 (k + 1)).1 ≤ dInf d0 i := by
  obtain ⟨a, b, c⟩ := iterState_adv d0 hwf h2 k
  have e : dInf d0 i = minDInf d0 (i + 2) := by
    unfold minDInf; rw [if_pos (by omega)]; rfl
  rw [e] at hi ⊢
  rw [iterState_dist d0 (k + 1)]
  apply minDInf_mono d0 hwf
  apply Nat.le_of_not_lt
  intro hlt
  by_cases hge : (iterState d0 k).2 ≤ i + 2
  · have := c (i + 2) hge hlt; omega
  · have := minDInf_mono d0 hwf (i + 2) (iterState d0 k).2 (by omega)
    rw [← iterState_dist d0 k] at this
    omega

theorem step_iff_dInf (d0 : List Nat) (hwf : curveWF d0) (h2 : 2 ≤ d0.length) (x : Nat)
    (hx : 2 ≤ x) : xcurveN d0 (x - 1) < xcurveN d0 x ↔ ∃ i, dInf d0 i = x - 1 := by
  obtain ⟨n, hn⟩ := exists_iterExt_last_gt d0 hwf h2 x
  rw [xcurveN_step_iff d0 hwf h2 x n hx (by omega)]
  constructor
  · intro h
    obtain ⟨i, hi, e⟩ := List.getElem_of_mem h
    refine ⟨i, ?_⟩
    rw [iterExt_length] at hi
    rw [← iterExt_getD_dInf d0 n i hi, List.getD_eq_getElem?_getD,
      List.getElem?_eq_getElem (by rw [iterExt_length]; exact hi)]
    exact e
  · rintro ⟨i, hi⟩
    have hlt : i < d0.length + n := by
      apply Nat.lt_of_not_le
      intro hle
      have hm := dInf_mono d0 hwf (d0.length + n - 1) i (by omega)
      have hl := getD_last (iterExt d0 n)
      rw [iterExt_length, iterExt_getD_dInf d0 n _ (by omega)] at hl
      omega
    rw [← iterExt_getD_dInf d0 n i hlt, List.getD_eq_getElem?_getD,
      List.getElem?_eq_getElem (by rw [iterExt_length]; exact hlt)] at hi
    simp only [Option.getD_some] at hi
    rw [← hi]
    exact List.getElem_mem _

theorem sorted_next (S : List Nat) (hS : S.Pairwise (· < ·)) : ∀ (k a b : Nat),
    S[k]? = some a → b ∈ S → a < b → (∀ x ∈ S, ¬ (a < x ∧ x < b)) → S[k + 1]? = some b := by
  induction S with
  | nil => intro k a b hk; simp at hk
  | cons c T ih =>
    intro k a b hk hb hab hno
    rw [List.pairwise_cons] at hS
    cases k with
    | zero =>
      simp at hk
      subst hk
      have hbT : b ∈ T := by
        rcases List.mem_cons.1 hb with h | h
        · omega
        · exact h
      cases T with
      | nil => simp at hbT
      | cons e U =>
        have hce := hS.1 e (by simp)
        have hne := hno e (by simp)
        have hU := (List.pairwise_cons.1 hS.2).1
        rcases List.mem_cons.1 hbT with h | h
        · subst h; simp
        · have := hU b h; omega
    | succ k =>
      rw [List.getElem?_cons_succ] at hk ⊢
      have haT : a ∈ T := List.mem_of_getElem? hk
      have hca := hS.1 a haT
      have hbT : b ∈ T := by
        rcases List.mem_cons.1 hb with h | h
        · omega
        · exact h
      exact ih hS.2 k a b hk hbT hab (fun x hx => hno x (List.mem_cons_of_mem _ hx))

theorem steps_long (d0 : List Nat) (hwf : curveWF d0) (h2 : 2 ≤ d0.length) (H : Nat) : ∀ k,
    1 + (iterState d0 k).1 ≤ H → (xcurveSteps d0 H)[k]? = some (1 + (iterState d0 k).1) := by
  intro k
  induction k with
  | zero =>
    intro hH
    unfold xcurveSteps
    rw [if_pos h2, if_pos (by omega)]
    rfl
  | succ k ih =>
    intro hH
    have hlt := iterState_lt d0 hwf h2 k
    have spec := xcurve_steps_spec d0 hwf H
    apply sorted_next _ spec.1 k _ _ (ih (by omega))
    · rw [spec.2]
      refine ⟨by omega, hH, ?_⟩
      rw [step_iff_dInf d0 hwf h2 _ (by omega)]
      have e := iterState_dist d0 (k + 1)
      unfold minDInf at e
      split at e
      · refine ⟨(iterState d0 (k + 1)).2 - 2, ?_⟩
        rw [e]; omega
      · omega
    · omega
    · intro x hx hxx
      have hstep := ((spec.2 x).1 hx).2.2
      rw [step_iff_dInf d0 hwf h2 x (by omega)] at hstep
      obtain ⟨i, hi⟩ := hstep
      have := iterState_least d0 hwf h2 k i (by omega)
      omega

theorem periodicSteps_get (T H : Nat) : ∀ (k fuel j : Nat), k < fuel → T * (j + k) + 1 ≤ H →
    (periodicSteps T H fuel j)[k]? = some (T * (j + k) + 1) := by
  intro k
  induction k with
  | zero =>
    intro fuel j hf hH
    cases fuel with
    | zero => omega
    | succ f =>
      unfold periodicSteps
      have hH' : T * j + 1 ≤ H := hH
      rw [if_pos hH']; rfl
  | succ k ih =>
    intro fuel j hf hH
    cases fuel with
    | zero => omega
    | succ f =>
      unfold periodicSteps
      have hle : T * j ≤ T * (j + (k + 1)) := Nat.mul_le_mul_left _ (by omega)
      rw [if_pos (by omega), List.getElem?_cons_succ]
      have e : j + (k + 1) = j + 1 + k := by omega
      rw [e] at hH ⊢
      exact ih f (j + 1) (by omega) hH

end XLTS
open XLTS

/-- `ops` is not used. -/
theorem xstate_pfx_iterExt (d0 : List Nat) (ops : List XOp) :
    ∀ s : XState, (∃ n, s.pfx = iterExt d0 n) →
      ∀ op, ∃ m, (s.step op).1.pfx = iterExt d0 m := by
  have _ := ops
  rintro s ⟨n, hn⟩ op
  cases op with
  | na delta =>
    rw [step_na]
    split
    · exact ⟨n, hn⟩
    · obtain ⟨k, hk⟩ := extrapolate_is_iterExt s.pfx (delta + 1) (extrapolateFuel s.pfx (delta + 1))
      exact ⟨n + k, by show extrapolate s.pfx _ _ = _; rw [hk, hn, iterExt_add]⟩
  | newIter =>
    rw [step_newIter]
    split
    · exact ⟨n, hn⟩
    · exact ⟨n, hn⟩
  | next i =>
    cases hi : s.iters[i]? with
    | none => rw [step_next_none s i hi]; exact ⟨n, hn⟩
    | some it =>
      cases it with
      | per period j => rw [step_next_per s i period j hi]; exact ⟨n, hn⟩
      | ext dist nj =>
        rw [step_next_ext s i dist nj hi]
        obtain ⟨k, hk⟩ := xAdvance_is_iterExt dist (xAdvanceFuel s.pfx dist nj) s.pfx nj
        refine ⟨n + k, ?_⟩
        show (xAdvance dist (xAdvanceFuel s.pfx dist nj) s.pfx nj).1 = _
        rw [hk, hn, iterExt_add]

/-- C13: the cache is invisible — any interleaving of `number_arrivals` and iterator
operations on any clones returns exactly the history-free answers -/
theorem xcurve_transparent (d0 : List Nat) (hwf : curveWF d0) (ops : List XOp) :
    (XState.init d0).run ops = xPure d0 ops [] :=
  run_eq d0 hwf ops _ _ (inv_init d0)

/-- a fresh iterator enumerates `xcurveSteps`: its `k`-th value is the `k`-th element of
the step list cut at any horizon that contains it -/
theorem freshNext_eq_steps (d0 : List Nat) (hwf : curveWF d0) (k v H : Nat)
    (h : freshNext d0 k = some v) (hv : v ≤ H) : (xcurveSteps d0 H)[k]? = some v := by
  rw [freshNext_eq d0 hwf k] at h
  unfold pureOut at h
  by_cases h2 : 2 ≤ d0.length
  · rw [iterOf_long d0 h2] at h
    have hv' : 1 + (iterState d0 k).1 = v := Option.some.inj h
    rw [← hv'] at hv ⊢
    exact steps_long d0 hwf h2 H k hv
  · cases d0 with
    | nil => exact absurd rfl hwf.1
    | cons T tl =>
      cases tl with
      | cons a as => simp at h2
      | nil =>
        have hT : 1 ≤ T := hwf.2.2
        rw [iterOf_short [T] h2] at h
        have hv' : T * k + 1 = v := Option.some.inj h
        rw [← hv'] at hv ⊢
        unfold xcurveSteps
        rw [if_neg (by simp)]
        have hk : k ≤ T * k := Nat.le_mul_of_pos_left k hT
        have := periodicSteps_get T H k (H + 1) 0 (by omega) (by rw [Nat.zero_add]; exact hv)
        rw [Nat.zero_add] at this
        exact this

theorem freshNext_isSome (d0 : List Nat) (hwf : curveWF d0) (k : Nat) :
    (freshNext d0 k).isSome = true := by
  rw [freshNext_eq d0 hwf k]; rfl

end RTA
