import RTA.Lemmas.ExecChainEndToEnd
import RTA.Lemmas.ExecEndToEndX
import RTA.Lemmas.ExecRefineChainX
/-! End-to-end soundness of the processing-chain analysis over the executor transition system
with a linear chain AND arbitrary execution times (`RTA/Spec/Ros2ExecX.lean`: the instance of
callback `k` that starts in slot `t` runs for `ex k t` slots, between 1 and the WCET). -/

namespace RTA.ExecX.ChainEndToEndXLemmas
open RTA RTA.Sched RTA.Spec RTA.Exec

/-- the job set of `toSysCX` is that of `Exec.toSysC`; the count does not depend on the costs -/
theorem countOf_toSysCX_le {cbs : List Cb} {ex : ℕ → ℕ → ℕ} {ch : List ℕ} {sigma : ℕ → Bool}
    {rels : ℕ → List ℕ} {H : ℕ} (hch : ch.Nodup) (hext : ∀ t, ∀ i ∈ rels t, i ∉ ch.tail)
    (hfin : ∀ t, H ≤ t → rels t = []) {l K : ℕ} (hK : ch.length = K + 2)
    (hlast : ch.getLast? = some l) (t d : ℕ) :
    countOf (toSysCX cbs ex ch sigma rels H) l t (t + d) ≤ relCount rels (ch.headD 0) t d :=
  ChainEndToEndLemmas.countOf_toSysC_le (cbs := cbs) (sigma := sigma) hch hext hfin hK hlast t d

/-- `workOf_toSysC_le` carries over: every cost is at most the WCET -/
theorem workOf_toSysCX_le {cbs : List Cb} {ex : ℕ → ℕ → ℕ} {ch : List ℕ} {sigma : ℕ → Bool}
    {rels : ℕ → List ℕ} {H : ℕ} (hch : ch.Nodup) (hmem : ∀ i ∈ ch, i < cbs.length)
    (hidx : ∀ t, ∀ i ∈ rels t, i < cbs.length)
    (hext : ∀ t, ∀ i ∈ rels t, i ∉ ch.tail)
    (hfin : ∀ t, H ≤ t → rels t = [])
    (hexec : ∀ k, k < cbs.length → ∀ t, 1 ≤ ex k t ∧ ex k t ≤ (cbs.getD k default).cost)
    {l K : ℕ} (hK : ch.length = K + 2)
    (hlast : ch.getLast? = some l) (t d : ℕ) :
    workOf (toSysCX cbs ex ch sigma rels H) (fun k => k ≠ l) t (t + d) ≤
      relCount rels (ch.headD 0) t d * (ch.dropLast.map fun i => (cbs.getD i default).cost).sum +
      (((List.range cbs.length).filter fun k => decide (k ∉ ch)).map fun k =>
        relCount rels k t d * (cbs.getD k default).cost).sum := by
  refine Nat.le_trans ?_
    (ChainEndToEndLemmas.workOf_toSysC_le (cbs := cbs) (sigma := sigma) hch hidx hext hfin hK hlast t d)
  unfold workOf
  apply Finset.sum_le_sum
  intro k hk
  have hk' : k < (toSysCX cbs ex ch sigma rels H).n := Finset.mem_range.1 hk
  show (if (toSysCX cbs ex ch sigma rels H).task k ≠ l ∧ t ≤ (toSysCX cbs ex ch sigma rels H).arr k ∧
        (toSysCX cbs ex ch sigma rels H).arr k < t + d then (toSysCX cbs ex ch sigma rels H).cost k else 0) ≤
      (if (toSysCX cbs ex ch sigma rels H).task k ≠ l ∧ t ≤ (toSysCX cbs ex ch sigma rels H).arr k ∧
        (toSysCX cbs ex ch sigma rels H).arr k < t + d
        then (cbs.getD ((toSysCX cbs ex ch sigma rels H).task k) default).cost else 0)
  split
  · exact toSysCX_cost_le cbs ex ch sigma rels H hch hmem hidx hext hfin hexec k hk'
  · exact Nat.le_refl 0

end RTA.ExecX.ChainEndToEndXLemmas

namespace RTA.ExecX
open RTA RTA.Sched RTA.Spec RTA.Exec

theorem chain_exec_sound_x (cbs : List Cb) (ex : ℕ → ℕ → ℕ) (ch : List ℕ) (sigma : ℕ → Bool) (rels : ℕ → List ℕ)
    (H l : ℕ)
    (hch : ch.Nodup) (hne : 2 ≤ ch.length) (hlast : ch.getLast? = some l)
    (hmem : ∀ i ∈ ch, i < cbs.length ∧ (cbs.getD i default).isTimer = false)
    (hidx : ∀ t, ∀ i ∈ rels t, i < cbs.length)
    (hext : ∀ t, ∀ i ∈ rels t, i ∉ ch.tail)
    (hfin : ∀ t, H ≤ t → rels t = [])
    (hexec : ∀ k, k < cbs.length → ∀ t, 1 ≤ ex k t ∧ ex k t ≤ (cbs.getD k default).cost)
    (sup : Supply) (hs : sup.WF) (hsbf : ∀ t d, sup.sbf d ≤ service sigma t d)
    (a : Arr) (hwf : a.WF) (hex : a.Exact)
    (hsrc : ∀ t d, relCount rels (ch.headD 0) t d ≤ a.N d)
    (arrs : List Arr) (hlen : arrs.length = cbs.length) (hwfo : ∀ b ∈ arrs, b.WF ∧ b.Exact)
    (hrel : ∀ k, k < cbs.length → k ∉ ch → ∀ t d, relCount rels k t d ≤ (arrs.getD k default).N d)
    (limit R : ℕ)
    (hR : rosChain sup
      (.rbf a (.scalar (cbs.getD l default).cost))
      (.rbf a (.scalar ((ch.dropLast.map fun i => (cbs.getD i default).cost).sum)))
      (.rbf a (.scalar ((cbs.getD l default).cost + (ch.dropLast.map fun i => (cbs.getD i default).cost).sum)))
      (.agg (((List.range cbs.length).filter fun k => decide (k ∉ ch)).map
        fun k => .rbf (arrs.getD k default) (.scalar (cbs.getD k default).cost))) limit = .ok R)
    (n m : ℕ)
    (hm : m < (completionsOf (ExecX.run cbs ex (chainFn ch) ((List.range n).map sigma) rels) l).length) :
    (completionsOf (ExecX.run cbs ex (chainFn ch) ((List.range n).map sigma) rels) l).getD m 0 ≤
      (relTimes rels H (ch.headD 0)).getD m 0 + R := by
  obtain ⟨K, hK⟩ : ∃ K, ch.length = K + 2 := ⟨ch.length - 2, by omega⟩
  have hl : l ∈ ch := List.mem_of_getLast? hlast
  have h0 : ch.headD 0 ∈ ch := by
    rw [ChainRefineLemmas.headD_eq]; exact ChainRefineLemmas.cAt_mem (by omega)
  have hmem' : ∀ i ∈ ch, i < cbs.length := fun i hi => (hmem i hi).1
  have hkslt := EndToEndLemmas.mem_filter_range_lt cbs.length (fun k => decide (k ∉ ch))
  have hcpos : ∀ k, k < cbs.length → 1 ≤ (cbs.getD k default).cost :=
    fun k hk => by have := hexec k hk 0; omega
  have hagg := EndToEndLemmas.agg_wf arrs cbs.length hlen hwfo (fun k => (cbs.getD k default).cost)
    hcpos _ hkslt
  have hPsum := ChainEndToEndLemmas.dropLast_cost_pos (cbs := cbs) hK (hcpos _ (hmem _ h0).1)
  refine (run_chain_meets_of_sysCX cbs ex ch sigma rels H l hch hlast (fun i hi => (hmem i hi).1) hidx hext hfin
    hexec R ?_
    n m hm).2
  refine chain_sound _ sigma l
    (run_chain_legal_x cbs ex ch sigma rels H l hch (fun i hi => (hmem i hi).1) hidx hext hfin hexec)
    sup hs hsbf a (cbs.getD l default).cost
    ((ch.dropLast.map fun i => (cbs.getD i default).cost).sum) hwf hex (hcpos l (hmem l hl).1) hPsum
    _ (by simp only [RB.ArrWF]; exact hagg.1) (by simp only [RB.Exact]; exact hagg.2)
    ?_ ?_ ?_ limit R hR
  · exact fun t d => Nat.le_trans
      (ChainEndToEndXLemmas.countOf_toSysCX_le (cbs := cbs) (ex := ex) (sigma := sigma)
        hch hext hfin hK hlast t d) (hsrc t d)
  · intro k hkn hk
    have := toSysCX_cost_le cbs ex ch sigma rels H hch hmem' hidx hext hfin hexec k hkn
    rw [hk] at this
    exact this
  · intro t d
    refine Nat.le_trans
      (ChainEndToEndXLemmas.workOf_toSysCX_le (cbs := cbs) (ex := ex) (sigma := sigma)
        hch hmem' hidx hext hfin hexec hK hlast t d) ?_
    rw [ChainSoundLemmas.need_scalar]
    apply Nat.add_le_add
    · rw [Nat.mul_comm]; exact Nat.mul_le_mul_left _ (hsrc t d)
    · simp only [RB.need]
      refine EndToEndLemmas.need_le arrs rels _ t d _ ?_
      intro k hk
      have hk' := List.mem_filter.1 hk
      exact hrel k (List.mem_range.1 hk'.1) (by simpa using hk'.2) t d

end RTA.ExecX
