import RTA.Lemmas.ExecRunMeets
import RTA.Lemmas.ExecEndToEndX
/-! Non-vacuity of the rr end-to-end theorem (`run_meets_of_polling_sound_x` with
`rr_singleton_sound`, at the WCETs): a concrete callback table, supply process and release pattern
that satisfy EVERY hypothesis, and on which the executable `Exec.run` reports completions. -/

namespace RTA.Exec
open RTA RTA.Sched RTA.Spec

/-- a timer (cost 1, every 10 slots), a polled callback of priority 0 (cost 2, every 10 slots)
and one of priority 1 (cost 3, every 20 slots) -/
def exCbs : List Cb :=
  [{ isTimer := true, prio := 0, cost := 1 }, { isTimer := false, prio := 0, cost := 2 },
   { isTimer := false, prio := 1, cost := 3 }]

def exSigmaAll : ℕ → Bool := fun _ => true

def exRels : ℕ → List ℕ := fun t =>
  if t < 40 then
    (if t % 10 = 0 then [0, 1] else []) ++ (if t % 20 = 0 then [2] else [])
  else []

/-- the workload handed to the rr analysis: `rtb` are the assumed response-time bounds —
the vector (9, 9, 9) reproduces itself under the three singleton analyses -/
def exWl : List Callback :=
  [{ rtb := 9, arr := .periodic 10, cost := .scalar 1, kind := .timer },
   { rtb := 9, arr := .periodic 10, cost := .scalar 2, kind := .polled 0 },
   { rtb := 9, arr := .periodic 20, cost := .scalar 3, kind := .polled 1 }]

end RTA.Exec

namespace RTA.Exec.EndToEndExampleLemmas
open RTA RTA.Sched RTA.Spec RTA.Exec

theorem service_all (t : ℕ) : ∀ d, service exSigmaAll t d = d := by
  intro d
  induction d with
  | zero => rfl
  | succ d ih => simp [service, ih, exSigmaAll]

theorem count0 (x : ℕ) : (exRels x).count 0 ≤ if x % 10 = 0 then 1 else 0 := by
  unfold exRels
  split_ifs <;> decide

theorem count1 (x : ℕ) : (exRels x).count 1 ≤ if x % 10 = 0 then 1 else 0 := by
  unfold exRels
  split_ifs <;> decide

theorem count2 (x : ℕ) : (exRels x).count 2 ≤ if x % 20 = 0 then 1 else 0 := by
  unfold exRels
  split_ifs <;> decide

theorem hidx : ∀ t, ∀ i ∈ exRels t, i < exCbs.length := by
  intro t i hi
  show i < 3
  unfold exRels at hi
  split_ifs at hi <;> simp at hi <;> omega

theorem hfin : ∀ t, 40 ≤ t → exRels t = [] := by
  intro t ht
  unfold exRels
  rw [if_neg (by omega)]

theorem hrel : ∀ k, k < exCbs.length → ∀ t d,
    relCount exRels k t d ≤ (exWl.getD k default).arr.N d := by
  intro k hk t d
  match k, hk with
  | 0, _ => exact EndToEndLemmas.relCount_periodic exRels 0 10 (by decide) count0 t d
  | 1, _ => exact EndToEndLemmas.relCount_periodic exRels 1 10 (by decide) count1 t d
  | 2, _ => exact EndToEndLemmas.relCount_periodic exRels 2 20 (by decide) count2 t d
  | k + 3, h => exact absurd (show k + 3 < 3 from h) (by omega)

theorem hscalar : ∀ i, i < exWl.length →
    (exWl.getD i default).cost = .scalar (exCbs.getD i default).cost := by
  intro i hi
  match i, hi with
  | 0, _ => rfl
  | 1, _ => rfl
  | 2, _ => rfl
  | k + 3, h => exact absurd (show k + 3 < 3 from h) (by omega)

theorem hkinds : KindsAgree exWl (toInfo exCbs exSigmaAll exRels) := by
  intro i hi
  match i, hi with
  | 0, _ => rfl
  | 1, _ => exact ⟨rfl, rfl⟩
  | 2, _ => exact ⟨rfl, rfl⟩
  | k + 3, h => exact absurd (show k + 3 < 3 from h) (by omega)

theorem hprio : ∀ i, i < exCbs.length → ∀ j, j < exCbs.length →
    (exCbs.getD i default).isTimer = false →
    (exCbs.getD j default).isTimer = false →
    (exCbs.getD i default).prio = (exCbs.getD j default).prio → i = j := by
  decide

theorem hself : ∀ i, i < exWl.length →
    ∃ R, rrSubchain .dedicated exWl [i] 100 = .ok R ∧ R ≤ (exWl.getD i default).rtb := by
  intro i hi
  match i, hi with
  | 0, _ => exact ⟨9, by decide +kernel, by decide⟩
  | 1, _ => exact ⟨9, by decide +kernel, by decide⟩
  | 2, _ => exact ⟨9, by decide +kernel, by decide⟩
  | k + 3, h => exact absurd (show k + 3 < 3 from h) (by omega)

end RTA.Exec.EndToEndExampleLemmas

namespace RTA.Exec
open RTA RTA.Sched RTA.Spec
open EndToEndExampleLemmas

theorem exSigmaAll_sbf (t d : ℕ) : Supply.dedicated.sbf d ≤ service exSigmaAll t d := by
  rw [service_all]
  exact Nat.le_refl _

theorem rr_example_reports :
    8 ≤ (Exec.run exCbs (fun _ => none) ((List.range 60).map exSigmaAll) exRels).length := by
  decide +kernel

theorem rr_example_bounded :
    ∀ o ∈ Exec.run exCbs (fun _ => none) ((List.range 60).map exSigmaAll) exRels,
      o.2.2 ≤ o.2.1 + (exWl.getD o.1 default).rtb := by
  intro o ho
  rw [← ExecX.run_wcet] at ho
  exact ExecX.run_meets_of_polling_sound_x exCbs _ exSigmaAll exRels 40 hidx hfin
    (wcet_bounds _ (by decide)) exWl rfl (fun i j hi hj => hprio i hi j hj) hrel
    (fun hl htask hpr hN hc => rr_singleton_sound _ exSigmaAll _ hl .dedicated trivial exSigmaAll_sbf exWl
      (fun k => (exCbs.getD k default).cost) hscalar (by decide) htask hkinds hpr hN hc 100 hself)
    60 o.1 o ho rfl

end RTA.Exec
