import RTA.Lemmas.TimerSound
/-! Non-vacuity of `timer_sound_reservation`: a concrete executor schedule on a
concrete periodic reservation that satisfies every hypothesis, with a job whose response time
is positive (so the theorem is not vacuously true). -/

open Finset

namespace RTA.Sched
open RTA RTA.Spec

/-- reservation: budget 2 every 4 slots, delivered in the LAST two slots of each period -/
def exSigma (t : ℕ) : Bool := decide (2 ≤ t % 4)

/-- jobs: 0 = analysed timer (task 1, released at 0, cost 2); 1 = higher-priority timer
(task 0, released at 0, cost 1); 2 = a polled callback (task 2, released at 0, cost 2).
Schedule: slots 2 (job 1), 3 and 6 (job 0), 7 and 10 (job 2). -/
def exSys : Sys where
  n := 3
  task := fun k => if k = 0 then 1 else if k = 1 then 0 else 2
  arr := fun _ => 0
  cost := fun k => if k = 1 then 1 else 2
  np := fun _ _ => False
  sched := fun t => if t = 2 then some 1 else if t = 3 ∨ t = 6 then some 0
    else if t = 7 ∨ t = 10 then some 2 else none

namespace TimerSoundExample

theorem task_eq (k : ℕ) : exSys.task k = if k = 0 then 1 else if k = 1 then 0 else 2 := rfl
theorem arr_eq (k : ℕ) : exSys.arr k = 0 := rfl
theorem n_eq : exSys.n = 3 := rfl

theorem sched_none {t : ℕ} (h : 11 ≤ t) : exSys.sched t = none := by
  refine (if_neg ?_).trans ((if_neg ?_).trans (if_neg ?_)) <;> omega

/-- the schedule idles from slot 11 on, so a property of the served slots is a finite check -/
theorem forall_served {P : ℕ → ℕ → Prop} (h : ∀ t < 11, ∀ j ∈ exSys.sched t, P t j) (t j : ℕ)
    (hs : exSys.sched t = some j) : P t j := by
  refine h t ?_ j hs
  by_contra ht
  rw [sched_none (not_lt.mp ht)] at hs
  cases hs

theorem supplied_served : ∀ t < 11, exSigma t = true → (exSys.sched t).isSome := by decide

theorem timers_done : ∀ k < 3, Rel exSys 1 (· = 0) k → exSys.cost k ≤ svc exSys k 11 := by
  unfold Rel
  decide

theorem cost_le : ∀ k < 3, exSys.cost k ≤ 2 := by decide

theorem one_le_ceilDiv {d : ℕ} (h : 0 < d) : 1 ≤ ceilDiv d 20 := by
  unfold ceilDiv
  split
  · exact Nat.le_add_left 1 _
  · omega

/-- every job is released at 0, so no window holds more than `[0, 1)` does -/
theorem count_le (t d : ℕ) : countOf exSys 1 t (t + d) ≤ 1 :=
  calc countOf exSys 1 t (t + d)
    _ ≤ countOf exSys 1 0 1 :=
      card_le_card (monotone_filter_right _ fun _ _ h => ⟨h.1, le_rfl, Nat.one_pos⟩)
    _ = 1 := by decide

theorem work_le (t d : ℕ) : workOf exSys (· = 0) t (t + d) ≤ 1 :=
  calc workOf exSys (· = 0) t (t + d)
    _ ≤ workOf exSys (· = 0) 0 1 := sum_le_sum fun k _ => by
      by_cases h : exSys.task k = 0 ∧ t ≤ exSys.arr k ∧ exSys.arr k < t + d
      · rw [if_pos h, if_pos ⟨h.1, le_rfl, Nat.one_pos⟩]
      · rw [if_neg h]
        exact Nat.zero_le _
    _ = 1 := by decide

end TimerSoundExample

open TimerSoundExample in
theorem exSys_legal : SupplyTimerLegal exSys exSigma 1 (fun k => k = 0) :=
  { valid := forall_served (by unfold Pending; decide)
    nonpre := forall_served (by decide)
    wc := by
      rintro t hσ ⟨k, hk, hr, hp⟩
      rcases lt_or_ge t 11 with ht | ht
      · exact Option.isSome_iff_exists.mp (supplied_served t ht hσ)
      · exact absurd hp.2 (not_lt.mpr ((timers_done k hk hr).trans (svc_mono k ht)))
    prioOther := forall_served (by unfold Rel Pending; decide)
    prioOwn := fun _ _ _ _ _ _ _ _ _ => Nat.le_refl 0 }

theorem exSigma_compliant : Compliant 2 4 4 exSigma := by
  intro k
  have h (i : ℕ) : exSigma (k * 4 + i) = exSigma i :=
    congrArg (fun r => decide (2 ≤ r)) (Nat.mul_add_mod_self_right k 4 i)
  simp only [service, h]
  decide

open TimerSoundExample in
/-- all hypotheses of `timer_sound_reservation` hold for the example, the analysis returns a
bound that the analysed job meets, and the job does not complete within 6 -/
theorem timer_sound_nonvacuous :
    ∃ R, rosTimer (.constrained 2 4 4) (.rbf (.periodic 20) (.scalar 2))
          (.rbf (.periodic 20) (.scalar 1)) 1 100 = .ok R ∧
      (∀ t d, countOf exSys 1 t (t + d) ≤ (Arr.periodic 20).N d) ∧
      (∀ k, k < exSys.n → exSys.task k = 1 → exSys.cost k ≤ 2) ∧
      (∀ t d, workOf exSys (fun k => k = 0) t (t + d) ≤ (RB.rbf (.periodic 20) (.scalar 1)).need d) ∧
      (∀ k, k < exSys.n → ¬ Rel exSys 1 (fun k => k = 0) k → exSys.cost k ≤ 1 + 1) ∧
      MeetsBound exSys 0 R ∧ ¬ MeetsBound exSys 0 6 := by
  refine ⟨10, by decide, fun t d => ?_, fun k hk _ => cost_le k hk, fun t d => ?_,
    fun k hk _ => cost_le k hk, rfl, (by decide : ¬ svc exSys 0 6 = 2)⟩
  · rcases d.eq_zero_or_pos with rfl | hd
    · exact (card_eq_zero.mpr (filter_eq_empty_iff.mpr fun k _ h => by omega)).le
    · exact (count_le t d).trans (one_le_ceilDiv hd)
  · rcases d.eq_zero_or_pos with rfl | hd
    · exact (sum_eq_zero fun k _ => if_neg (by omega)).le
    · exact (work_le t d).trans ((one_le_ceilDiv hd).trans (one_mul _).ge)

end RTA.Sched
