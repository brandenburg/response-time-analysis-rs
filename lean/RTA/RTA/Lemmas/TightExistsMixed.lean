import RTA.Lemmas.TightExists
import RTA.Lemmas.Realisable
/-! C18: the arrival models the property names — periodic tasks, sporadic tasks with release
jitter, and auto-extrapolating super-additive delta-min curves — are realisable from a common
instant (`RealisableAt`), also in a task set that MIXES them (`realisableKind_set`) and for
sporadic task sets given by their parameters (`arrSet_kinds`, `sporadicSet_eq`); Props/C18 feeds
these to the existential theorems of `TightExists`. -/

open Finset

namespace RTA.Sched
open RTA RTA.Spec

/-- the arrival models named by C18 -/
def RealisableKind (a : Arr) (t₀ : ℕ) : Prop :=
  (∃ T J, a = .sporadic T J ∧ 1 ≤ T ∧ J ≤ t₀) ∨
  (∃ T, a = .periodic T ∧ 1 ≤ T) ∨
  (∃ d, a = .xcurve d ∧ curveWF d ∧ 2 ≤ d.length ∧ SuperAdditive d)

/-- task parameters `(T, J, C)`: minimum inter-arrival time, release jitter, WCET -/
def sporadicSet (ts : List (ℕ × ℕ × ℕ)) : List (Arr × Cost) :=
  ts.map fun p => (Arr.sporadic p.1 p.2.1, Cost.scalar p.2.2)

namespace TightExistsMixedLemmas
open TightExistsLemmas TightLemmas FifoSoundLemmas

theorem gapsEq_range' (T c : ℕ) : ∀ n s,
    GapsEq T ((List.range' s n).map fun k => k * T + c) := by
  intro n
  induction n with
  | zero => intro s; simp [GapsEq]
  | succ n ih =>
    intro s
    cases n with
    | zero => simp [GapsEq]
    | succ m =>
      have h := ih (s + 1)
      rw [List.range'_succ, List.map_cons] at h ⊢
      rw [List.range'_succ, List.map_cons]
      refine ⟨?_, h⟩
      rw [Nat.add_mul]
      omega

theorem criticalInstantAt_zero_eq (T n t₀ : ℕ) :
    criticalInstantAt T 0 n t₀ = (List.range' 0 n).map fun k => k * T + t₀ := by
  unfold criticalInstantAt criticalInstant
  rw [List.map_map, List.range_eq_range']
  apply List.map_congr_left
  intro k _
  simp

/-- a periodic task released from `t₀` on is a sporadic task without jitter at its critical
instant -/
theorem periodic_realisableAt (T t₀ : ℕ) (hT : 1 ≤ T) : RealisableAt (.periodic T) t₀ := by
  intro H
  refine ⟨criticalInstantAt T 0 ((Arr.sporadic T 0).N H) t₀, criticalInstantAt_sorted _ _ _ _, ?_, ?_⟩
  · rw [Admissible, criticalInstantAt_zero_eq]
    exact gapsEq_range' T t₀ _ 0
  · obtain ⟨h1, h2⟩ := criticalInstantAt_realisesFrom T 0 ((Arr.sporadic T 0).N H) H t₀ hT
      (Nat.zero_le _) (le_refl _)
    refine ⟨h1, ?_⟩
    intro Δ hΔ
    rw [h2 Δ hΔ, sporadic_N_eq, periodic_N_eq]
    split
    next h0 => subst h0; rw [ceilDiv_zero]
    next h0 => rfl

end TightExistsMixedLemmas
open TightExistsMixedLemmas TightExistsLemmas TightLemmas FifoSoundLemmas

theorem realisableKind_spec (a : Arr) (t₀ : ℕ) (h : RealisableKind a t₀) :
    a.WF ∧ a.Exact ∧ RealisableAt a t₀ := by
  rcases h with ⟨T, J, rfl, hT, hJ⟩ | ⟨T, rfl, hT⟩ | ⟨d, rfl, hwf, h2, hsa⟩
  · refine ⟨hT, trivial, ?_⟩
    intro H
    exact ⟨criticalInstantAt T J ((Arr.sporadic T J).N H) t₀, criticalInstantAt_sorted _ _ _ _,
      criticalInstantAt_admissible _ _ _ _ hT,
      criticalInstantAt_realisesFrom _ _ _ _ _ hT hJ (le_refl _)⟩
  · exact ⟨hT, trivial, periodic_realisableAt T t₀ hT⟩
  · refine ⟨hwf, trivial, ?_⟩
    intro H
    obtain ⟨n, hn⟩ := densest_covers d hwf h2 H
    have hadm := densest_admissible d hwf h2 hsa n t₀
    have hs : (densest d n t₀).Pairwise (· ≤ ·) := by
      rw [Admissible] at hadm
      exact hadm.1
    exact ⟨densest d n t₀, hs, hadm, densest_realises d hwf h2 hsa n t₀ H hn⟩

theorem realisableKind_set (ts : List (Arr × ℕ)) (t₀ : ℕ)
    (hk : ∀ p ∈ ts, RealisableKind p.1 t₀ ∧ 1 ≤ p.2) :
    (∀ p ∈ ts, p.1.WF ∧ p.1.Exact ∧ 1 ≤ p.2) ∧ ∀ p ∈ ts, RealisableAt p.1 t₀ :=
  ⟨fun p hp => ⟨(realisableKind_spec p.1 t₀ (hk p hp).1).1,
      (realisableKind_spec p.1 t₀ (hk p hp).1).2.1, (hk p hp).2⟩,
    fun p hp => (realisableKind_spec p.1 t₀ (hk p hp).1).2.2⟩

namespace TightExistsMixedLemmas

/-- a sporadic task set `(T, J, C)` as (arrival model, WCET) pairs -/
def arrSet (ts : List (ℕ × ℕ × ℕ)) : List (Arr × ℕ) :=
  ts.map fun p => (Arr.sporadic p.1 p.2.1, p.2.2)

theorem sporadicSet_eq (ts : List (ℕ × ℕ × ℕ)) :
    sporadicSet ts = (arrSet ts).map fun p => (p.1, Cost.scalar p.2) := by
  unfold sporadicSet arrSet
  rw [List.map_map]
  rfl

theorem arrSet_rbf (ts : List (ℕ × ℕ × ℕ)) :
    (ts.map fun p => RB.rbf (.sporadic p.1 p.2.1) (.scalar p.2.2))
      = (arrSet ts).map fun p => RB.rbf p.1 (.scalar p.2) := by
  unfold arrSet
  rw [List.map_map]
  rfl

theorem arrSet_take (ts : List (ℕ × ℕ × ℕ)) (n : ℕ) : arrSet (ts.take n) = (arrSet ts).take n :=
  List.map_take

theorem arrSet_getD (ts : List (ℕ × ℕ × ℕ)) (k : ℕ) (hk : k < ts.length) :
    (arrSet ts).getD k default = (Arr.sporadic (ts.getD k default).1 (ts.getD k default).2.1,
      (ts.getD k default).2.2) := by
  unfold arrSet
  rw [getD_eq_getElem' _ _ _ (by rw [List.length_map]; exact hk), List.getElem_map,
    getD_eq_getElem' ts k default hk]

/-- sporadic tasks are of the named kinds from every instant that is no earlier than all
jitters -/
theorem arrSet_kinds (ts : List (ℕ × ℕ × ℕ)) (hwf : ∀ p ∈ ts, 1 ≤ p.1 ∧ 1 ≤ p.2.2) :
    ∀ p ∈ arrSet ts, RealisableKind p.1 (maxList (ts.map fun p => p.2.1) + 1) ∧ 1 ≤ p.2 := by
  intro p hp
  obtain ⟨q, hq, rfl⟩ := List.mem_map.1 hp
  have : q.2.1 ≤ maxList (ts.map fun p => p.2.1) :=
    le_maxList_of_mem _ _ (List.mem_map.2 ⟨q, hq, rfl⟩)
  exact ⟨Or.inl ⟨q.1, q.2.1, rfl, (hwf q hq).1, by omega⟩, (hwf q hq).2⟩

end TightExistsMixedLemmas

/-- non-vacuity of the kinds: a sporadic task with jitter, a periodic task and a bursty
extrapolating curve, aligned at `t₀ = 3` -/
example : RealisableKind (.sporadic 10 3) 3 ∧ RealisableKind (.periodic 7) 3 ∧
    RealisableKind (.xcurve [1, 10, 11]) 3 := by
  refine ⟨Or.inl ⟨10, 3, rfl, by omega, by omega⟩, Or.inr (Or.inl ⟨7, rfl, by omega⟩),
    Or.inr (Or.inr ⟨[1, 10, 11], rfl, by decide, by decide, ?_⟩)⟩
  intro n k hn hk
  have hn' : n < 3 := hn
  have : (n = 1 ∧ k = 0) ∨ (n = 2 ∧ k = 0) ∨ (n = 2 ∧ k = 1) := by omega
  rcases this with ⟨rfl, rfl⟩ | ⟨rfl, rfl⟩ | ⟨rfl, rfl⟩ <;> decide

end RTA.Sched
