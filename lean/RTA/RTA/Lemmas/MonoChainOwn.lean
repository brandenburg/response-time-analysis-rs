import RTA.Lemmas.MonoRosOwn
/-! C17, processing chain: hardening any or all of other chains, chain prefix, supply, the
chain's own arrival curve and the WCET of its last callback (`chain_mono_all`) — a corollary of
`rosChain = rosPollingPoint` and the two polling-point theorems. -/

namespace RTA
open RTA.Spec RTA.Sched

theorem chain_mono_all (s s' : Supply) (hs : s.WF) (hs' : s'.WF) (hsup : s'.Weaker s)
    (a a' : Arr) (C C' P P' : Nat) (hwf : a.WF) (hex : a.Exact) (hwf' : a'.WF) (hex' : a'.Exact)
    (hC : 1 ≤ C) (hCC : C ≤ C') (hP : 1 ≤ P) (hPP : P ≤ P')
    (hpos : 0 < a.N 1) (hN : ∀ d, a.N d ≤ a'.N d)
    (others others' : RB) (hwfo : others.ArrWF) (hexo : others.Exact)
    (hwfo' : others'.ArrWF) (hexo' : others'.Exact)
    (h : ∀ d, others.need d ≤ others'.need d) (limit : Nat) (hl : 1 ≤ limit) :
    Res.leD
      (rosChain s (.rbf a (.scalar C)) (.rbf a (.scalar P)) (.rbf a (.scalar (C + P))) others limit)
      (rosChain s' (.rbf a' (.scalar C')) (.rbf a' (.scalar P')) (.rbf a' (.scalar (C' + P'))) others' limit) := by
  have hC' : 1 ≤ C' := Nat.le_trans hC hCC
  have hP' : 1 ≤ P' := Nat.le_trans hP hPP
  have hpos' : 0 < a'.N 1 := Nat.lt_of_lt_of_le hpos (hN 1)
  rw [rosChain_eq_pollingPoint, rosChain_eq_pollingPoint]
  have hwfI : (RB.agg [.rbf a (.scalar P), others]).ArrWF := by
    simp only [RB.ArrWF, RB.ArrWFList]; exact ⟨hwf, hwfo, trivial⟩
  have hexI : (RB.agg [.rbf a (.scalar P), others]).Exact := by
    simp only [RB.Exact, RB.ExactList]; exact ⟨⟨hex, Cost.scalar_strictPos P hP⟩, hexo, trivial⟩
  have hwfI' : (RB.agg [.rbf a' (.scalar P'), others']).ArrWF := by
    simp only [RB.ArrWF, RB.ArrWFList]; exact ⟨hwf', hwfo', trivial⟩
  have hexI' : (RB.agg [.rbf a' (.scalar P'), others']).Exact := by
    simp only [RB.Exact, RB.ExactList]; exact ⟨⟨hex', Cost.scalar_strictPos P' hP'⟩, hexo', trivial⟩
  refine Res.leD_trans
    (pollingPoint_mono_own s hs a a' C C' hwf hex hwf' hex' hC hCC hpos hN
      (.agg [.rbf a (.scalar P), others]) hwfI hexI limit hl)
    (pollingPoint_mono s s' hs hs' hsup a' C' hwf' hex' hC' hpos'
      (.agg [.rbf a (.scalar P), others]) (.agg [.rbf a' (.scalar P'), others'])
      hwfI hexI hwfI' hexI'
      (fun d => by
        rw [ChainSoundLemmas.need_agg2, ChainSoundLemmas.need_agg2,
          ChainSoundLemmas.need_scalar, ChainSoundLemmas.need_scalar]
        exact Nat.add_le_add (Nat.mul_le_mul hPP (hN d)) (h d))
      limit hl)

end RTA
