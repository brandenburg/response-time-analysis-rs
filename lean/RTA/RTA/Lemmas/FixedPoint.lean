import RTA.Model.FixedPoint
/-! The fixed-point search loop, `max_response_time`, and the debug-only brute-force scan. -/

namespace RTA

/-- `st` is the exact pseudo-inverse of the supply-bound function `sbf`. -/
def Galois (sbf st : Nat → Nat) : Prop := ∀ d t, st d ≤ t ↔ d ≤ sbf t

def Mono (f : Nat → Nat) : Prop := ∀ a b, a ≤ b → f a ≤ f b

def Lipschitz1 (f : Nat → Nat) : Prop := ∀ t, f t ≤ f (t + 1) ∧ f (t + 1) ≤ f t + 1

theorem lipschitz_mono {f : Nat → Nat} (h : Lipschitz1 f) : Mono f := by
  intro a b hab
  obtain ⟨e, rfl⟩ := Nat.exists_eq_add_of_le hab
  induction e with
  | zero => exact Nat.le_refl _
  | succ e ih => exact Nat.le_trans (ih (by omega)) (h (a + e)).1

theorem lipschitz_add {f : Nat → Nat} (h : Lipschitz1 f) (t j : Nat) : f (t + j) ≤ f t + j := by
  induction j with
  | zero => exact Nat.le_refl _
  | succ j ih =>
    have := (h (t + j)).2
    rw [← Nat.add_assoc]; omega

/-- leastness only has to be checked one instant before `st d` -/
theorem Galois.of_least {sbf st : Nat → Nat} (hm : Mono sbf) (hle : ∀ d, d ≤ sbf (st d))
    (hlt : ∀ d t, t + 1 = st d → sbf t < d) : Galois sbf st := by
  intro d t
  refine ⟨fun h => Nat.le_trans (hle d) (hm _ _ h), fun h => Nat.le_of_not_lt fun hlt' => ?_⟩
  have h1 := hm t (st d - 1) (by omega)
  have h2 := hlt d (st d - 1) (by omega)
  omega

/-- the predicate whose least solution the search computes: the service guaranteed
within `offset + r` covers `w (max r 1)` -/
def Sol (sbf w : Nat → Nat) (offset r : Nat) : Prop := w (max r 1) ≤ sbf (offset + r)

/-- the `distance_to` guard: the offset lies inside the busy window -/
def InBusyWindow (st w : Nat → Nat) (offset : Nat) : Prop := ∀ x, 1 ≤ x → offset ≤ st (w x)

theorem searchLoop_spec (sbf st w : Nat → Nat) (stf : Nat → Option Nat) (offset limit : Nat)
    (hst : ∀ d, stf d = some (st d))
    (hinv : Galois sbf st) (hw : Mono w)
    (hoff : InBusyWindow st w offset) :
    ∀ (n : Nat) (assumed : Nat), limit + 1 - assumed ≤ n → 1 ≤ assumed →
      (∀ r, Sol sbf w offset r → assumed ≤ max r 1) →
      (∃ r, searchLoop stf w offset limit n assumed = .ok r ∧
          Sol sbf w offset r ∧ (∀ r', Sol sbf w offset r' → r ≤ r') ∧ r ≤ limit) ∨
      (searchLoop stf w offset limit n assumed = .div offset limit ∧
          ∀ r, Sol sbf w offset r → limit < max r 1) := by
  intro n
  induction n with
  | zero =>
    intro assumed hn h1 hinvt
    unfold searchLoop
    right
    refine ⟨rfl, ?_⟩
    intro r hr
    have := hinvt r hr
    omega
  | succ n ih =>
    intro assumed hn h1 hinvt
    unfold searchLoop
    by_cases hle : assumed ≤ limit
    · simp only [hle, if_true, hst]
      have hoffa := hoff assumed h1
      have hng : ¬ st (w assumed) < offset := by omega
      simp only [hng, if_false]
      by_cases hconv : st (w assumed) - offset ≤ assumed
      · simp only [hconv, if_true]
        left
        refine ⟨_, rfl, ?_, ?_, by omega⟩
        · unfold Sol
          have h1' : w assumed ≤ sbf (st (w assumed)) := (hinv _ _).1 (Nat.le_refl _)
          have h2 : offset + (st (w assumed) - offset) = st (w assumed) := by omega
          rw [h2]
          exact Nat.le_trans (hw _ _ (by omega)) h1'
        · intro r' hr'
          have hge := hinvt r' hr'
          have : w assumed ≤ sbf (offset + r') := Nat.le_trans (hw _ _ hge) hr'
          have := (hinv _ _).2 this
          omega
      · simp only [hconv, if_false]
        apply ih
        · omega
        · omega
        · intro r hr
          have hge := hinvt r hr
          have : w assumed ≤ sbf (offset + r) := Nat.le_trans (hw _ _ hge) hr
          have := (hinv _ _).2 this
          omega
    · simp only [hle, if_false]
      right
      refine ⟨trivial, ?_⟩
      intro r hr
      have := hinvt r hr
      omega

theorem searchLoop_start (sbf st w : Nat → Nat) (stf : Nat → Option Nat) (offset limit : Nat)
    (hst : ∀ d, stf d = some (st d))
    (hinv : Galois sbf st) (hw : Mono w)
    (hoff : InBusyWindow st w offset) :
      (∃ r, searchLoop stf w offset limit (limit + 1) 1 = .ok r ∧
          Sol sbf w offset r ∧ (∀ r', Sol sbf w offset r' → r ≤ r') ∧ r ≤ limit) ∨
      (searchLoop stf w offset limit (limit + 1) 1 = .div offset limit ∧
          ∀ r, Sol sbf w offset r → limit < max r 1) :=
  searchLoop_spec sbf st w stf offset limit hst hinv hw hoff (limit + 1) 1 (by omega) (by omega)
    (by intro r _; omega)

/-- finding K4: with `limit = 0` the loop body never runs, the search reports divergence whatever
the supply and the workload -/
theorem searchWithOffset_limit_zero (s : Supply) (w : Nat → Nat) (offset : Nat) :
    searchWithOffset s offset 0 w = .div offset 0 := by
  unfold searchWithOffset searchLoop
  simp

def firstErr : List Res → Option Res
  | [] => none
  | .div o l :: _ => some (.div o l)
  | _ :: rs => firstErr rs

def maxOk : List Res → Nat
  | [] => 0
  | .ok a :: rs => max a (maxOk rs)
  | _ :: rs => maxOk rs

theorem foldl_combine_div (o l : Nat) (rs : List Res) (hnp : ∀ x ∈ rs, x ≠ .panic) :
    rs.foldl combineRes (.div o l) = .div o l := by
  induction rs with
  | nil => rfl
  | cons x xs ih =>
    have hxs : ∀ y ∈ xs, y ≠ .panic := fun y hy => hnp y (List.mem_cons_of_mem _ hy)
    cases x with
    | panic => exact absurd rfl (hnp .panic List.mem_cons_self)
    | div o' l' => exact ih hxs
    | ok b => exact ih hxs

theorem combineRes_ok_ok (a b : Nat) : combineRes (.ok a) (.ok b) = .ok (max a b) := by
  show (if a > b then Res.ok a else Res.ok b) = _
  split
  · rw [Nat.max_eq_left (by omega)]
  · rw [Nat.max_eq_right (by omega)]

theorem foldl_combine_ok (a : Nat) (rs : List Res) (hnp : ∀ x ∈ rs, x ≠ .panic) :
    rs.foldl combineRes (.ok a) =
      match firstErr rs with
      | some e => e
      | none => .ok (max a (maxOk rs)) := by
  induction rs generalizing a with
  | nil => exact congrArg Res.ok (Nat.max_zero a).symm
  | cons x xs ih =>
    have hxs : ∀ y ∈ xs, y ≠ .panic := fun y hy => hnp y (List.mem_cons_of_mem _ hy)
    cases x with
    | panic => exact absurd rfl (hnp .panic List.mem_cons_self)
    | div o l => exact foldl_combine_div o l xs hxs
    | ok b =>
      rw [List.foldl_cons, combineRes_ok_ok, ih _ hxs]
      show _ = match firstErr xs with
        | some e => e
        | none => .ok (max a (max b (maxOk xs)))
      rw [Nat.max_assoc]

/-- `max_response_time` of results without guard failures: the first error if there is one,
otherwise the maximum -/
theorem maxResponseTime_spec (rs : List Res) (hnp : ∀ x ∈ rs, x ≠ .panic) :
    maxResponseTime rs =
      match firstErr rs with
      | some e => e
      | none => .ok (maxOk rs) := by
  cases rs with
  | nil => rfl
  | cons x xs =>
    have hxs : ∀ y ∈ xs, y ≠ .panic := fun y hy => hnp y (List.mem_cons_of_mem _ hy)
    unfold maxResponseTime
    cases x with
    | panic => exact absurd rfl (hnp .panic List.mem_cons_self)
    | div o l => simp only [firstErr]; exact foldl_combine_div o l xs hxs
    | ok a => simp only [firstErr, maxOk]; exact foldl_combine_ok a xs hxs

/-- The scan started at `r` returns the first solution in `[r, r + fuel)`, or the divergence
error if there is none.  Invariant `sbf (r - 1) < w r`: the demand is still ahead of the supply
just before `r`; since `sbf` grows by at most one per step, the first `r` at which the supply
catches up has `sbf r = w r` exactly, which is what the scan tests. -/
theorem bruteLoop_spec (sbf w : Nat → Nat) (limit : Nat)
    (hl : Lipschitz1 sbf) (hw : Mono w) :
    ∀ fuel r, 1 ≤ r → sbf (r - 1) < w r →
      (∀ r0, r ≤ r0 → r0 < r + fuel → Sol sbf w 0 r0 →
          (∀ r', r ≤ r' → r' < r0 → ¬ Sol sbf w 0 r') →
          bruteLoop sbf w 0 limit fuel r = .ok r0) ∧
      ((∀ r0, r ≤ r0 → r0 < r + fuel → ¬ Sol sbf w 0 r0) →
          bruteLoop sbf w 0 limit fuel r = .div 0 limit) := by
  intro fuel
  induction fuel with
  | zero => exact fun r _ _ => ⟨fun r0 h2 h3 => by omega, fun _ => rfl⟩
  | succ fuel ih =>
    intro r h1 hinv
    have hsol : Sol sbf w 0 r ↔ sbf (0 + r) = w r := by
      unfold Sol
      rw [Nat.max_eq_left h1, Nat.zero_add]
      have := (hl (r - 1)).2
      rw [Nat.sub_add_cancel h1] at this
      omega
    unfold bruteLoop
    rw [if_neg (by omega)]
    by_cases heq : sbf (0 + r) = w r
    · rw [if_pos heq]
      refine ⟨fun r0 h2 _ _ hleast => ?_, fun hnone => ?_⟩
      · rcases Nat.eq_or_lt_of_le h2 with rfl | hlt
        · rfl
        · exact absurd (hsol.2 heq) (hleast r (Nat.le_refl _) hlt)
      · exact absurd (hsol.2 heq) (hnone r (Nat.le_refl _) (by omega))
    · rw [if_neg heq]
      have hnot : ¬ Sol sbf w 0 r := fun h => heq (hsol.1 h)
      have hnext : sbf (r + 1 - 1) < w (r + 1) := by
        have := hw r (r + 1) (Nat.le_succ r)
        unfold Sol at hnot
        rw [Nat.max_eq_left h1, Nat.zero_add] at hnot
        rw [Nat.add_sub_cancel]
        omega
      obtain ⟨ih1, ih2⟩ := ih (r + 1) (by omega) hnext
      refine ⟨fun r0 h2 h3 hs0 hleast => ?_, fun hnone => ?_⟩
      · rcases Nat.eq_or_lt_of_le h2 with rfl | hlt
        · exact absurd hs0 hnot
        · exact ih1 r0 hlt (by omega) hs0 (fun r' a b => hleast r' (by omega) b)
      · exact ih2 (fun r0 a b => hnone r0 (by omega) (by omega))

end RTA
