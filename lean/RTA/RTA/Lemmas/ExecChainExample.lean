import RTA.Lemmas.ExecRefine
import RTA.Lemmas.ExecChainEndToEndX
/-! Non-vacuity of `chain_exec_sound_x` at the WCETs: a concrete callback table with a chain, a
dedicated processor and periodic releases satisfy EVERY hypothesis; the run reports completions
of the chain's last callback, and the bound is attained (response 6 = `R`). -/

namespace RTA.Exec
open RTA RTA.Sched RTA.Spec

/-- a timer (cost 1, every 20 slots) and a chain of two polled callbacks: the source `c₀`
(index 1, cost 2, every 20 slots) triggers `c₁` (index 2, cost 3) -/
def exCbsC : List Cb :=
  [{ isTimer := true, prio := 0, cost := 1 }, { isTimer := false, prio := 0, cost := 2 },
   { isTimer := false, prio := 1, cost := 3 }]

def exChain : List ℕ := [1, 2]

def exSigmaC : ℕ → Bool := fun _ => true

def exRelsC : ℕ → List ℕ := fun t => if t < 40 then (if t % 20 = 0 then [0, 1] else []) else []

def exArrsC : List Arr := [.periodic 20, .periodic 20, .periodic 20]

end RTA.Exec

namespace RTA.Exec.ChainExampleLemmas
open RTA RTA.Sched RTA.Spec RTA.Exec

theorem service_all (t : ℕ) : ∀ d, service exSigmaC t d = d := by
  intro d
  induction d with
  | zero => rfl
  | succ d ih => simp [service, ih, exSigmaC]

theorem count0 (x : ℕ) : (exRelsC x).count 0 ≤ if x % 20 = 0 then 1 else 0 := by
  unfold exRelsC
  split_ifs <;> decide

theorem count1 (x : ℕ) : (exRelsC x).count 1 ≤ if x % 20 = 0 then 1 else 0 := by
  unfold exRelsC
  split_ifs <;> decide

theorem hmem : ∀ i ∈ exChain, i < exCbsC.length ∧ (exCbsC.getD i default).isTimer = false := by
  decide

theorem hidx : ∀ t, ∀ i ∈ exRelsC t, i < exCbsC.length := by
  intro t i hi
  show i < 3
  unfold exRelsC at hi
  split_ifs at hi <;> simp at hi
  omega

theorem hext : ∀ t, ∀ i ∈ exRelsC t, i ∉ exChain.tail := by
  intro t i hi
  show i ∉ [2]
  unfold exRelsC at hi
  split_ifs at hi <;> simp at hi
  simp
  omega

theorem hfin : ∀ t, 40 ≤ t → exRelsC t = [] := by
  intro t ht
  unfold exRelsC
  rw [if_neg (by omega)]

theorem hwfo : ∀ b ∈ exArrsC, b.WF ∧ b.Exact := by
  intro b hb
  have : b = .periodic 20 := by simpa [exArrsC] using hb
  subst this
  exact ⟨by decide, trivial⟩

theorem hsrc : ∀ t d, relCount exRelsC (exChain.headD 0) t d ≤ (Arr.periodic 20).N d := by
  intro t d
  exact EndToEndLemmas.relCount_periodic exRelsC 1 20 (by decide) count1 t d

theorem hrel : ∀ k, k < exCbsC.length → k ∉ exChain → ∀ t d,
    relCount exRelsC k t d ≤ (exArrsC.getD k default).N d := by
  intro k hk hn t d
  match k, hk, hn with
  | 0, _, _ => exact EndToEndLemmas.relCount_periodic exRelsC 0 20 (by decide) count0 t d
  | 1, _, hn => exact absurd (by decide : 1 ∈ exChain) hn
  | 2, _, hn => exact absurd (by decide : 2 ∈ exChain) hn
  | k + 3, h, _ => exact absurd (show k + 3 < 3 from h) (by omega)

end RTA.Exec.ChainExampleLemmas

namespace RTA.Exec
open RTA RTA.Sched RTA.Spec
open ChainExampleLemmas

theorem exSigmaC_sbf (t d : ℕ) : Supply.dedicated.sbf d ≤ service exSigmaC t d := by
  rw [service_all]
  exact Nat.le_refl _

theorem chain_example_bound :
    rosChain .dedicated
      (.rbf (.periodic 20) (.scalar (exCbsC.getD 2 default).cost))
      (.rbf (.periodic 20) (.scalar ((exChain.dropLast.map fun i => (exCbsC.getD i default).cost).sum)))
      (.rbf (.periodic 20) (.scalar ((exCbsC.getD 2 default).cost + (exChain.dropLast.map fun i => (exCbsC.getD i default).cost).sum)))
      (.agg (((List.range exCbsC.length).filter fun k => decide (k ∉ exChain)).map
        fun k => .rbf (exArrsC.getD k default) (.scalar (exCbsC.getD k default).cost))) 100 = .ok 6 := by
  decide +kernel

theorem chain_example_completions :
    completionsOf (Exec.run exCbsC (chainFn exChain) ((List.range 60).map exSigmaC) exRelsC) 2 = [6, 26] := by
  decide +kernel

theorem chain_example_releases : relTimes exRelsC 40 (exChain.headD 0) = [0, 20] := by
  decide +kernel

theorem chain_example_bounded (m : ℕ)
    (hm : m < (completionsOf (Exec.run exCbsC (chainFn exChain) ((List.range 60).map exSigmaC) exRelsC) 2).length) :
    (completionsOf (Exec.run exCbsC (chainFn exChain) ((List.range 60).map exSigmaC) exRelsC) 2).getD m 0 ≤
      (relTimes exRelsC 40 (exChain.headD 0)).getD m 0 + 6 := by
  rw [← ExecX.run_wcet] at hm ⊢
  exact ExecX.chain_exec_sound_x exCbsC _ exChain exSigmaC exRelsC 40 2 (by decide) (by decide) rfl hmem
    hidx hext hfin (wcet_bounds _ (by decide)) .dedicated trivial exSigmaC_sbf (.periodic 20) (by decide)
    trivial hsrc exArrsC rfl hwfo hrel 100 6 chain_example_bound 60 m hm

end RTA.Exec
