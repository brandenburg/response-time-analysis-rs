import RTA.Lemmas.FifoSound
import Mathlib.Data.Finset.Max
/-! C18: tightness of the FIFO bound.  In EVERY legal FIFO schedule of a job set whose tasks
realise their arrival curves from a common instant (`RealisesFrom`; sporadic tasks with jitter
do, `criticalInstantAt`) some job has a response time equal to the bound; and every job set has
a legal schedule: the greedy scheduler, here for FIFO and, with other keys, for fixed priority. -/

open Finset

namespace RTA.Sched
open RTA RTA.Spec

/-- a job set: task, release, cost of each of `n` jobs -/
structure JobSet where
  n : ℕ
  task : ℕ → ℕ
  arr : ℕ → ℕ
  cost : ℕ → ℕ

/-- the system consisting of a job set and a schedule (no non-preemptive states) -/
def JobSet.withSched (js : JobSet) (sched : ℕ → Option ℕ) : Sys :=
  { n := js.n, task := js.task, arr := js.arr, cost := js.cost, np := fun _ _ => False, sched := sched }

/-- the system consisting of a job set, a schedule and the non-preemptable service levels `np` -/
def JobSet.sys (js : JobSet) (np : ℕ → ℕ → Prop) (sched : ℕ → Option ℕ) : Sys :=
  { n := js.n, task := js.task, arr := js.arr, cost := js.cost, np := np, sched := sched }

namespace TightLemmas
open FifoSoundLemmas

/-- keep the candidate with the smaller key (ties: the earlier candidate) -/
def better (arr : ℕ → ℕ) (best : Option ℕ) (k : ℕ) : Option ℕ :=
  match best with
  | none => some k
  | some b => if arr k < arr b then some k else some b

/-- among the `k < m` with `p k`, one with the least `arr k` -/
def pickUpTo (arr : ℕ → ℕ) (p : ℕ → Bool) : ℕ → Option ℕ
  | 0 => none
  | m + 1 => if p m then better arr (pickUpTo arr p m) m else pickUpTo arr p m

theorem pick_spec (arr : ℕ → ℕ) (p : ℕ → Bool) : ∀ m,
    (pickUpTo arr p m = none ∧ ∀ k, k < m → p k = false) ∨
    (∃ j, pickUpTo arr p m = some j ∧ j < m ∧ p j = true ∧
      ∀ k, k < m → p k = true → arr j ≤ arr k) := by
  intro m
  induction m with
  | zero => exact Or.inl ⟨rfl, fun k hk => absurd hk (Nat.not_lt_zero _)⟩
  | succ m ih =>
    simp only [pickUpTo, Nat.forall_lt_succ_right]
    by_cases hp : p m = true
    · rw [if_pos hp]
      right
      rcases ih with ⟨hn, hall⟩ | ⟨j, hj, hjm, hpj, hmin⟩
      · rw [hn]
        exact ⟨m, rfl, Nat.lt_succ_self m, hp,
          fun k hk hpk => absurd hpk (by rw [hall k hk]; exact Bool.false_ne_true),
          fun _ => Nat.le_refl _⟩
      · rw [hj]
        simp only [better]
        by_cases hlt : arr m < arr j
        · rw [if_pos hlt]
          exact ⟨m, rfl, Nat.lt_succ_self m, hp,
            fun k hk hpk => Nat.le_trans (Nat.le_of_lt hlt) (hmin k hk hpk), fun _ => Nat.le_refl _⟩
        · rw [if_neg hlt]
          exact ⟨j, rfl, Nat.lt_succ_of_lt hjm, hpj, hmin, fun _ => Nat.le_of_not_lt hlt⟩
    · rw [if_neg hp]
      have hp' : p m = false := Bool.eq_false_iff.2 hp
      rcases ih with ⟨hn, hall⟩ | ⟨j, hj, hjm, hpj, hmin⟩
      · exact Or.inl ⟨hn, hall, hp'⟩
      · exact Or.inr ⟨j, hj, Nat.lt_succ_of_lt hjm, hpj, hmin, fun h => absurd h hp⟩

def pend (js : JobSet) (σ : ℕ → ℕ) (t : ℕ) : ℕ → Bool :=
  fun k => decide (js.arr k ≤ t ∧ σ k < js.cost k)

/-- the decision of the greedy scheduler: continue the job served last while `c` says that its
service level is non-preemptable, otherwise pick a pending job with the least key `κ` -/
def choose (js : JobSet) (κ : ℕ → ℕ) (c : ℕ → ℕ → Bool) (σ : ℕ → ℕ) (last : Option ℕ) (t : ℕ) :
    Option ℕ :=
  match last with
  | some j => if c j (σ j) then some j else pickUpTo κ (pend js σ t) js.n
  | none => pickUpTo κ (pend js σ t) js.n

/-- state of the scheduler at time `t`: service vector and job served in slot `t - 1` -/
def gstate (js : JobSet) (κ : ℕ → ℕ) (c : ℕ → ℕ → Bool) : ℕ → (ℕ → ℕ) × Option ℕ
  | 0 => (fun _ => 0, none)
  | t + 1 =>
    (fun k => (gstate js κ c t).1 k +
        if choose js κ c (gstate js κ c t).1 (gstate js κ c t).2 t = some k then 1 else 0,
      choose js κ c (gstate js κ c t).1 (gstate js κ c t).2 t)

/-- the greedy scheduler: FIFO for `κ = arr`, fixed priority for `κ = TightFPLemmas.key`; preemptive for
`c = false` -/
def greedy (js : JobSet) (κ : ℕ → ℕ) (c : ℕ → ℕ → Bool) (t : ℕ) : Option ℕ :=
  choose js κ c (gstate js κ c t).1 (gstate js κ c t).2 t

section greedy
variable (js : JobSet) (κ : ℕ → ℕ) (c : ℕ → ℕ → Bool) (np : ℕ → ℕ → Prop)

theorem gstate_last (t : ℕ) : (gstate js κ c (t + 1)).2 = greedy js κ c t := rfl

theorem svc_greedy (k : ℕ) :
    ∀ t, svc (js.sys np (greedy js κ c)) k t = (gstate js κ c t).1 k := by
  intro t
  induction t with
  | zero => rfl
  | succ t ih =>
    show svc (js.sys np (greedy js κ c)) k t + (if greedy js κ c t = some k then 1 else 0)
      = (gstate js κ c t).1 k + (if greedy js κ c t = some k then 1 else 0)
    rw [ih]

theorem pending_greedy (k t : ℕ) :
    Pending (js.sys np (greedy js κ c)) k t ↔ pend js (gstate js κ c t).1 t k = true := by
  unfold Pending
  rw [svc_greedy]
  simp [pend, JobSet.sys]

theorem greedy_cases (t : ℕ) :
    (∃ t' j, t = t' + 1 ∧ greedy js κ c t' = some j ∧ greedy js κ c t = some j ∧
      c j ((gstate js κ c t).1 j) = true) ∨
    greedy js κ c t = pickUpTo κ (pend js (gstate js κ c t).1 t) js.n := by
  cases t with
  | zero => right; rfl
  | succ t' =>
    unfold greedy
    rw [gstate_last]
    cases hg : greedy js κ c t' with
    | none => right; rfl
    | some j =>
      simp only [choose]
      by_cases hc : c j ((gstate js κ c (t' + 1)).1 j) = true
      · left
        refine ⟨t', j, rfl, hg, ?_, hc⟩
        rw [if_pos hc]
      · right
        rw [if_neg hc]

theorem greedy_valid (hc : ∀ j x, c j x = true → x < js.cost j) :
    Valid (js.sys np (greedy js κ c)) := by
  constructor
  · intro t
    induction t with
    | zero =>
      intro j h
      have h' : pickUpTo κ (pend js (gstate js κ c 0).1 0) js.n = some j := h
      rcases pick_spec κ (pend js (gstate js κ c 0).1 0) js.n with ⟨hn, _⟩ | ⟨j', hj', hlt, hp, _⟩
      · rw [hn] at h'; cases h'
      · rw [hj'] at h'
        cases h'
        exact ⟨hlt, (pending_greedy js κ c np _ 0).2 hp⟩
    | succ t ih =>
      intro j h
      have h : greedy js κ c (t + 1) = some j := h
      rcases greedy_cases js κ c (t + 1) with ⟨t', j', ht', hprev, hcur, h1⟩ | hpick
      · have e : t' = t := by omega
        subst e
        rw [hcur] at h
        cases h
        obtain ⟨hlt, hp⟩ := ih j hprev
        refine ⟨hlt, ?_⟩
        have ha : js.arr j ≤ t' := hp.1
        unfold Pending
        rw [svc_greedy]
        exact ⟨by show js.arr j ≤ t' + 1; omega, hc _ _ h1⟩
      · rw [hpick] at h
        rcases pick_spec κ (pend js (gstate js κ c (t + 1)).1 (t + 1)) js.n with
          ⟨hn, _⟩ | ⟨j', hj', hlt, hp, _⟩
        · rw [hn] at h; cases h
        · rw [hj'] at h
          cases h
          exact ⟨hlt, (pending_greedy js κ c np _ (t + 1)).2 hp⟩
  · rintro t ⟨k, hk, hpk⟩
    have hk' : k < js.n := hk
    rcases greedy_cases js κ c t with ⟨t', j', _, _, hcur, _⟩ | hpick
    · exact ⟨j', hcur⟩
    · rcases pick_spec κ (pend js (gstate js κ c t).1 t) js.n with ⟨_, hall⟩ | ⟨j', hj', _, _, _⟩
      · have := (pending_greedy js κ c np k t).1 hpk
        rw [hall k hk'] at this
        cases this
      · exact ⟨j', by show greedy js κ c t = some j'; rw [hpick]; exact hj'⟩

theorem greedy_cont (t k : ℕ) (hs : greedy js κ c t = some k)
    (hnp : c k (svc (js.sys np (greedy js κ c)) k (t + 1)) = true) :
    greedy js κ c (t + 1) = some k := by
  rw [svc_greedy] at hnp
  unfold greedy
  rw [gstate_last, hs]
  simp only [choose]
  rw [if_pos hnp]

theorem greedy_min (t j : ℕ) (h : greedy js κ c t = some j) :
    (∃ t', t = t' + 1 ∧ greedy js κ c t' = some j ∧
      c j (svc (js.sys np (greedy js κ c)) j t) = true) ∨
    ∀ k, k < js.n → Pending (js.sys np (greedy js κ c)) k t → κ j ≤ κ k := by
  rcases greedy_cases js κ c t with ⟨t', j', ht', hprev, hcur, h1⟩ | hpick
  · left
    rw [hcur] at h
    cases h
    exact ⟨t', ht', hprev, by rw [svc_greedy]; exact h1⟩
  · right
    intro k hk hpk
    rw [hpick] at h
    rcases pick_spec κ (pend js (gstate js κ c t).1 t) js.n with ⟨hn, _⟩ | ⟨j', hj', _, _, hmin⟩
    · rw [hn] at h; cases h
    · rw [hj'] at h
      cases h
      exact hmin k hk ((pending_greedy js κ c np k t).1 hpk)

end greedy

open Classical in
/-- completion time of job `k` (0 if it never completes) -/
noncomputable def complTime (s : Sys) (k : ℕ) : ℕ :=
  if h : ∃ t, svc s k t = s.cost k then Nat.find h else 0

theorem complTime_spec (s : Sys) (k : ℕ) (h : ∃ t, svc s k t = s.cost k) :
    svc s k (complTime s k) = s.cost k := by
  classical
  unfold complTime
  rw [dif_pos h]
  exact Nat.find_spec h

theorem complTime_le (s : Sys) (k t : ℕ) (ht : svc s k t = s.cost k) : complTime s k ≤ t := by
  classical
  have h : ∃ t, svc s k t = s.cost k := ⟨t, ht⟩
  unfold complTime
  rw [dif_pos h]
  exact Nat.find_min' h ht

/-- once every job released in `[lo, hi)` is complete at `F`, their total cost has been served
in `[lo, F)` -/
theorem work_le_of_done {s : Sys} (hv : ServesPending s) (lo hi F : ℕ) (h : lo ≤ F)
    (hdone : ∀ k, k < s.n → lo ≤ s.arr k → s.arr k < hi → svc s k F = s.cost k) :
    work s lo hi ≤ F - lo := by
  have heq : served s lo hi F = work s lo hi := by
    unfold served work
    refine sum_congr rfl fun k hk => ?_
    split
    next h => exact hdone k (mem_range.1 hk) h.1 h.2
    next => rfl
  have := sv_le_len (s := s) (fun k => lo ≤ s.arr k ∧ s.arr k < hi) lo (F - lo)
  rw [sv_zero _ lo (fun k _ hk => hv.svc_zero_before k lo hk.1), Nat.add_sub_cancel' h,
    ← served_eq_sv, heq, Nat.zero_add] at this
  exact this

/-- lower bound for a window starting at an arbitrary `t₀`: among the jobs released at
`t₀ + A` the one completing last completes no earlier than `t₀ + W`, `W` the total cost of
the jobs released in `[t₀, t₀ + A]` (whatever was released before `t₀`) -/
theorem lower_from (s : Sys) (hl : FifoLegal s) (t₀ A : ℕ)
    (hex : ∃ j, j < s.n ∧ s.arr j = t₀ + A) (hpos : ∀ k, k < s.n → 1 ≤ s.cost k) :
    ∃ j, j < s.n ∧ s.arr j = t₀ + A ∧
      ∀ R, MeetsBound s j R → work s t₀ (t₀ + A + 1) ≤ A + R := by
  classical
  by_cases hall : ∀ j, j < s.n → s.arr j = t₀ + A → ∃ t, svc s j t = s.cost j
  swap
  · push Not at hall
    obtain ⟨j, hj, hja, hnc⟩ := hall
    exact ⟨j, hj, hja, fun R hR => absurd hR (hnc (s.arr j + R))⟩
  have hne : ((range s.n).filter (fun k => s.arr k = t₀ + A)).Nonempty := by
    obtain ⟨j, hj, hja⟩ := hex
    exact ⟨j, mem_filter.2 ⟨mem_range.2 hj, hja⟩⟩
  obtain ⟨j, hjS, hmax⟩ := Finset.exists_max_image _ (complTime s) hne
  have hj : j < s.n ∧ s.arr j = t₀ + A := ⟨mem_range.1 (mem_filter.1 hjS).1, (mem_filter.1 hjS).2⟩
  have hjF : svc s j (complTime s j) = s.cost j := complTime_spec s j (hall j hj.1 hj.2)
  have hmin : ∀ t, svc s j t = s.cost j → complTime s j ≤ t := fun t ht => complTime_le s j t ht
  generalize complTime s j = F at hmax hjF hmin
  have hcj := hpos j hj.1
  have hF1 : 1 ≤ F := by
    rcases Nat.eq_zero_or_pos F with h | h
    · subst h
      have : svc s j 0 = 0 := rfl
      omega
    · exact h
  obtain ⟨F', rfl⟩ : ∃ F', F = F' + 1 := ⟨F - 1, by omega⟩
  have hlt : svc s j F' < s.cost j := by
    have h1 := hl.servesPending.svc_le_cost j F'
    have h2 : svc s j F' ≠ s.cost j := fun h => by have := hmin F' h; omega
    omega
  have hsch : s.sched F' = some j := by
    by_contra hns
    simp only [svc, if_neg hns] at hjF
    omega
  have hpj := (hl.valid F' j hsch).2
  have hpj1 : s.arr j ≤ F' := hpj.1
  have hdone : ∀ k, k < s.n → t₀ ≤ s.arr k → s.arr k < t₀ + A + 1 →
      svc s k (F' + 1) = s.cost k := by
    intro k hk h1 h2
    by_cases hka : s.arr k = t₀ + A
    · exact hl.servesPending.done_mono k (hmax k (mem_filter.2 ⟨mem_range.2 hk, hka⟩))
        (complTime_spec s k (hall k hk hka))
    · have hnp : ¬ Pending s k F' := fun hp => by
        have := hl.fifo F' j hsch k hk hp
        omega
      have hd : svc s k F' = s.cost k := by
        unfold Pending at hnp
        have := hl.servesPending.svc_le_cost k F'
        omega
      exact hl.servesPending.done_mono k (by omega) hd
  have hle := work_le_of_done hl.servesPending t₀ (t₀ + A + 1) (F' + 1) (by omega) hdone
  refine ⟨j, hj.1, hj.2, fun R hR => ?_⟩
  have := hmin (s.arr j + R) hR
  omega

theorem maxList_mem_of_pos : ∀ l : List ℕ, 0 < maxList l → maxList l ∈ l
  | [], h => by simp [maxList] at h
  | x :: xs, h => by
    simp only [maxList] at h ⊢
    rcases Nat.le_total x (maxList xs) with hle | hle
    · rw [Nat.max_eq_right hle] at h ⊢
      exact List.mem_cons_of_mem _ (maxList_mem_of_pos xs h)
    · rw [Nat.max_eq_left hle]
      exact List.mem_cons_self

theorem getD_eq_getElem' {α : Type} (l : List α) (i : ℕ) (d : α) (h : i < l.length) :
    l.getD i d = l[i] := (List.getElem_eq_getD d).symm

/-- with scalar WCETs attained by every job and release counts equal to the arrival bounds
the workload of the window `[t₀, t₀ + d)` IS the aggregate request bound -/
theorem work_eq_need (s : Sys) (ts : List (Arr × ℕ))
    (hc : Compliant s (ts.map fun p => (p.1, Cost.scalar p.2)))
    (hcost : ∀ k, k < s.n → s.cost k = (ts.getD (s.task k) default).2)
    (t₀ d : ℕ)
    (hreal : ∀ i, i < ts.length → cnt (relsOf s i) t₀ d = (ts.getD i default).1.N d) :
    work s t₀ (t₀ + d) = (taskSetRB (ts.map fun p => (p.1, Cost.scalar p.2))).need d := by
  rw [work_eq_sum_workOf s _ hc.task_lt, need_taskSetRB,
    ← sum_range_getElem? (ts.map fun p => (p.1, Cost.scalar p.2)) (fun p => p.2.ofJobs (p.1.N d))]
  apply Finset.sum_congr rfl
  intro i hi
  have hi' := mem_range.1 hi
  have hi2 : i < ts.length := by simpa using hi'
  rw [List.getElem?_eq_getElem hi', List.getElem_map]
  simp only [Cost.ofJobs]
  rw [workOf_const s i (ts.getD i default).2 t₀ d ?_, hreal i hi2, getD_eq_getElem' _ _ _ hi2]
  intro k hk hki
  rw [hcost k hk, hki]

/-- what `Ok(R)` of the FIFO analysis means: there is a busy-window length `L`, and `R` is the
maximum over the offsets below `L`; with it, monotonicity of the request bound -/
theorem fifo_window (ts : List (Arr × ℕ)) (hwf : ∀ p ∈ ts, p.1.WF ∧ p.1.Exact ∧ 1 ≤ p.2)
    (limit R : ℕ)
    (hR : fifoRta (taskSetRB (ts.map fun p => (p.1, Cost.scalar p.2))) limit = .ok R) :
    ∃ L, naiveSolve (fun x => (taskSetRB (ts.map fun p => (p.1, Cost.scalar p.2))).need x) limit = .ok L ∧
      maxList ((List.range L).map fun A =>
        (taskSetRB (ts.map fun p => (p.1, Cost.scalar p.2))).need (A + 1) - A) = R ∧
      ∀ a b, a ≤ b → (taskSetRB (ts.map fun p => (p.1, Cost.scalar p.2))).need a
        ≤ (taskSetRB (ts.map fun p => (p.1, Cost.scalar p.2))).need b := by
  have h1 : (taskSetRB (ts.map fun p => (p.1, Cost.scalar p.2))).ArrWF := by
    unfold taskSetRB; unfold RB.ArrWF
    apply arrWFList_map
    intro p hp
    obtain ⟨q, hq, rfl⟩ := List.mem_map.1 hp
    exact (hwf q hq).1
  have h2 : (taskSetRB (ts.map fun p => (p.1, Cost.scalar p.2))).Exact := by
    unfold taskSetRB; unfold RB.Exact
    apply exactList_map
    intro p hp
    obtain ⟨q, hq, rfl⟩ := List.mem_map.1 hp
    exact ⟨(hwf q hq).2.1, Cost.scalar_strictPos _ (hwf q hq).2.2⟩
  have hlim := PruneCoreLemmas.limit_pos_of_ok (fifoRta _) (fifoRta_limit_zero _) hR
  rw [fifo_eq_naive _ h1 h2 limit hlim] at hR
  unfold naiveFifo at hR
  rcases naiveSolve_cases (fun x =>
    (taskSetRB (ts.map fun p => (p.1, Cost.scalar p.2))).need x) limit with ⟨L, h⟩ | h
  · rw [h] at hR
    exact ⟨L, h, Res.ok.inj hR, RB.need_mono _ h1 h2⟩
  · rw [h] at hR; cases hR

/-- C18 for FIFO, windows starting at a common time `t₀`: if every task's releases attain its
arrival curve in the windows from `t₀` up to the busy-window length, all jobs execute for their
scalar WCET, and the analysis returns `Ok(R)` with `R > 0`, then in EVERY legal FIFO schedule of
that job set some job has response time exactly `R` -/
theorem attained_core (s : Sys) (hl : FifoLegal s) (ts : List (Arr × ℕ))
    (hwf : ∀ p ∈ ts, p.1.WF ∧ p.1.Exact ∧ 1 ≤ p.2)
    (hc : Compliant s (ts.map fun p => (p.1, Cost.scalar p.2)))
    (hcost : ∀ k, k < s.n → s.cost k = (ts.getD (s.task k) default).2)
    (limit R L t₀ : ℕ)
    (hR : fifoRta (taskSetRB (ts.map fun p => (p.1, Cost.scalar p.2))) limit = .ok R)
    (hL : naiveSolve (fun x => (taskSetRB (ts.map fun p => (p.1, Cost.scalar p.2))).need x) limit = .ok L)
    (hreal : ∀ i, i < ts.length → ∀ Δ, Δ ≤ L →
      cnt (relsOf s i) t₀ Δ = (ts.getD i default).1.N Δ) (hRpos : 0 < R) :
    ∃ j, j < s.n ∧ MeetsBound s j R ∧ ∀ R', R' < R → ¬ MeetsBound s j R' := by
  have hmeets := fifo_sound_taskset s hl _
    (fun p hp => by
      obtain ⟨q, hq, rfl⟩ := List.mem_map.1 hp
      exact ⟨(hwf q hq).1, trivial⟩)
    (fun p hp => by
      obtain ⟨q, hq, rfl⟩ := List.mem_map.1 hp
      exact ⟨(hwf q hq).2.1, Cost.scalar_strictPos _ (hwf q hq).2.2⟩) hc limit R hR
  obtain ⟨L', hL', hR, hmono⟩ := fifo_window ts hwf limit R hR
  rw [hL, Res.ok.injEq] at hL'
  subst hL'
  have hwork : ∀ d, d ≤ L → work s t₀ (t₀ + d)
      = (taskSetRB (ts.map fun p => (p.1, Cost.scalar p.2))).need d :=
    fun d hd => work_eq_need s ts hc hcost t₀ d (fun i hi => hreal i hi d hd)
  generalize (taskSetRB (ts.map fun p => (p.1, Cost.scalar p.2))).need = need at hR hmono hwork
  have hzero : need 0 = 0 := by
    have := hwork 0 (Nat.zero_le _)
    rw [← this]
    unfold work
    exact sum_eq_zero (fun k _ => if_neg (by omega))
  -- the maximum is attained
  have hmem : R ∈ (List.range L).map fun A => need (A + 1) - A := by
    rw [← hR]
    exact maxList_mem_of_pos _ (by rw [hR]; exact hRpos)
  obtain ⟨A, hA, hgA⟩ := List.mem_map.1 hmem
  have hAL : A < L := List.mem_range.1 hA
  have hgA : need (A + 1) - A = R := hgA
  -- at an increase point
  have hinc : need A < need (A + 1) := by
    rcases Nat.eq_zero_or_pos A with h0 | hpos
    · subst h0; omega
    · have hle : need (A - 1 + 1) - (A - 1) ≤ R := by
        rw [← hR]
        apply le_maxList_of_mem
        exact List.mem_map.2 ⟨A - 1, List.mem_range.2 (by omega), rfl⟩
      rw [Nat.sub_add_cancel hpos] at hle
      have := hmono A (A + 1) (by omega)
      omega
  have hw1 := hwork (A + 1) (by omega)
  have hw0 := hwork A (by omega)
  -- some job is released exactly at `t₀ + A`
  have hex : ∃ j, j < s.n ∧ s.arr j = t₀ + A := by
    by_contra hno
    push Not at hno
    have : work s t₀ (t₀ + (A + 1)) = work s t₀ (t₀ + A) := by
      unfold work
      apply sum_congr rfl
      intro k hk
      have := hno k (mem_range.1 hk)
      by_cases hw : t₀ ≤ s.arr k ∧ s.arr k < t₀ + A
      · rw [if_pos hw, if_pos (by omega)]
      · rw [if_neg hw, if_neg (by omega)]
    omega
  have hposc : ∀ k, k < s.n → 1 ≤ s.cost k := by
    intro k hk
    have hlt := hc.task_lt k hk
    rw [List.length_map] at hlt
    rw [hcost k hk, getD_eq_getElem' _ _ _ hlt]
    exact (hwf _ (List.getElem_mem hlt)).2.2
  obtain ⟨j, hj, hja, hlow⟩ := lower_from s hl t₀ A hex hposc
  refine ⟨j, hj, hmeets j hj, ?_⟩
  intro R' hR' hm
  have := hlow R' hm
  have e : t₀ + A + 1 = t₀ + (A + 1) := by omega
  rw [e, hw1] at this
  omega

theorem GapsGe_map_add (T c : ℕ) : ∀ l, GapsGe T l → GapsGe T (l.map (· + c)) := by
  intro l
  induction l with
  | nil => intro _; simp [GapsGe]
  | cons x l ih =>
    cases l with
    | nil => intro _; simp [GapsGe]
    | cons y l =>
      intro h
      rw [GapsGe] at h
      rw [List.map_cons, List.map_cons, GapsGe]
      exact ⟨by omega, ih h.2⟩

theorem DelayedBy_map_add (J c : ℕ) : ∀ a r, DelayedBy J a r →
    DelayedBy J (a.map (· + c)) (r.map (· + c)) := by
  intro a
  induction a with
  | nil =>
    intro r h
    cases r with
    | nil => simp [DelayedBy]
    | cons y r => simp [DelayedBy] at h
  | cons x a ih =>
    intro r h
    cases r with
    | nil => simp [DelayedBy] at h
    | cons y r =>
      rw [DelayedBy] at h
      rw [List.map_cons, List.map_cons, DelayedBy]
      exact ⟨by omega, by omega, ih r h.2.2⟩

theorem cnt_map_add (l : List ℕ) (c t Δ : ℕ) : cnt (l.map (· + c)) (t + c) Δ = cnt l t Δ := by
  induction l with
  | nil => rfl
  | cons x l ih =>
    rw [List.map_cons, cnt_cons, cnt_cons, ih]
    congr 1
    by_cases h : t ≤ x ∧ x < t + Δ
    · rw [if_pos h, if_pos (by omega)]
    · rw [if_neg h, if_neg (by omega)]

end TightLemmas
open TightLemmas

theorem exists_fifo_schedule (js : JobSet) :
    ∃ sched, FifoLegal (js.withSched sched) := by
  refine ⟨greedy js js.arr (fun _ _ => false),
    greedy_valid js js.arr _ _ (fun _ _ h => by cases h), ?_⟩
  intro t j h k hk hpk
  rcases greedy_min js js.arr (fun _ _ => false) (fun _ _ => False) t j h with ⟨_, _, _, h⟩ | h
  · cases h
  · exact h k hk hpk

/-- lower bound valid in EVERY legal FIFO schedule: if the jobs released in `[0, A]` have
total cost `W`, then among the jobs released exactly at `A` the one completing last completes
no earlier than `W`; hence some job released at `A` has response time at least `W - A` -/
theorem fifo_response_lower_bound (s : Sys) (hl : FifoLegal s) (A : ℕ)
    (hex : ∃ j, j < s.n ∧ s.arr j = A) (hpos : ∀ k, k < s.n → 1 ≤ s.cost k) :
    ∃ j, j < s.n ∧ s.arr j = A ∧ ∀ R, MeetsBound s j R → work s 0 (A + 1) ≤ A + R := by
  have := lower_from s hl 0 A (by rwa [Nat.zero_add]) hpos
  rwa [Nat.zero_add] at this

/-- the release sequence `rels` realises the arrival model from time 0: the number of
releases in `[0, Δ)` is exactly `number_arrivals(Δ)`, for every `Δ` up to `H` -/
def RealisesUpTo (a : Arr) (rels : List ℕ) (H : ℕ) : Prop := ∀ Δ, Δ ≤ H → cnt rels 0 Δ = a.N Δ

/-- the critical-instant sequence of a sporadic task with jitter, shifted to start at 0 -/
def criticalFromZero (T J n : ℕ) : List ℕ := (List.range n).map fun k => k * T - J



theorem criticalFromZero_realises (T J n H : ℕ) (hT : 1 ≤ T) (hn : (Arr.sporadic T J).N H ≤ n) :
    RealisesUpTo (.sporadic T J) (criticalFromZero T J n) H := by
  intro Δ hΔ
  have hn' : (Arr.sporadic T J).N Δ ≤ n := le_trans (sporadic_N_mono T J hT Δ H hΔ) hn
  rw [sporadic_N_eq] at hn' ⊢
  split
  next h => subst h; exact cnt_zero _ _
  next h =>
    rw [if_neg h] at hn'
    unfold cnt criticalFromZero
    rw [List.filter_map, List.length_map]
    have : (List.range n).filter ((fun r => decide (0 ≤ r) && decide (r < 0 + Δ)) ∘
        fun k => k * T - J) = (List.range n).filter (fun k => decide (k * T < Δ + J)) := by
      apply List.filter_congr
      intro k _
      simp only [Function.comp]
      rw [Bool.eq_iff_iff]
      simp only [Bool.and_eq_true, decide_eq_true_eq]
      omega
    rw [this, length_filter_range_lt T _ hT]
    omega

/-- the sequence shifted to start at 0 is in general NOT admissible: with `T = J = 1` the first
two releases both fall on time 0, but admissible arrivals are at least `T = 1` apart and not
later than the releases.  Hence `RealisesFrom` and `criticalInstantAt` below. -/
theorem criticalFromZero_not_admissible :
    ¬ Admissible (.sporadic 1 1) (criticalFromZero 1 1 2) := by
  rw [Admissible]
  rintro ⟨arrivals, hg, hd⟩
  have e : criticalFromZero 1 1 2 = [0, 0] := by decide
  rw [e] at hd
  rcases arrivals with _ | ⟨a, _ | ⟨b, _ | ⟨c, rest⟩⟩⟩
  · simp [DelayedBy] at hd
  · simp [DelayedBy] at hd
  · simp only [DelayedBy, GapsGe] at hd hg
    omega
  · simp [DelayedBy] at hd

/-- the release sequence `rels` realises the arrival model from time `t₀`: nothing is
released before `t₀` and the number of releases in `[t₀, t₀ + Δ)` is exactly
`number_arrivals(Δ)`, for every `Δ` up to `H` -/
def RealisesFrom (a : Arr) (rels : List ℕ) (t₀ H : ℕ) : Prop :=
  (∀ r ∈ rels, t₀ ≤ r) ∧ ∀ Δ, Δ ≤ H → cnt rels t₀ Δ = a.N Δ

theorem RealisesUpTo_iff_RealisesFrom (a : Arr) (rels : List ℕ) (H : ℕ) :
    RealisesUpTo a rels H ↔ RealisesFrom a rels 0 H :=
  ⟨fun h => ⟨fun _ _ => Nat.zero_le _, h⟩, fun h => h.2⟩

/-- the critical-instant sequence delayed so that its critical window starts at a common
time `t₀ ≥ J` (to align tasks with different jitters) -/
def criticalInstantAt (T J n t₀ : ℕ) : List ℕ := (criticalInstant T J n).map (· + (t₀ - J))

theorem criticalInstantAt_admissible (T J n t₀ : ℕ) (hT : 1 ≤ T) :
    Admissible (.sporadic T J) (criticalInstantAt T J n t₀) := by
  have h := criticalInstant_admissible T J n hT
  rw [Admissible] at h ⊢
  obtain ⟨arrivals, hg, hd⟩ := h
  exact ⟨arrivals.map (· + (t₀ - J)), GapsGe_map_add T _ _ hg, DelayedBy_map_add J _ _ _ hd⟩

theorem criticalInstantAt_realisesFrom (T J n H t₀ : ℕ) (hT : 1 ≤ T) (hJ : J ≤ t₀)
    (hn : (Arr.sporadic T J).N H ≤ n) :
    RealisesFrom (.sporadic T J) (criticalInstantAt T J n t₀) t₀ H := by
  unfold criticalInstantAt
  constructor
  · intro r hr
    obtain ⟨r', hr', rfl⟩ := List.mem_map.1 hr
    unfold criticalInstant at hr'
    obtain ⟨k, _, rfl⟩ := List.mem_map.1 hr'
    have := Nat.le_max_right (k * T) J
    omega
  · intro Δ hΔ
    obtain ⟨c, rfl⟩ : ∃ c, t₀ = J + c := ⟨t₀ - J, by omega⟩
    rw [Nat.add_sub_cancel_left, cnt_map_add]
    exact sporadic_attained T J Δ n hT (le_trans (sporadic_N_mono T J hT Δ H hΔ) hn)

theorem criticalInstantAt_sorted (T J n t₀ : ℕ) :
    (criticalInstantAt T J n t₀).Pairwise (· ≤ ·) := by
  unfold criticalInstantAt criticalInstant
  rw [List.pairwise_map, List.pairwise_map]
  apply List.Pairwise.imp _ List.pairwise_lt_range
  intro a b hab
  have : a * T ≤ b * T := Nat.mul_le_mul_right T (Nat.le_of_lt hab)
  omega

/-- C18 for FIFO: if every task's releases realise its arrival curve up to the busy-window
length, all jobs execute for their scalar WCET, and the analysis returns `Ok(R)` with
`R > 0`, then in EVERY legal FIFO schedule of that job set some job has response time
exactly `R` (and by `exists_fifo_schedule` such a schedule exists) -/
theorem fifo_bound_attained (s : Sys) (hl : FifoLegal s) (ts : List (Arr × ℕ))
    (hwf : ∀ p ∈ ts, p.1.WF ∧ p.1.Exact ∧ 1 ≤ p.2)
    (hc : Compliant s (ts.map fun p => (p.1, Cost.scalar p.2)))
    (hcost : ∀ k, k < s.n → s.cost k = (ts.getD (s.task k) default).2)
    (limit R L : ℕ) (hR : fifoRta (taskSetRB (ts.map fun p => (p.1, Cost.scalar p.2))) limit = .ok R)
    (hL : naiveSolve (fun x => (taskSetRB (ts.map fun p => (p.1, Cost.scalar p.2))).need x) limit = .ok L)
    (hreal : ∀ i, i < ts.length → RealisesUpTo (ts.getD i default).1 (relsOf s i) L) (hRpos : 0 < R) :
    ∃ j, j < s.n ∧ MeetsBound s j R ∧ ∀ R', R' < R → ¬ MeetsBound s j R' :=
  attained_core s hl ts hwf hc hcost limit R L 0 hR hL (fun i hi => hreal i hi) hRpos

end RTA.Sched
