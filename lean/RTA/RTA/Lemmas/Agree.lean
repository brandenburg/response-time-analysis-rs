import RTA.Lemmas.PruneFP
import RTA.Lemmas.PruneEDF
import RTA.Lemmas.Supply
import RTA.Model.Ros
/-! C19: analyses agree with each other on their common special cases. -/

namespace RTA
open RTA.Spec

namespace AgreeLemmas
open PruneCoreLemmas PruneFPLemmas PruneEDFLemmas

theorem maxList_zero (l : List Nat) (h : ∀ x ∈ l, x = 0) : maxList l = 0 := by
  have := (maxList_le_iff l 0).2 (fun x hx => by rw [h x hx]; exact Nat.le_refl _)
  omega

theorem edfCore_wb_irrelevant (tua : RB) (D : Nat) (others : List EdfTask) (rem limit : Nat) (g : Bool)
    (h : ∀ A, edfBlocking others D A = 0) :
    edfCore tua D others rem true limit g = edfCore tua D others rem false limit g := by
  simp [edfCore, h]

theorem naiveMax_bounded (f : Nat → Res) (L R : Nat) (h : ∀ A, A < L → ∃ v, f A = .ok v ∧ v ≤ R) :
    ∃ Ri, naiveMax ((List.range L).map f) = .ok Ri ∧ Ri ≤ R ∧
      ∀ A, A < L → ∀ v, f A = .ok v → v ≤ Ri := by
  rcases naiveMax_map f (List.range L) with ⟨g, hg, e⟩ | ⟨A, hA, _, hno⟩
  · refine ⟨_, e, ?_, ?_⟩
    · apply (maxList_le_iff _ _).2
      intro x hx
      obtain ⟨A, hA, rfl⟩ := List.mem_map.1 hx
      obtain ⟨v, hv, hle⟩ := h A (List.mem_range.1 hA)
      rw [hg A hA] at hv
      injection hv with hv
      omega
    · intro A hA v hv
      rw [hg A (List.mem_range.2 hA)] at hv
      injection hv with hv
      rw [← hv]
      exact le_maxList_of_mem _ _ (List.mem_map.2 ⟨A, List.mem_range.2 hA, rfl⟩)
  · obtain ⟨v, hv, _⟩ := h A (List.mem_range.1 hA)
    exact absurd hv (hno v)

theorem naiveSolve_le_of_sol (w : Nat → Nat) (limit x : Nat) (hx : x ≤ limit) (h : w (max x 1) ≤ x) :
    ∃ r, naiveSolve w limit = .ok r ∧ r ≤ x := by
  rcases naiveSolve_cases w limit with ⟨r, hr⟩ | hd
  · refine ⟨r, hr, ?_⟩
    rcases Nat.lt_or_ge x r with hlt | hge
    · exact absurd h (((naiveSolve_ok_iff _ _ _).1 hr).2.2 x hlt)
    · exact hge
  · exact absurd h ((naiveSolve_div_iff _ _).1 hd x hx)

theorem naiveSolve_pos (w : Nat → Nat) (limit L : Nat) (h : naiveSolve w limit = .ok L)
    (hw : 0 < w 1) : 0 < L := by
  rcases Nat.eq_zero_or_pos L with rfl | h0
  · have c : w 1 ≤ 0 := ((naiveSolve_ok_iff _ _ _).1 h).2.1
    omega
  · exact h0

/-- a right-hand side `c + O (min x (A + 1))` (the interference is cut off at the deadline of
the job released at `A`): `c + O (A + 1)` is a solution … -/
theorem solve_cut_le (O w : Nat → Nat) (hO : MonoN O) (c A limit : Nat)
    (hw : ∀ x, w x = c + O (min x (A + 1))) (hT : c + O (A + 1) ≤ limit) :
    ∃ AF, naiveSolve w limit = .ok AF ∧ AF ≤ c + O (A + 1) := by
  apply naiveSolve_le_of_sol w limit _ hT
  rw [hw]
  exact Nat.add_le_add_left (hO _ _ (Nat.min_le_right _ _)) c

/-- … and the least one when it lies beyond `A` and nothing up to `A` is a solution -/
theorem solve_cut_eq (O w : Nat → Nat) (c A limit : Nat)
    (hw : ∀ x, w x = c + O (min x (A + 1))) (hT : c + O (A + 1) ≤ limit)
    (hbig : A + 1 ≤ c + O (A + 1)) (hbelow : ∀ x, 1 ≤ x → x ≤ A → x < c + O x) :
    naiveSolve w limit = .ok (c + O (A + 1)) := by
  rw [naiveSolve_ok_iff]
  refine ⟨hT, ?_, ?_⟩
  · rw [hw, Nat.min_eq_right (by omega)]
    exact Nat.le_refl _
  · intro x hx
    rw [hw]
    rcases Nat.lt_or_ge A (max x 1) with h | h
    · rw [Nat.min_eq_right (by omega)]; omega
    · rw [Nat.min_eq_left (by omega)]
      have := hbelow (max x 1) (Nat.le_max_right x 1) h
      omega

/-- the right-hand side of the per-offset NP-EDF equation when there is no blocking and all
deadlines are equal -/
theorem edfRhs_cut (tua : RB) (D : Nat) (others : List EdfTask) (rem : Nat) (O : Nat → Nat)
    (hB : ∀ A, edfBlocking others D A = 0)
    (hH : ∀ A AF, edfHepWorkload others D A AF = O (min AF (A + 1))) (A x : Nat) :
    edfRhs tua D others rem true A x = (tua.need (A + 1) - rem) + O (min x (A + 1)) := by
  unfold edfRhs
  rw [hH, if_pos rfl, hB, Nat.zero_add]

theorem term_le_busy (O N : Nat → Nat) (hO : MonoN O) (hN : MonoN N) (limit L A : Nat)
    (hL : naiveSolve (fun x => O x + N x) limit = .ok L) (hA : A < L) :
    O (A + 1) + N (A + 1) ≤ L ∧ L ≤ limit := by
  have hLs := (naiveSolve_ok_iff _ _ _).1 hL
  have a := hO (A + 1) (max L 1) (by omega)
  have b := hN (A + 1) (max L 1) (by omega)
  have c : O (max L 1) + N (max L 1) ≤ L := hLs.2.1
  exact ⟨by omega, hLs.1⟩

/-- the per-offset NP-EDF bound, when there is no blocking and all deadlines are equal,
never exceeds the FIFO term (or `rem`) -/
theorem edfPer_le_fifo (tua : RB) (D : Nat) (others : List EdfTask) (rem limit L R : Nat)
    (O : Nat → Nat) (hO : MonoN O) (hown : MonoN tua.need)
    (hB : ∀ A, edfBlocking others D A = 0)
    (hH : ∀ A AF, edfHepWorkload others D A AF = O (min AF (A + 1)))
    (hL : naiveSolve (fun x => O x + tua.need x) limit = .ok L)
    (hrem : rem < tua.need 1) (A : Nat) (hA : A < L)
    (hR1 : O (A + 1) + tua.need (A + 1) - A ≤ R) (hR2 : rem ≤ R) :
    ∃ v, edfPer tua D others rem true limit A = .ok v ∧ v ≤ R := by
  obtain ⟨hT, hLl⟩ := term_le_busy O tua.need hO hown limit L A hL hA
  have h1 := hown 1 (A + 1) (by omega)
  obtain ⟨AF, hAF, hle⟩ := solve_cut_le O _ hO (tua.need (A + 1) - rem) A limit
    (edfRhs_cut tua D others rem O hB hH A) (by omega)
  unfold edfPer
  rw [hAF]
  exact ⟨_, rfl, by omega⟩

/-- at an increase offset of the task under analysis the per-offset NP-EDF bound is
exactly the FIFO term -/
theorem edfPer_eq_fifo (tua : RB) (D : Nat) (others : List EdfTask) (rem limit L : Nat)
    (O : Nat → Nat) (hO : MonoN O) (hown : MonoN tua.need)
    (hB : ∀ A, edfBlocking others D A = 0)
    (hH : ∀ A AF, edfHepWorkload others D A AF = O (min AF (A + 1)))
    (hL : naiveSolve (fun x => O x + tua.need x) limit = .ok L)
    (A : Nat) (hA : A < L) (hinc : tua.need A + rem < tua.need (A + 1))
    (hbig : A + rem < O (A + 1) + tua.need (A + 1)) :
    edfPer tua D others rem true limit A = .ok (O (A + 1) + tua.need (A + 1) - A) := by
  obtain ⟨hT, hLl⟩ := term_le_busy O tua.need hO hown limit L A hL hA
  have hsol := solve_cut_eq O _ (tua.need (A + 1) - rem) A limit
    (edfRhs_cut tua D others rem O hB hH A) (by omega) (by omega) (by
      intro x h1 hxA
      have hb : x < O x + tua.need x := naiveSolve_below _ limit L hL x h1 (by omega)
      have := hown x A hxA
      omega)
  unfold edfPer
  rw [hsol]
  show Res.ok _ = Res.ok _
  congr 1
  omega

theorem maxList_attained (l : List Nat) (h : l ≠ []) : maxList l ∈ l := by
  induction l with
  | nil => exact absurd rfl h
  | cons a as ih =>
    simp only [maxList]
    rcases Nat.le_total (maxList as) a with h1 | h1
    · rw [Nat.max_eq_left h1]; simp
    · rw [Nat.max_eq_right h1]
      cases as with
      | nil =>
        simp only [maxList] at h1 ⊢
        have : a = 0 := by omega
        simp [this]
      | cons b bs => exact List.mem_cons_of_mem _ (ih (by simp))

end AgreeLemmas
open AgreeLemmas PruneCoreLemmas PruneFPLemmas

theorem edfBlocking_zero (others : List EdfTask) (h : ∀ o ∈ others, o.seg ≤ 1) (D A : Nat) :
    edfBlocking others D A = 0 := by
  unfold edfBlocking
  apply maxList_zero
  intro x hx
  simp only [List.mem_map, List.mem_filter] at hx
  obtain ⟨o, ⟨ho, _⟩, rfl⟩ := hx
  have := h o ho; omega

/-! ### supplies -/

/-- two supplies with the same `service_time` are indistinguishable to the fixed-point
search … -/
theorem search_congr (s1 s2 : Supply) (h : s1.st? = s2.st?) (off limit : Nat) (w : Nat → Nat) :
    searchWithOffset s1 off limit w = searchWithOffset s2 off limit w := by
  unfold searchWithOffset; rw [h]

/-- … and, with the same `provided_service` too, to every ROS 2 analysis -/
theorem ros_congr (s1 s2 : Supply) (hsbf : s1.sbf = s2.sbf) (hst : s1.st? = s2.st?) :
    (∀ demand limit, rosEventSource s1 demand limit = rosEventSource s2 demand limit) ∧
    (∀ own interf B limit, rosTimer s1 own interf B limit = rosTimer s2 own interf B limit) ∧
    (∀ own interf limit, rosPollingPoint s1 own interf limit = rosPollingPoint s2 own interf limit) ∧
    (∀ last pfx full others limit, rosChain s1 last pfx full others limit = rosChain s2 last pfx full others limit) ∧
    (∀ wl sub limit, rrSubchain s1 wl sub limit = rrSubchain s2 wl sub limit) ∧
    (∀ wl sub limit dbg, bwSubchain s1 wl sub limit dbg = bwSubchain s2 wl sub limit dbg) := by
  have hso : searchWithOffset s1 = searchWithOffset s2 := by
    funext off limit w; exact search_congr s1 s2 hst off limit w
  have hs' : search s1 = search s2 := by
    funext l w; exact search_congr s1 s2 hst 0 l w
  have hb : rosBound s1 = rosBound s2 := by
    funext d b o l; simp only [rosBound, hs', hso]
  refine ⟨?_, ?_, ?_, ?_, ?_, ?_⟩
  · intros; simp only [rosEventSource, hb]
  · intros; simp only [rosTimer, hb]
  · intros; simp only [rosPollingPoint, hb]
  · intros; simp only [rosChain, hb]
  · intros; simp only [rrSubchain, hs', hsbf, hst]
  · intros; simp only [bwSubchain, hs', hsbf, hst]

/-! ### non-preemptive EDF with equal deadlines vs FIFO -/

/-- the other tasks of task `i` in a task set given as (arrival model, WCET) pairs with a
common relative deadline `D` -/
def npEdfOthers (ts : List (Arr × Nat)) (D i : Nat) : List EdfTask :=
  (ts.eraseIdx i).map fun p => { rb := .rbf p.1 (.scalar p.2), D := D, seg := p.2 }

def fifoOfTasks (ts : List (Arr × Nat)) : RB := .agg (ts.map fun p => .rbf p.1 (.scalar p.2))

namespace AgreeLemmas
open PruneEDFLemmas

/-- the request bound of a task given as an (arrival model, WCET) pair -/
def rbOf (p : Arr × Nat) : RB := .rbf p.1 (.scalar p.2)

theorem others_rb (ts : List (Arr × Nat)) (D i : Nat) :
    (npEdfOthers ts D i).map (·.rb) = (ts.eraseIdx i).map rbOf := by
  unfold npEdfOthers
  rw [List.map_map]
  rfl

theorem fifoOfTasks_cons (p : Arr × Nat) (ps : List (Arr × Nat)) (x : Nat) :
    (fifoOfTasks (p :: ps)).need x = (rbOf p).need x + (fifoOfTasks ps).need x := by
  simp only [fifoOfTasks, RB.need, RB.needList, List.map_cons, rbOf]

theorem sumNeed_cons (r : RB) (rs : List RB) (x : Nat) :
    sumNeed (r :: rs) x = r.need x + sumNeed rs x := by
  simp only [sumNeed, List.map_cons, sumList]

theorem fifoOfTasks_need (ts : List (Arr × Nat)) (x : Nat) :
    (fifoOfTasks ts).need x = sumNeed (ts.map rbOf) x := by
  induction ts with
  | nil => simp [fifoOfTasks, RB.need, RB.needList, sumNeed, sumList]
  | cons p ps ih => rw [fifoOfTasks_cons, ih, List.map_cons, sumNeed_cons]

theorem total_split (ts : List (Arr × Nat)) (x : Nat) (i : Nat) (hi : i < ts.length) :
    (fifoOfTasks ts).need x =
      sumNeed ((ts.eraseIdx i).map rbOf) x + (rbOf (ts.getD i default)).need x := by
  induction ts generalizing i with
  | nil => simp at hi
  | cons p ps ih =>
    cases i with
    | zero =>
      rw [fifoOfTasks_cons, fifoOfTasks_need]
      simp only [List.eraseIdx_cons_zero, List.getD_cons_zero]
      omega
    | succ j =>
      rw [fifoOfTasks_cons, ih j (by simpa using hi)]
      simp only [List.eraseIdx_cons_succ, List.getD_cons_succ, List.map_cons, sumNeed_cons]
      omega

theorem exists_inc (ts : List (Arr × Nat)) (A : Nat)
    (h : (fifoOfTasks ts).need A < (fifoOfTasks ts).need (A + 1)) :
    ∃ i, i < ts.length ∧ (rbOf (ts.getD i default)).need A < (rbOf (ts.getD i default)).need (A + 1) := by
  induction ts with
  | nil => simp [fifoOfTasks, RB.need, RB.needList] at h
  | cons p ps ih =>
    rw [fifoOfTasks_cons, fifoOfTasks_cons] at h
    by_cases hp : (rbOf p).need A < (rbOf p).need (A + 1)
    · exact ⟨0, by simp, by simpa using hp⟩
    · obtain ⟨i, hi, hinc⟩ := ih (by omega)
      exact ⟨i + 1, by simpa using hi, by simpa using hinc⟩

theorem rbOf_ok (p : Arr × Nat) (h : p.1.WF ∧ p.1.Exact ∧ 1 ≤ p.2 ∧ 0 < p.1.N 1) :
    (rbOf p).ArrWF ∧ (rbOf p).Exact ∧ p.2 - 1 < (rbOf p).need 1 ∧
      ∀ A, (rbOf p).need A < (rbOf p).need (A + 1) →
        (rbOf p).need A + (p.2 - 1) < (rbOf p).need (A + 1) := by
  obtain ⟨h1, h2, h3⟩ := scalar_side p.1 p.2 h.1 h.2.1 h.2.2.1 h.2.2.2
  have h4 := scalar_hstep p.1 p.2 (p.2 - 1) (by omega)
  refine ⟨h1, h2, ?_, h4⟩
  have := h4 0 (by rw [RB.need_zero]; exact h3)
  rw [RB.need_zero] at this
  show p.2 - 1 < (RB.rbf p.1 (.scalar p.2)).need (0 + 1)
  omega

theorem fifoOfTasks_ok (ts : List (Arr × Nat))
    (hwf : ∀ p ∈ ts, p.1.WF ∧ p.1.Exact ∧ 1 ≤ p.2 ∧ 0 < p.1.N 1) :
    (fifoOfTasks ts).ArrWF ∧ (fifoOfTasks ts).Exact := by
  unfold fifoOfTasks
  simp only [RB.ArrWF, RB.Exact]
  induction ts with
  | nil => simp [RB.ArrWFList, RB.ExactList]
  | cons p ps ih =>
    obtain ⟨h1, h2, _, _⟩ := rbOf_ok p (hwf p (by simp))
    obtain ⟨i1, i2⟩ := ih (fun q hq => hwf q (by simp [hq]))
    simp only [List.map_cons, RB.ArrWFList, RB.ExactList]
    exact ⟨⟨h1, i1⟩, ⟨h2, i2⟩⟩

theorem mem_npEdfOthers (ts : List (Arr × Nat)) (D i : Nat) (o : EdfTask)
    (ho : o ∈ npEdfOthers ts D i) : ∃ p ∈ ts, o.rb = rbOf p ∧ o.D = D := by
  unfold npEdfOthers at ho
  obtain ⟨p, hp, rfl⟩ := List.mem_map.1 ho
  exact ⟨p, List.mem_of_mem_eraseIdx hp, rfl, rfl⟩

theorem others_ok (ts : List (Arr × Nat)) (D i : Nat)
    (hwf : ∀ p ∈ ts, p.1.WF ∧ p.1.Exact ∧ 1 ≤ p.2 ∧ 0 < p.1.N 1) :
    EdfOthersOK (npEdfOthers ts D i) := by
  intro o ho
  obtain ⟨p, hp, e, _⟩ := mem_npEdfOthers ts D i o ho
  rw [e]
  exact ⟨(rbOf_ok p (hwf p hp)).1, (rbOf_ok p (hwf p hp)).2.1⟩

theorem edfBlocking_npEdfOthers (ts : List (Arr × Nat)) (D i A : Nat) :
    edfBlocking (npEdfOthers ts D i) D A = 0 := by
  unfold edfBlocking
  have : (npEdfOthers ts D i).filter
      (fun o => decide (o.D > D + A) && decide (o.rb.need 1 > 0)) = [] := by
    rw [List.filter_eq_nil_iff]
    intro o ho
    obtain ⟨p, _, _, e⟩ := mem_npEdfOthers ts D i o ho
    simp only [Bool.and_eq_true, decide_eq_true_eq]
    omega
  rw [this]
  rfl

theorem hep_eq (ts : List (Arr × Nat)) (D i A AF : Nat) :
    edfHepWorkload (npEdfOthers ts D i) D A AF =
      sumNeed ((npEdfOthers ts D i).map (·.rb)) (min AF (A + 1)) := by
  unfold edfHepWorkload sumNeed
  rw [List.map_map]
  congr 1
  apply List.map_congr_left
  intro o ho
  obtain ⟨p, _, _, e⟩ := mem_npEdfOthers ts D i o ho
  show o.rb.need (min AF (A + 1 + D - o.D)) = o.rb.need (min AF (A + 1))
  rw [e]
  congr 2
  omega

/-- everything about the NP-EDF analysis of task `i` in terms of the FIFO quantities -/
theorem npEdf_task (ts : List (Arr × Nat)) (D limit L R : Nat)
    (hwf : ∀ p ∈ ts, p.1.WF ∧ p.1.Exact ∧ 1 ≤ p.2 ∧ 0 < p.1.N 1) (hl : 1 ≤ limit)
    (hL : naiveSolve (fun x => (fifoOfTasks ts).need x) limit = .ok L)
    (hR : ∀ A, A < L → (fifoOfTasks ts).need (A + 1) - A ≤ R)
    (i : Nat) (hi : i < ts.length) :
    ∃ Ri, edfNonpreemptive (ts.getD i default).1 (ts.getD i default).2 D
        (npEdfOthers ts D i) limit = .ok Ri ∧ Ri ≤ R ∧
      ∀ A, A < L → (rbOf (ts.getD i default)).need A < (rbOf (ts.getD i default)).need (A + 1) →
        (fifoOfTasks ts).need (A + 1) - A ≤ Ri := by
  have hp := hwf _ (getD_mem ts i hi)
  obtain ⟨hwfi, hexi, hremi, hstepi⟩ := rbOf_ok _ hp
  have ho := others_ok ts D i hwf
  have hown := RB.need_mono _ hwfi hexi
  have hO : MonoN (sumNeed ((npEdfOthers ts D i).map (·.rb))) := by
    have := busy_mono (RB.rbf .never (.scalar 1)) (npEdfOthers ts D i)
      (by simp [RB.ArrWF, Arr.WF]) (by
        simp only [RB.Exact, Arr.Exact, true_and]
        exact Cost.scalar_strictPos 1 (by omega)) ho
    intro a b hab
    have h := this a b hab
    simp only [RB.need, Arr.N, Cost.ofJobs] at h
    omega
  have hsplit : ∀ x, (fifoOfTasks ts).need x =
      sumNeed ((npEdfOthers ts D i).map (·.rb)) x + (rbOf (ts.getD i default)).need x := by
    intro x; rw [others_rb]; exact total_split ts x i hi
  have hLi : naiveSolve (fun x => sumNeed ((npEdfOthers ts D i).map (·.rb)) x +
      (rbOf (ts.getD i default)).need x) limit = .ok L := by
    rw [← hL]; congr 1; funext x; exact (hsplit x).symm
  have hLpos : 0 < L := naiveSolve_pos _ limit L hL (by rw [hsplit 1]; omega)
  have hR2 : (ts.getD i default).2 - 1 ≤ R := by
    have := hR 0 hLpos
    rw [hsplit 1] at this
    omega
  have hper : ∀ A, A < L → ∃ v, edfPer (rbOf (ts.getD i default)) D (npEdfOthers ts D i)
      ((ts.getD i default).2 - 1) true limit A = .ok v ∧ v ≤ R := by
    intro A hA
    apply edfPer_le_fifo _ D _ _ limit L R _ hO hown (edfBlocking_npEdfOthers ts D i) (hep_eq ts D i) hLi hremi A hA
      _ hR2
    rw [← hsplit]; exact hR A hA
  obtain ⟨Ri, hRi, hle, hge⟩ := naiveMax_bounded _ L R hper
  refine ⟨Ri, ?_, hle, ?_⟩
  · rw [edfNonpreemptive_eq_naive _ _ D _ limit hp.1 hp.2.1 hp.2.2.1 ho hl hp.2.2.2, naiveEdf_eq]
    show (match naiveSolve (fun x => sumNeed ((npEdfOthers ts D i).map (·.rb)) x +
      (rbOf (ts.getD i default)).need x) limit with
      | .ok L => naiveMax ((List.range L).map (edfPer (rbOf (ts.getD i default)) D
          (npEdfOthers ts D i) ((ts.getD i default).2 - 1) true limit))
      | e => e) = _
    rw [hLi]
    exact hRi
  · intro A hA hinc
    have hinc' := hstepi A hinc
    apply hge A hA
    rw [hsplit (A + 1)]
    apply edfPer_eq_fifo _ D _ _ limit L _ hO hown (edfBlocking_npEdfOthers ts D i) (hep_eq ts D i) hLi A hA hinc'
    rcases Nat.eq_zero_or_pos A with h0 | hpos
    · subst h0
      omega
    · have hb := naiveSolve_below _ limit L hLi A hpos hA
      replace hb : A < sumNeed ((npEdfOthers ts D i).map (·.rb)) A +
        (rbOf (ts.getD i default)).need A := hb
      have := hO A (A + 1) (by omega)
      omega

/-- the FIFO bound of a non-empty task set is attained at an offset below the busy window at
which the demand of some task increases (offset `0` is such an offset, so the maximum is over a
non-empty set) -/
theorem fifo_attained_at_step (ts : List (Arr × Nat))
    (hwf : ∀ p ∈ ts, p.1.WF ∧ p.1.Exact ∧ 1 ≤ p.2 ∧ 0 < p.1.N 1) (limit L R : Nat) (hl : 1 ≤ limit)
    (hne : ts ≠ []) (hL : naiveSolve (fun L => (fifoOfTasks ts).need L) limit = .ok L)
    (hR : fifoRta (fifoOfTasks ts) limit = .ok R) :
    ∃ A i, A < L ∧ i < ts.length ∧
      (rbOf (ts.getD i default)).need A < (rbOf (ts.getD i default)).need (A + 1) ∧
      (fifoOfTasks ts).need (A + 1) - A = R := by
  obtain ⟨hwfT, hexT⟩ := fifoOfTasks_ok ts hwf
  obtain ⟨S, hmS, hf⟩ := fifo_form _ hwfT hexT limit hl L hL
  rw [hf] at hR
  injection hR with hR
  have hlen : 0 < ts.length := by
    cases ts with
    | nil => exact absurd rfl hne
    | cons p ps => simp
  have hpos1 : 0 < (fifoOfTasks ts).need 1 := by
    have := (rbOf_ok _ (hwf _ (getD_mem ts 0 hlen))).2.2.1
    rw [total_split ts 1 0 hlen]
    omega
  have hLpos : 0 < L := naiveSolve_pos _ limit L hL hpos1
  have h0S : 0 ∈ S := (hmS 0).2 ⟨hLpos, by rw [RB.need_zero]; exact hpos1⟩
  have hne' : S.map (fun A => (fifoOfTasks ts).need (A + 1) - A) ≠ [] := by
    intro h
    rw [List.map_eq_nil_iff] at h
    rw [h] at h0S
    cases h0S
  have hatt := maxList_attained _ hne'
  rw [hR] at hatt
  obtain ⟨A, hAS, hAR⟩ := List.mem_map.1 hatt
  have hA := (hmS A).1 hAS
  obtain ⟨i, hi, hinc⟩ := exists_inc ts A hA.2
  exact ⟨A, i, hA.1, hi, hinc, hAR⟩

end AgreeLemmas

end RTA
