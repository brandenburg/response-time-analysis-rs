import RTA.Lemmas.RosNaive
/-! C20 for the ROS 2 analyses: totality (no failed assertion / underflow / guard on
well-formed input).

Pattern: for `limit = 0` the first fixed-point search diverges (`searchWithOffset_limit_zero`);
for `1 ≤ limit` the analysis equals its naive evaluator (the equalities of C07, taken as
hypotheses here), which returns `.ok` or the divergence error of one of its linear-scan
solvers. -/

namespace RTA.RosTotal
open RTA RTA.Spec RTA.RosNaiveLemmas RTA.PruneCoreLemmas

theorem naiveRosBoundOn_ne_panic (s : Supply) (bwRhs : Nat → Nat) (offRhs : Nat → Nat → Nat)
    (limit : Nat) (offsets : Nat → List Nat) :
    naiveRosBoundOn s bwRhs offRhs limit offsets ≠ .panic :=
  scheme_ne_panic _ offsets _ (nss_ne_panic _ _ _ _) (fun _ => nss_ne_panic _ _ _ _)

/-- the common scheme never panics once it is known to equal, for `1 ≤ limit`, a naive
evaluation over some list of offsets (with `limit = 0` its first search diverges) -/
theorem rosBound_total (s : Supply) (demand : RB) (bwRhs bwRhs' : Nat → Nat)
    (offRhs offRhs' : Nat → Nat → Nat) (limit : Nat) (offsets : Nat → List Nat)
    (h : 1 ≤ limit → rosBound s demand bwRhs offRhs limit =
      naiveRosBoundOn s bwRhs' offRhs' limit offsets) :
    rosBound s demand bwRhs offRhs limit ≠ .panic := by
  rcases Nat.eq_zero_or_pos limit with h0 | hl
  · subst h0
    unfold rosBound search
    rw [searchWithOffset_limit_zero]
    exact Res.noConfusion
  · rw [h hl]
    exact naiveRosBoundOn_ne_panic _ _ _ _ _

theorem all_lt_of_forall (wl : List Callback) (sub : List Nat) (hsub : ∀ i ∈ sub, i < wl.length) :
    sub.all (· < wl.length) = true := by
  rw [List.all_eq_true]
  intro i hi
  exact decide_eq_true (hsub i hi)

theorem rrSubchain_limit_zero (s : Supply) (wl : List Callback) (sub : List Nat)
    (hne : sub ≠ []) (hsub : ∀ i ∈ sub, i < wl.length) : rrSubchain s wl sub 0 = .div 0 0 := by
  unfold rrSubchain
  cases hg : sub.getLast? with
  | none => exact absurd (List.getLast?_eq_none_iff.mp hg) hne
  | some e =>
    simp only [all_lt_of_forall wl sub hsub, not_true_eq_false, if_false, search,
      searchWithOffset_limit_zero]

theorem naiveRr_ne_panic (s : Supply) (wl : List Callback) (sub : List Nat) (limit : Nat)
    (hne : sub ≠ []) : naiveRr s wl sub limit ≠ .panic := by
  cases hg : sub.getLast? with
  | none => exact absurd (List.getLast?_eq_none_iff.mp hg) hne
  | some e =>
    rw [naiveRr_eq_bind s wl sub limit e hg]
    exact bind_ne_panic _ _ (nss_ne_panic _ _ _ _) (fun _ => Res.noConfusion)

theorem naiveBw_ne_panic (s : Supply) (wl : List Callback) (sub : List Nat) (limit : Nat)
    (hne : sub ≠ []) : naiveBw s wl sub limit ≠ .panic := by
  cases hg : sub.getLast? with
  | none => exact absurd (List.getLast?_eq_none_iff.mp hg) hne
  | some e =>
    rw [naiveBw_eq_bind s wl sub limit e hg]
    exact scheme_ne_panic _ List.range _ (nss_ne_panic _ _ _ _)
      (fun _ => naiveBwPer_ne_panic _ _ _ _ _ _ _)

end RTA.RosTotal
