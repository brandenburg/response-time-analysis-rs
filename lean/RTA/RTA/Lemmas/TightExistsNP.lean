import RTA.Lemmas.TightExistsFP
import RTA.Lemmas.TightNP
/-! C18, existential form for fully NON-preemptive fixed priority (priorities = task indices)
with a blocking bound `B`: for every realisable task set there IS a job set — the tasks `0 … i`
releasing from a common instant plus, if `B > 0`, one lower-priority job of cost `B + 1`
released one slot earlier — and a legal non-preemptive FP schedule of it in which some job of
task `i` has a response time exactly equal to the bound. -/

open Finset

namespace RTA.Sched
open RTA RTA.Spec

namespace TightExistsNPLemmas
open TightExistsFPLemmas TightExistsLemmas TightFPLemmas TightLemmas FifoSoundLemmas FpSoundLemmas
  RTA.PruneCoreLemmas RTA.PruneFPLemmas

/-- the statement for a task list whose LAST task is the analysed one -/
theorem coreNPG (ts : List (Arr × ℕ)) (i : ℕ) (hlen : ts.length = i + 1) (B : ℕ)
    (hwf : ∀ p ∈ ts, p.1.WF ∧ p.1.Exact ∧ 1 ≤ p.2) (t₀ : ℕ) (ht₀1 : 1 ≤ t₀)
    (hreal : ∀ p ∈ ts, RealisableAt p.1 t₀) (limit R : ℕ)
    (hR : fpNonpreemptive (ts.getD i default).1 (ts.getD i default).2 B
      ((ts.take i).map fun p => RB.rbf p.1 (.scalar p.2)) limit = .ok R)
    (hRpos : 0 < R) :
    ∃ s : Sys, JlfpLegal s (hepFP s id) ∧
      (∀ l, l < s.n → ∀ x, 1 ≤ x → x < s.cost l → s.np l x) ∧
      (∀ k, k ≤ i → TaskCompliant s k (ts.getD k default).1 (.scalar (ts.getD k default).2)) ∧
      (∀ l, l < s.n → i < s.task l → s.cost l ≤ B + 1) ∧
      ∃ j, j < s.n ∧ s.task j = i ∧ MeetsBound s j R ∧ ∀ R', R' < R → ¬ MeetsBound s j R' := by
  have hi : i < ts.length := by omega
  obtain ⟨hTi, hEi, hCi⟩ := hwf _ (getD_mem ts i hi)
  have hwfo : ∀ p ∈ ts.take i, p.1.WF ∧ p.1.Exact ∧ 1 ≤ p.2 :=
    fun p hp' => hwf p (List.mem_of_mem_take hp')
  obtain ⟨L, hL⟩ : ∃ L, naiveSolve (fun x => B + sumNeed ((ts.take i).map fun p =>
      RB.rbf p.1 (.scalar p.2)) x + (RB.rbf (ts.getD i default).1
        (.scalar (ts.getD i default).2)).need x) limit = .ok L := by
    unfold fpNonpreemptive at hR
    rw [decide_eq_false (by omega : ¬ (ts.getD i default).2 < 1)] at hR
    exact fpCore_window _ _ B _ limit R (rbf_scalar_ok hTi hEi hCi).1
      (rbf_scalar_ok hTi hEi hCi).2 (othersOK_scalar _ hwfo) hR
  obtain ⟨js, hjs⟩ := exists_blockSys ts t₀ L B hreal
  obtain ⟨sched, hl⟩ := exists_fp_nonpreemptive_schedule js
  have hb : BlockSys (js.withSchedNP sched) ts t₀ L B := hjs _ sched
  have hnpall : ∀ l, l < (js.withSchedNP sched).n → ∀ x, 1 ≤ x → x < (js.withSchedNP sched).cost l →
      (js.withSchedNP sched).np l x := fun _ _ _ h1 h2 => ⟨h1, h2⟩
  have hnpdef : ∀ l x, (js.withSchedNP sched).np l x →
      1 ≤ x ∧ x < (js.withSchedNP sched).cost l := fun _ _ h => h
  generalize js.withSchedNP sched = s at hl hb hnpall hnpdef
  have hS := hb.fpSetting hwf hl hi (fun l hl' hlt x len h => by
    obtain ⟨_, _, hc, _⟩ := hb.low hl' (by omega)
    rcases Nat.eq_zero_or_pos len with h0 | h0
    · omega
    · have h1 := hnpdef _ _ (h 0 h0)
      have h2 := hnpdef _ _ (h (len - 1) (by omega))
      omega)
  refine ⟨s, hl, hnpall, fun k hk => hb.taskCompliant (by omega),
    fun l hl' hlt => le_of_eq (hb.low hl' (by omega)).2.2.1, ?_⟩
  apply fp_nonpreemptive_bound_attained s i _ _ B (ts.take i) hS
    hnpall hTi hEi hCi hwfo limit R L t₀ hR hL ?_ ?_ ?_ ?_ ?_ hRpos
  · intro t d
    rw [FpSoundCompliantLemmas.cntOf_eq_cnt]
    exact Arr.bounds _ hTi _ (hb.taskCompliant hi).adm t d
  · intro Δ hΔ
    rw [FpSoundCompliantLemmas.cntOf_eq_cnt]
    exact (hb.rels i hi).2.2.2 Δ hΔ
  · intro k hk hki
    exact hb.cost_eq hk hki hi
  · intro Δ hΔ
    exact hb.hp_work_eq (le_of_lt hi) hΔ
  · -- the slot before `t₀` is not idle (the blocking job is pending) and can only serve a job
    -- released before `t₀`: a job of the blocking task, not yet started
    by_cases hB : B = 0
    · exact Or.inl hB
    · right
      obtain ⟨b₀, hb₀, hb₀t⟩ := hb.blocker hB
      obtain ⟨_, hb₀a, hb₀c, _⟩ := hb.low hb₀ (by omega)
      have hb₀s : svc s b₀ (t₀ - 1) = 0 := hl.servesPending.svc_zero_before b₀ (t₀ - 1) (by omega)
      obtain ⟨b, hbs⟩ := hl.wc (t₀ - 1) ⟨b₀, hb₀, by unfold Pending; omega⟩
      obtain ⟨hbn, hbp⟩ := hl.valid _ _ hbs
      have hbp1 : s.arr b ≤ t₀ - 1 := hbp.1
      have hbt : ts.length ≤ s.task b := by
        by_contra h
        have := hb.arr_ge hbn (by omega)
        omega
      obtain ⟨_, hba, hbc, _⟩ := hb.low hbn hbt
      exact ⟨b, hbn, by omega, hbc, ht₀1, hbs, hl.servesPending.svc_zero_before b (t₀ - 1) (by omega)⟩

end TightExistsNPLemmas
open TightExistsNPLemmas TightExistsFPLemmas TightExistsLemmas

/-- fully non-preemptive FP (blocking bound `B`: one lower-priority job of cost `B + 1` released
one slot before the common instant `t₀` when `B > 0`): realisable task sets attain the bound -/
theorem fp_nonpreemptive_tight_realisable (ts : List (Arr × ℕ)) (i : ℕ) (hi : i < ts.length) (B : ℕ)
    (hwf : ∀ p ∈ ts, p.1.WF ∧ p.1.Exact ∧ 1 ≤ p.2) (t₀ : ℕ) (ht₀ : 1 ≤ t₀)
    (hreal : ∀ p ∈ ts, RealisableAt p.1 t₀) (limit R : ℕ)
    (hR : fpNonpreemptive (ts.getD i default).1 (ts.getD i default).2 B
      ((ts.take i).map fun p => RB.rbf p.1 (.scalar p.2)) limit = .ok R)
    (hRpos : 0 < R) :
    ∃ s : Sys, JlfpLegal s (hepFP s id) ∧
      (∀ l, l < s.n → ∀ x, 1 ≤ x → x < s.cost l → s.np l x) ∧
      (∀ k, k ≤ i → TaskCompliant s k (ts.getD k default).1 (.scalar (ts.getD k default).2)) ∧
      (∀ l, l < s.n → i < s.task l → s.cost l ≤ B + 1) ∧
      ∃ j, j < s.n ∧ s.task j = i ∧ MeetsBound s j R ∧ ∀ R', R' < R → ¬ MeetsBound s j R' := by
  obtain ⟨hlen, e2, e1⟩ := take_succ_spec ts i hi
  obtain ⟨s, h1, h2, h3, h4, h5⟩ := coreNPG (ts.take (i + 1)) i hlen B
    (fun p hp => hwf p (List.mem_of_mem_take hp)) t₀ ht₀
    (fun p hp => hreal p (List.mem_of_mem_take hp)) limit R
    (by rw [e1 i (le_refl _), e2]; exact hR) hRpos
  refine ⟨s, h1, h2, ?_, h4, h5⟩
  intro k hk
  have := h3 k hk
  rw [e1 k hk] at this
  exact this

end RTA.Sched
