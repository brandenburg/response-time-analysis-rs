import RTA.Lemmas.SchedJlfp
/-! C03/C04: FIFO busy-window soundness over a discrete-time schedule (schedule half), on a
processor whose time is delivered by a supply process `σ`: from `0 < L`, `rbf L ≤ sbf L`,
`∀ A < L, rbf (A + 1) ≤ sbf (A + R)` and workload compliance to "every job completes within `R`
of its release".  The dedicated processor (`fifo_sound`) is the case `σ ≡ true`, `sbf = id`. -/

open Finset

namespace RTA.Sched
open RTA.Spec

/-- service received up to `t` by the jobs released in `[a, b)` -/
def served (s : Sys) (a b t : ℕ) : ℕ := ∑ k ∈ range s.n, if a ≤ s.arr k ∧ s.arr k < b then svc s k t else 0

variable {s}

theorem served_eq_sv (lo hi t : ℕ) :
    served s lo hi t = sv s (fun k => lo ≤ s.arr k ∧ s.arr k < hi) t := by
  unfold served sv
  exact sum_congr rfl fun k _ => by split_ifs <;> rfl

theorem served_busy (lo hi a : ℕ) :
    ∀ len, (∀ u, a ≤ u → u < a + len → ∃ j, s.sched u = some j ∧ j < s.n ∧ lo ≤ s.arr j ∧ s.arr j < hi) →
      served s lo hi (a + len) = served s lo hi a + len := by
  intro len h
  rw [served_eq_sv, served_eq_sv]
  exact J.servedP_busy _ a len h

/-- a FIFO schedule on a supply process `σ`: jobs are served only in slots where the
reservation delivers service; work conserving with respect to the delivered service;
earliest release first (ties arbitrary) -/
structure SupplyFifoLegal (s : Sys) (σ : ℕ → Bool) : Prop where
  valid : ∀ t j, s.sched t = some j → j < s.n ∧ Pending s j t ∧ σ t = true
  wc : ∀ t, σ t = true → (∃ k < s.n, Pending s k t) → ∃ j, s.sched t = some j
  fifo : ∀ t j, s.sched t = some j → ∀ k < s.n, Pending s k t → s.arr j ≤ s.arr k

theorem SupplyFifoLegal.servesPending {s : Sys} {σ : ℕ → Bool} (hl : SupplyFifoLegal s σ) :
    ServesPending s := fun t j h => (hl.valid t j h).2.1

theorem FifoLegal.toSupply (hl : FifoLegal s) : SupplyFifoLegal s (fun _ => true) where
  valid := fun t j h => ⟨(hl.valid t j h).1, (hl.valid t j h).2, rfl⟩
  wc := fun t _ h => hl.wc t h
  fifo := hl.fifo

namespace SupplyFifoLemmas

variable {σ : ℕ → Bool}

theorem fifo_serve (hl : SupplyFifoLegal s σ) (t0 : ℕ) (hq : QuietFor s (fun _ => True) t0)
    (u k : ℕ) (hu : t0 ≤ u) (hσ : σ u = true) (hk : k < s.n) (hp : Pending s k u) :
    ∃ j', s.sched u = some j' ∧ j' < s.n ∧ t0 ≤ s.arr j' ∧ s.arr j' ≤ s.arr k := by
  obtain ⟨j', hj'⟩ := hl.wc u hσ ⟨k, hk, hp⟩
  have hv' := hl.valid u j' hj'
  exact ⟨j', hj', hv'.1, arr_ge_of_quiet hl.servesPending hq hu hj' hv'.1 trivial,
    hl.fifo u j' hj' k hk hp⟩

theorem fifo_window (hl : SupplyFifoLegal s σ) (t0 hi len : ℕ)
    (hq : QuietFor s (fun _ => True) t0)
    (hpend : ∀ u, t0 ≤ u → u < t0 + len → ∃ k, k < s.n ∧ s.arr k < hi ∧ Pending s k u)
    (hw : work s t0 hi ≤ service σ t0 len) :
    ∀ k, k < s.n → t0 ≤ s.arr k → s.arr k < hi → svc s k (t0 + len) = s.cost k := by
  intro k hk h1 h2
  rw [work_eq_wk] at hw
  refine window_done (σ := σ) hl.servesPending (fun k => t0 ≤ s.arr k ∧ s.arr k < hi)
    (fun _ => False) (fun _ h _ => h) t0 len 0 ?_ (fun _ _ h => h.1) ?_ hw k hk ⟨h1, h2⟩
  · intro u hu1 hu2 hσ
    obtain ⟨k', hk', hlt, hp⟩ := hpend u hu1 hu2
    obtain ⟨j', a, b, c, d⟩ := fifo_serve hl t0 hq u k' hu1 hσ hk' hp
    exact ⟨j', a, b, Or.inr ⟨c, Nat.lt_of_le_of_lt d hlt⟩⟩
  · rw [sv_zero _ _ (fun _ _ h => h.elim)]; exact Nat.zero_le _

/-- the schedule half of the FIFO analyses: `L` bounds the busy window (`rbf L ≤ sbf L`), and
a job released at offset `A < L` into it is complete once the supply covers `rbf (A + 1)` -/
theorem fifo_meets (hl : SupplyFifoLegal s σ) (sbf rbf : ℕ → ℕ)
    (hsbf : ∀ t d, sbf d ≤ service σ t d)
    (hwork : ∀ t d, work s t (t + d) ≤ rbf d)
    (L R : ℕ) (hLfix : rbf L ≤ sbf L) (hL : 0 < L)
    (hR : ∀ A, A < L → rbf (A + 1) ≤ sbf (A + R))
    (j : ℕ) (hj : j < s.n) : svc s j (s.arr j + R) = s.cost j := by
  have hv := hl.servesPending
  obtain ⟨t0, ht0le, ht0q, ht0max⟩ := exists_last_quiet s (fun _ => True) (s.arr j)
  obtain ⟨A, hA⟩ := Nat.exists_eq_add_of_le ht0le
  have hAL : A < L := by
    obtain ⟨g', h1, h2, h3⟩ := next_quiet (σ := σ) hv (fun t j h => (hl.valid t j h).1) hl.wc t0 L
      hL ht0q (Nat.le_trans (hwork t0 L) (Nat.le_trans hLfix (hsbf t0 L)))
    by_contra hge
    exact ht0max g' h1 (by omega) h3
  -- until `j` is complete, a job released in `[t0, arr j]` is pending in every slot from `t0` on
  by_contra hne
  have hlt : svc s j (t0 + (A + R)) < s.cost j := by
    have := hv.svc_le_cost j (s.arr j + R)
    rw [hA, Nat.add_assoc] at this hne
    exact Nat.lt_of_le_of_ne this hne
  have := fifo_window hl t0 (t0 + (A + 1)) (A + R) ht0q (fun u h1 h2 => ?_)
    (Nat.le_trans (hwork t0 (A + 1)) (Nat.le_trans (hR A hAL) (hsbf t0 (A + R))))
    j hj ht0le (by omega)
  · rw [hA, Nat.add_assoc] at hne
    exact hne this
  · rcases Nat.lt_or_ge u (s.arr j) with hu | hu
    · obtain ⟨k, hk, _, hp⟩ := pending_of_not_quiet hv _ u (ht0max (u + 1) (by omega) hu)
      have := hp.1
      exact ⟨k, hk, by omega, hp⟩
    · exact ⟨j, hj, by omega, hu, Nat.lt_of_le_of_lt (svc_mono j (Nat.le_of_lt h2)) hlt⟩

end SupplyFifoLemmas
open SupplyFifoLemmas

/-- the same with the recurrence assumed also at `A = L` -/
theorem supply_fifo_sound (s : Sys) (σ : ℕ → Bool) (hl : SupplyFifoLegal s σ) (sbf rbf : ℕ → ℕ)
    (hsbf : ∀ t d, sbf d ≤ service σ t d)
    (hwork : ∀ t d, work s t (t + d) ≤ rbf d)
    (L R : ℕ) (hLfix : rbf L ≤ sbf L) (hL : 0 < L)
    (hR : ∀ A, A ≤ L → rbf (A + 1) ≤ sbf (A + R))
    (j : ℕ) (hj : j < s.n) : svc s j (s.arr j + R) = s.cost j :=
  fifo_meets hl sbf rbf hsbf hwork L R hLfix hL (fun A hA => hR A (Nat.le_of_lt hA)) j hj

theorem fifo_sound (hl : FifoLegal s) (rbf : ℕ → ℕ)
    (hwork : ∀ t d, work s t (t + d) ≤ rbf d)
    (L R : ℕ) (hL : 0 < L) (hLfix : rbf L ≤ L)
    (hR : ∀ A, A < L → rbf (A + 1) ≤ A + R)
    (j : ℕ) (hj : j < s.n) : svc s j (s.arr j + R) = s.cost j :=
  fifo_meets hl.toSupply (fun d => d) rbf (fun t d => (service_true t d).ge) hwork L R hLfix hL hR
    j hj

end RTA.Sched
