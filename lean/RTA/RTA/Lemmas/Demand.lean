import RTA.Model.Demand
import RTA.Lemmas.Cost
/-! Request-bound functions compose arrival and cost models additively (C16).  First the joint
induction principle `RB.induction` and the `sortDesc` lemmas (`take_sortDesc_max`); `DemandLemmas`
holds the joint inductions over nested request bounds and their list halves. -/

namespace RTA

theorem RB.induction {P : RB → Prop} {Q : List RB → Prop} (rbf : ∀ a c, P (.rbf a c))
    (agg : ∀ rs, Q rs → P (.agg rs)) (nil : Q []) (cons : ∀ r rs, P r → Q rs → Q (r :: rs)) :
    (∀ r, P r) ∧ ∀ rs, Q rs :=
  ⟨fun r => RB.rec (motive_1 := P) (motive_2 := Q) rbf agg nil cons r,
   fun rs => RB.rec_1 (motive_1 := P) (motive_2 := Q) rbf agg nil cons rs⟩

open CostLemmas

theorem insertDesc_perm (x : Nat) (l : List Nat) : (insertDesc x l).Perm (x :: l) := by
  induction l with
  | nil => exact List.Perm.refl _
  | cons y ys ih =>
    rw [insertDesc]
    split
    · exact List.Perm.refl _
    · exact (List.Perm.cons y ih).trans (List.Perm.swap x y ys)

theorem insertDesc_sorted (x : Nat) (l : List Nat) (h : l.Pairwise (· ≥ ·)) :
    (insertDesc x l).Pairwise (· ≥ ·) := by
  induction l with
  | nil => exact List.pairwise_singleton _ _
  | cons y ys ih =>
    have h' := List.pairwise_cons.1 h
    rw [insertDesc]
    split
    · rename_i hxy
      refine List.Pairwise.cons (fun z hz => ?_) h
      rcases List.mem_cons.1 hz with rfl | hz
      · exact hxy
      · exact Nat.le_trans (h'.1 z hz) hxy
    · rename_i hxy
      refine List.Pairwise.cons (fun z hz => ?_) (ih h'.2)
      rcases List.mem_cons.1 ((insertDesc_perm x ys).mem_iff.1 hz) with rfl | hz'
      · exact Nat.le_of_lt (Nat.lt_of_not_le hxy)
      · exact h'.1 z hz'

theorem leastList_eq_map (rs : List RB) (d : Nat) :
    RB.leastList rs d = rs.map (·.leastWcet d) := by
  induction rs with
  | nil => rfl
  | cons r rs ih => rw [RB.leastList, ih, List.map_cons]

theorem sortDesc_perm (l : List Nat) : (sortDesc l).Perm l := by
  induction l with
  | nil => exact List.Perm.refl _
  | cons x xs ih => exact (insertDesc_perm x _).trans (List.Perm.cons x ih)

theorem sortDesc_sorted (l : List Nat) : (sortDesc l).Pairwise (· ≥ ·) := by
  induction l with
  | nil => exact List.Pairwise.nil
  | cons x xs ih => exact insertDesc_sorted x _ ih

theorem take_sortDesc_max (l s : List Nat) (n : Nat) (hs : s.Sublist l) (hn : s.length ≤ n) :
    sumList s ≤ sumList ((sortDesc l).take n) := by
  obtain ⟨s', hp, hsub⟩ := List.exists_perm_sublist hs (sortDesc_perm l).symm
  rw [← sumList_perm s' s hp]
  exact sublist_sum_le_take _ (sortDesc_sorted l) s' n hsub (by rw [hp.length_eq]; exact hn)

theorem RB.need_agg (rs : List RB) (d : Nat) : (RB.agg rs).need d = sumList (rs.map (·.need d)) := by
  rw [RB.need]
  induction rs with
  | nil => rfl
  | cons r rs ih => rw [RB.needList, ih, List.map_cons, sumList]

theorem RB.leastWcet_agg_le (rs : List RB) (d : Nat) (r : RB) (hr : r ∈ rs) :
    (RB.agg rs).leastWcet d ≤ r.leastWcet d := by
  have hmem : r.leastWcet d ∈ RB.leastList rs d := by
    rw [leastList_eq_map]
    exact List.mem_map.2 ⟨r, hr, rfl⟩
  obtain ⟨m, hm, _, hle⟩ := minList?_spec _ (List.ne_nil_of_mem hmem)
  rw [RB.leastWcet, hm]
  exact hle _ hmem

namespace DemandLemmas

/-- `job_cost_iter(delta)` sums to `service_needed(delta)` (all nestings) -/
theorem jobCosts_sum_joint :
    (∀ r : RB, r.WF → ∀ d, sumList (r.jobCosts d) = r.need d) ∧
    ∀ rs, RB.WFlist rs → ∀ d, sumList (RB.jobCostsList rs d) = RB.needList rs d := by
  refine RB.induction (fun a c hwf d => ?_) (fun rs ih hwf d => ?_) (fun _ d => rfl)
    (fun r rs ihr ihrs hwf d => ?_)
  · rw [RB.WF] at hwf
    exact Cost.items_sum c hwf.2 _
  · rw [RB.WF] at hwf
    exact ih hwf d
  · rw [RB.WFlist] at hwf
    rw [RB.jobCostsList, RB.needList, sumList_append, ihr hwf.1 d, ihrs hwf.2 d]

theorem jobCostsList_sum' : (rs : List RB) → RB.WFlist rs →
    ∀ d, sumList (RB.jobCostsList rs d) = RB.needList rs d := jobCosts_sum_joint.2

theorem leastWcet_le_jobCost_joint :
    (∀ r : RB, r.WF → ∀ d x, x ∈ r.jobCosts d → r.leastWcet d ≤ x) ∧
    ∀ rs, RB.WFlist rs → ∀ d x, x ∈ RB.jobCostsList rs d → ∃ r, r ∈ rs ∧ r.leastWcet d ≤ x := by
  refine RB.induction (fun a c hwf d x hx => ?_) (fun rs ih hwf d x hx => ?_)
    (fun _ d x hx => absurd hx List.not_mem_nil) (fun r rs ihr ihrs hwf d x hx => ?_)
  · rw [RB.WF] at hwf
    exact Cost.least_le c hwf.2 _ x hx
  · rw [RB.WF] at hwf
    obtain ⟨r, hr, hle⟩ := ih hwf d x hx
    exact Nat.le_trans (RB.leastWcet_agg_le rs d r hr) hle
  · rw [RB.WFlist] at hwf
    rcases List.mem_append.1 hx with hx | hx
    · exact ⟨r, List.mem_cons_self, ihr hwf.1 d x hx⟩
    · obtain ⟨r', hr', hle⟩ := ihrs hwf.2 d x hx
      exact ⟨r', List.mem_cons_of_mem _ hr', hle⟩

theorem leastWcetList_le_jobCost' : (rs : List RB) → RB.WFlist rs →
    ∀ d x, x ∈ RB.jobCostsList rs d → ∃ r, r ∈ rs ∧ r.leastWcet d ≤ x := leastWcet_le_jobCost_joint.2

theorem guards_of_wf_joint :
    (∀ r : RB, r.WF → ∀ d, r.arrWF = true ∧ r.itemsGuard d = true ∧ r.leastGuard d = true) ∧
    ∀ rs, RB.WFlist rs → ∀ d,
      RB.arrWFlist rs = true ∧ RB.itemsGuardList rs d = true ∧ RB.leastGuardList rs d = true := by
  refine RB.induction (fun a c hwf d => ?_) (fun rs ih hwf d => ?_) (fun _ d => ⟨rfl, rfl, rfl⟩)
    (fun r rs ihr ihrs hwf d => ?_)
  · rw [RB.WF] at hwf
    rw [RB.arrWF, RB.itemsGuard, RB.leastGuard]
    exact ⟨decide_eq_true hwf.1, Cost.itemsGuard_of_wf c hwf.2 _, Cost.leastGuard_of_wf c hwf.2 _⟩
  · rw [RB.WF] at hwf
    exact ih hwf d
  · rw [RB.WFlist] at hwf
    have h1 := ihr hwf.1 d
    have h2 := ihrs hwf.2 d
    rw [RB.arrWFlist, RB.itemsGuardList, RB.leastGuardList, h1.1, h1.2.1, h1.2.2]
    exact h2

theorem guardsList_of_wf' : (rs : List RB) → RB.WFlist rs → ∀ d,
    RB.arrWFlist rs = true ∧ RB.itemsGuardList rs d = true ∧ RB.leastGuardList rs d = true :=
  guards_of_wf_joint.2

end DemandLemmas

theorem RB.jobCosts_sum (r : RB) (hwf : r.WF) (d : Nat) : sumList (r.jobCosts d) = r.need d :=
  DemandLemmas.jobCosts_sum_joint.1 r hwf d

theorem RB.needByN_mono (r : RB) (d n m : Nat) (h : n ≤ m) : r.needByN d n ≤ r.needByN d m := by
  rw [RB.needByN, RB.needByN, ← Nat.min_eq_left h, ← List.take_take]
  exact sumList_take_le _ _

theorem RB.needByN_le_need (r : RB) (hwf : r.WF) (d n : Nat) : r.needByN d n ≤ r.need d := by
  rw [RB.needByN, ← RB.jobCosts_sum r hwf d, ← sumList_perm _ _ (sortDesc_perm (r.jobCosts d))]
  exact sumList_take_le _ _

theorem RB.needByN_eq_need (r : RB) (hwf : r.WF) (d n : Nat) (hn : (r.jobCosts d).length ≤ n) :
    r.needByN d n = r.need d := by
  rw [RB.needByN, List.take_of_length_le (by rw [(sortDesc_perm (r.jobCosts d)).length_eq]; exact hn),
    sumList_perm _ _ (sortDesc_perm (r.jobCosts d)), RB.jobCosts_sum r hwf d]

theorem RB.jobCosts_length_rbf (a : Arr) (c : Cost) (d : Nat)
    (hc : ∀ cs, c = .multiframe cs → cs ≠ []) : ((RB.rbf a c).jobCosts d).length = a.N d := by
  rw [RB.jobCosts]
  cases c with
  | scalar c => exact List.length_replicate
  | multiframe cs => exact cycleTake_length cs (hc cs rfl) _ _
  | curve w => rw [Cost.items, List.length_map, List.length_range]
  | xcurve w => rw [Cost.items, List.length_map, List.length_range]

theorem RB.guards_of_wf (r : RB) (hwf : r.WF) (d : Nat) :
    r.arrWF = true ∧ r.itemsGuard d = true ∧ r.leastGuard d = true :=
  DemandLemmas.guards_of_wf_joint.1 r hwf d

end RTA
