import RTA.Model.XCost
import RTA.Lemmas.Steps
/-! Job-cost models (C14).  `CostLemmas` holds the lemmas about the curve functions: `costCurveOf`
is a lookup within the vector's range (`costCurveOf_lookup`) and periodic beyond it
(`costCurveOf_add_length`; induction by `period_induction` of `Lemmas/ListBasics.lean`);
extrapolated vectors go through `costIterExt_induction`; on every finite range the
auto-extrapolating model is such a curve (`xcostOf_as_curve`).  After the namespace, at `RTA.`
level: the theorems about the four-constructor interface `Cost` that the other files use, and
finding F7 (`cost_extrapolate_raises_beyond_range`). -/

namespace RTA

/-- the cumulative vector extended `k` times by `extrapolate_next` -/
def costIterExt (w : List Nat) : Nat → List Nat
  | 0 => w
  | k + 1 => costIterExt w k ++ [costExtrapolateNext (costIterExt w k)]

namespace CostLemmas

theorem costCurveOf_zero (w : List Nat) : costCurveOf w 0 = 0 := by
  rw [costCurveOf, if_neg (fun h => Nat.lt_irrefl 0 h.2)]

theorem costCurveOf_pos (w : List Nat) (hne : w ≠ []) (n : Nat) (hn : 0 < n) :
    costCurveOf w n = w.getD (w.length - 1) 0 * (n / w.length) +
      (if n % w.length > 0 then w.getD (n % w.length - 1) 0 else 0) := by
  rw [costCurveOf, if_pos ⟨hne, hn⟩]
  by_cases hx : n / w.length > 0
  · simp only [if_pos hx]
  · simp only [if_neg hx]
    rw [Nat.eq_zero_of_not_pos hx, Nat.mul_zero]

theorem costCurveOf_lookup (w : List Nat) (n : Nat) (hn : 1 ≤ n) (hle : n ≤ w.length) :
    costCurveOf w n = w.getD (n - 1) 0 := by
  have hne : w ≠ [] := List.length_pos_iff.1 (by omega)
  rw [costCurveOf_pos w hne n hn]
  rcases Nat.eq_or_lt_of_le hle with rfl | hlt
  · rw [Nat.div_self hn, Nat.mod_self, if_neg (Nat.lt_irrefl 0), Nat.mul_one, Nat.add_zero]
  · rw [Nat.div_eq_of_lt hlt, Nat.mod_eq_of_lt hlt, if_pos (show n > 0 from hn), Nat.mul_zero, Nat.zero_add]

theorem costCurveOf_succ (w : List Nat) (i : Nat) (hi : i < w.length) :
    costCurveOf w (i + 1) = w.getD i 0 :=
  costCurveOf_lookup w (i + 1) (Nat.le_add_left 1 i) hi

/-- beyond its range the curve repeats: `len` more jobs cost `w[len - 1]` more -/
theorem costCurveOf_add_length (w : List Nat) (hne : w ≠ []) (n : Nat) :
    costCurveOf w (n + w.length) = costCurveOf w n + costCurveOf w w.length := by
  have hpos : 0 < w.length := List.length_pos_iff.2 hne
  rcases Nat.eq_zero_or_pos n with rfl | hn
  · rw [Nat.zero_add, costCurveOf_zero, Nat.zero_add]
  · rw [costCurveOf_pos w hne _ (by omega), costCurveOf_pos w hne n hn,
      costCurveOf_lookup w _ hpos (Nat.le_refl _), Nat.add_div_right n hpos, Nat.add_mod_right,
      Nat.mul_succ]
    omega

theorem costCurveOf_step (w : List Nat) (hs : w.Pairwise (· ≤ ·)) (n : Nat) :
    costCurveOf w n ≤ costCurveOf w (n + 1) := by
  by_cases hne : w = []
  · subst hne; exact Nat.le_refl _
  induction n using period_induction (List.length_pos_iff.2 hne) with
  | base n hn =>
    rcases Nat.eq_zero_or_pos n with rfl | h1
    · rw [costCurveOf_zero]; exact Nat.zero_le _
    · rw [costCurveOf_lookup w n h1 (by omega), costCurveOf_lookup w (n + 1) (by omega) (by omega)]
      exact sorted_getD_le w hs _ _ (Nat.sub_le n 1) hn
  | step n ih =>
    rw [Nat.add_right_comm, costCurveOf_add_length w hne, costCurveOf_add_length w hne]
    exact Nat.add_le_add_right ih _

theorem costCurveOf_mono (w : List Nat) (hs : w.Pairwise (· ≤ ·)) : MonoN (costCurveOf w) :=
  monoN_of_step _ (costCurveOf_step w hs)

theorem costCurveOf_append (l l' : List Nat) (n : Nat) (hn : n ≤ l.length) :
    costCurveOf (l ++ l') n = costCurveOf l n := by
  rcases Nat.eq_zero_or_pos n with rfl | h1
  · rw [costCurveOf_zero, costCurveOf_zero]
  · rw [costCurveOf_lookup _ n h1 (by rw [List.length_append]; omega),
      costCurveOf_lookup _ n h1 hn, getD_append_left (by omega)]

/-- sub-additivity of the vector, read as a statement about `costCurveOf` in its range -/
theorem costCurveOf_subadd (w : List Nat)
    (hsub : ∀ i j, i + j + 1 < w.length → w.getD (i + j + 1) 0 ≤ w.getD i 0 + w.getD j 0)
    (a b : Nat) (h : a + b ≤ w.length) :
    costCurveOf w (a + b) ≤ costCurveOf w a + costCurveOf w b := by
  cases a with
  | zero => rw [Nat.zero_add]; exact Nat.le_add_left _ _
  | succ i =>
    cases b with
    | zero => exact Nat.le_add_right _ _
    | succ j =>
      have hij : i + j + 1 < w.length := by omega
      rw [show i + 1 + (j + 1) = i + j + 1 + 1 by omega, costCurveOf_succ w _ hij,
        costCurveOf_succ w i (by omega), costCurveOf_succ w j (by omega)]
      exact hsub i j hij

/-- The curve dominates whatever it dominates on its own range and is sub-additive along
consecutive blocks: `g s n` is a quantity of `n` jobs from position `s` on (`s + n ≤ T`),
cut into blocks of `len` jobs by the periodic continuation of the curve. -/
theorem le_costCurveOf_of_blocks (w : List Nat) (hne : w ≠ []) (g : Nat → Nat → Nat) (T : Nat)
    (hsplit : ∀ s a b, s + (a + b) ≤ T → g s (a + b) ≤ g s a + g (s + a) b)
    (hc : ∀ s n, n ≤ w.length → s + n ≤ T → g s n ≤ costCurveOf w n)
    (n s : Nat) (h : s + n ≤ T) : g s n ≤ costCurveOf w n := by
  have hpos : 0 < w.length := List.length_pos_iff.2 hne
  induction n using Nat.strongRecOn generalizing s with
  | ind n ih =>
    rcases Nat.lt_or_ge w.length n with hlt | hle
    · obtain ⟨m, rfl⟩ : ∃ m, n = w.length + m := ⟨n - w.length, by omega⟩
      have h1 := hsplit s w.length m h
      have h2 := hc s w.length (Nat.le_refl _) (by omega)
      have h3 := ih m (by omega) (s + w.length) (by omega)
      rw [Nat.add_comm w.length m] at h1 ⊢
      rw [costCurveOf_add_length w hne m]
      omega
    · exact hc s n hle h

/-- `least_wcet(n)` is the greatest lower bound of the costs of the first `min len n` jobs -/
theorem le_costCurveLeast_iff (w : List Nat) (hne : w ≠ []) (n : Nat) (hn : 0 < n) (B : Nat) :
    B ≤ costCurveLeast w n ↔
      ∀ j, j < w.length → j < n → B ≤ costCurveOf w (j + 1) - costCurveOf w j := by
  have hpos : 0 < w.length := List.length_pos_iff.2 hne
  rw [costCurveLeast, if_pos hn, le_foldl_min_iff, ← getD_zero_eq_headD]
  constructor
  · rintro ⟨h0, h⟩ j hj hjn
    cases j with
    | zero => rwa [costCurveOf_zero, costCurveOf_succ w 0 hpos]
    | succ i =>
      rw [costCurveOf_succ w (i + 1) hj, costCurveOf_succ w i (Nat.lt_of_succ_lt hj)]
      exact h i (List.mem_range.2 (Nat.lt_sub_of_add_lt (Nat.lt_min.2 ⟨hj, hjn⟩)))
  · intro h
    refine ⟨?_, fun i hi => ?_⟩
    · have := h 0 hpos hn
      rwa [costCurveOf_zero, costCurveOf_succ w 0 hpos] at this
    · obtain ⟨h1, h2⟩ := Nat.lt_min.1 (Nat.add_lt_of_lt_sub (List.mem_range.1 hi))
      have := h (i + 1) h1 h2
      rwa [costCurveOf_succ w (i + 1) h1, costCurveOf_succ w i (Nat.lt_of_succ_lt h1)] at this

theorem curve_least_le (w : List Nat) (hne : w ≠ []) (n i : Nat) (hi : i < n) :
    costCurveLeast w n ≤ costCurveOf w (i + 1) - costCurveOf w i := by
  induction i using period_induction (List.length_pos_iff.2 hne) with
  | base i hl => exact (le_costCurveLeast_iff w hne n (Nat.zero_lt_of_lt hi) _).1 (Nat.le_refl _) i hl hi
  | step i ih =>
    rw [Nat.add_right_comm, costCurveOf_add_length w hne, costCurveOf_add_length w hne,
      Nat.add_sub_add_right]
    exact ih (by omega)

theorem costIterExt_length (w : List Nat) (k : Nat) :
    (costIterExt w k).length = w.length + k := by
  induction k with
  | zero => rfl
  | succ k ih => rw [costIterExt, List.length_append, ih]; rfl

theorem costIterExt_add (w : List Nat) (j k : Nat) :
    costIterExt (costIterExt w j) k = costIterExt w (j + k) := by
  induction k with
  | zero => rfl
  | succ k ih => rw [costIterExt, ih]; rfl

theorem costIterExt_induction {P : List Nat → Prop} {w : List Nat} (h0 : P w)
    (step : ∀ W, P W → P (W ++ [costExtrapolateNext W])) (k : Nat) : P (costIterExt w k) := by
  induction k with
  | zero => exact h0
  | succ k ih => exact step _ ih

theorem costIterExt_shift (w : List Nat) (k : Nat) :
    costIterExt (w ++ [costExtrapolateNext w]) k = costIterExt w (k + 1) := by
  rw [Nat.add_comm]; exact costIterExt_add w 1 k

theorem costCurveOf_iterExt (w : List Nat) (j k n : Nat) (hjk : j ≤ k) (hn : n ≤ w.length + j) :
    costCurveOf (costIterExt w k) n = costCurveOf (costIterExt w j) n := by
  induction hjk with
  | refl => rfl
  | step h ih =>
    have h' : j ≤ _ := h
    rw [costIterExt, costCurveOf_append _ _ _ (by rw [costIterExt_length]; omega), ih]

theorem costCurveOf_iterExt_base (w : List Nat) (k n : Nat) (hn : n ≤ w.length) :
    costCurveOf (costIterExt w k) n = costCurveOf w n :=
  costCurveOf_iterExt w 0 k n (Nat.zero_le _) hn

theorem costExtrapolate_eq (fuel : Nat) (w : List Nat) (p : Nat) (h3 : 3 ≤ w.length)
    (hf : p - w.length ≤ fuel) :
    costExtrapolate w (p + 1) fuel = costIterExt w (p - w.length) := by
  induction fuel generalizing w with
  | zero => rw [Nat.le_zero.1 hf]; rfl
  | succ fuel ih =>
    rw [costExtrapolate, Nat.add_sub_cancel]
    by_cases hlt : w.length < p
    · have hl : (w ++ [costExtrapolateNext w]).length = w.length + 1 := List.length_append
      rw [if_pos ⟨h3, hlt⟩, ih _ (by omega) (by omega), costIterExt_shift, hl,
        show p - (w.length + 1) + 1 = p - w.length by omega]
    · rw [if_neg (fun h => hlt h.2), Nat.sub_eq_zero_of_le (Nat.le_of_not_lt hlt)]; rfl

theorem costExtrapolate_short (fuel : Nat) (w : List Nat) (n : Nat) (h3 : w.length < 3) :
    costExtrapolate w n fuel = w := by
  cases fuel with
  | zero => rfl
  | succ fuel => rw [costExtrapolate, if_neg (by omega)]

theorem costExtrapolate_prefix (w : List Nat) (n fuel : Nat) : w <+: costExtrapolate w n fuel := by
  induction fuel generalizing w with
  | zero => exact List.prefix_refl _
  | succ fuel ih =>
    rw [costExtrapolate]
    split
    · exact (List.prefix_append _ _).trans (ih _)
    · exact List.prefix_refl _

/-- `extrapolate_next` is the least sum of two entries whose job counts add up to one more
than the vector holds -/
theorem costExtrapolateNext_spec (w : List Nat) (hne : w ≠ []) :
    (∃ i j, i + j + 1 = w.length ∧ costExtrapolateNext w = w.getD i 0 + w.getD j 0) ∧
    ∀ i j, i + j + 1 = w.length → costExtrapolateNext w ≤ w.getD i 0 + w.getD j 0 := by
  obtain ⟨m, hm, hmem, hle⟩ := minList?_spec
    ((List.range (w.length / 2 + 1)).map fun k => w.getD k 0 + w.getD (w.length - k - 1) 0)
    (by rw [Ne, List.map_eq_nil_iff, List.range_eq_nil]; exact Nat.succ_ne_zero _)
  have he : costExtrapolateNext w = m := congrArg (·.getD 0) hm
  have hpos : 0 < w.length := List.length_pos_iff.2 hne
  rw [he]
  constructor
  · obtain ⟨k, hk, rfl⟩ := List.mem_map.1 hmem
    rw [List.mem_range] at hk
    exact ⟨k, w.length - k - 1, by omega, rfl⟩
  · intro i j hij
    -- the model only scans `k ≤ len / 2`; the other half is covered by symmetry
    have hk : ∀ k, k ≤ w.length / 2 → m ≤ w.getD k 0 + w.getD (w.length - k - 1) 0 := fun k hk =>
      hle _ (List.mem_map.2 ⟨k, List.mem_range.2 (Nat.lt_succ_of_le hk), rfl⟩)
    rcases le_half_of_add_succ_eq _ i j hij with ⟨h, e⟩ | ⟨h, e⟩
    · rw [← e]; exact hk i h
    · rw [← e, Nat.add_comm]; exact hk j h

/-- if every job within the vector's range costs at least `B`, so does the extrapolated one:
the new entry splits as `(i + 1) + (j + 1)` jobs, and the vector's `i + (j + 1)` jobs are
sub-additive (`B = 0`: the new entry is no smaller than the last) -/
theorem costExtrapolateNext_ge (w : List Nat) (hwf : costCurveWF w) (B : Nat)
    (hB : ∀ j, j < w.length → costCurveOf w j + B ≤ costCurveOf w (j + 1)) :
    costCurveOf w w.length + B ≤ costExtrapolateNext w := by
  obtain ⟨hne, _, hsub⟩ := hwf
  obtain ⟨⟨i, j, hij, he⟩, _⟩ := costExtrapolateNext_spec w hne
  have h1 := costCurveOf_subadd w hsub i (j + 1) (by omega)
  have h2 := hB i (by omega)
  rw [costCurveOf_succ w i (by omega)] at h2
  rw [costCurveOf_succ w j (by omega), show i + (j + 1) = w.length by omega] at h1
  rw [he]
  omega

theorem costCurveWF_snoc_next (W : List Nat) (hwf : costCurveWF W) :
    costCurveWF (W ++ [costExtrapolateNext W]) := by
  have hpos : 0 < W.length := List.length_pos_iff.2 hwf.1
  have hlast : W.getD (W.length - 1) 0 ≤ costExtrapolateNext W := by
    have := costExtrapolateNext_ge W hwf 0 (fun j _ => costCurveOf_step W hwf.2.1 j)
    rwa [Nat.add_zero, costCurveOf_lookup W _ hpos (Nat.le_refl _)] at this
  obtain ⟨hne, hs, hsub⟩ := hwf
  refine ⟨List.append_ne_nil_of_left_ne_nil hne _, ?_, ?_⟩
  · rw [List.pairwise_append]
    refine ⟨hs, List.pairwise_singleton _ _, fun a ha b hb => ?_⟩
    obtain ⟨i, hi, rfl⟩ := List.mem_iff_getElem.1 ha
    rw [List.mem_singleton.1 hb, ← getD_eq_getElem W hi]
    exact Nat.le_trans
      (sorted_getD_le W hs _ _ (Nat.le_sub_one_of_lt hi) (Nat.sub_lt hpos Nat.one_pos)) hlast
  · intro i j hij
    rw [List.length_append, List.length_singleton] at hij
    have hle : i + j + 1 ≤ W.length := Nat.le_of_lt_succ hij
    rw [getD_append_left (Nat.lt_of_lt_of_le (Nat.lt_succ_of_le (Nat.le_add_right i j)) hle),
      getD_append_left (Nat.lt_of_lt_of_le (Nat.lt_succ_of_le (Nat.le_add_left j i)) hle)]
    rcases Nat.lt_or_eq_of_le hle with hl | he
    · rw [getD_append_left hl]
      exact hsub i j hl
    · rw [he, getD_append_last]
      exact (costExtrapolateNext_spec W hne).2 i j he

theorem costIterExt_wf (w : List Nat) (hwf : costCurveWF w) (k : Nat) :
    costCurveWF (costIterExt w k) :=
  costIterExt_induction hwf costCurveWF_snoc_next k

theorem costIterExt_le (w : List Nat) (hwf : costCurveWF w) (k n : Nat)
    (hn : n ≤ w.length + k) : costCurveOf (costIterExt w k) n ≤ costCurveOf w n :=
  le_costCurveOf_of_blocks w hwf.1 (fun _ m => costCurveOf (costIterExt w k) m) (w.length + k)
    (fun _ a b h => costCurveOf_subadd _ (costIterExt_wf w hwf k).2.2 a b
      (by rw [costIterExt_length]; omega))
    (fun _ m hm _ => Nat.le_of_eq (costCurveOf_iterExt_base w k m hm)) n 0 (by omega)

/-- `least_wcet` does not notice an extrapolated entry: it costs at least as much as the least
of the jobs before it (`costExtrapolateNext_ge`) -/
theorem costCurveLeast_append_next (W : List Nat) (hwf : costCurveWF W) (n : Nat) :
    costCurveLeast (W ++ [costExtrapolateNext W]) n = costCurveLeast W n := by
  rcases Nat.eq_zero_or_pos n with rfl | hn
  · rfl
  have key : ∀ B, B ≤ costCurveLeast (W ++ [costExtrapolateNext W]) n ↔ B ≤ costCurveLeast W n := by
    intro B
    rw [le_costCurveLeast_iff _ (List.append_ne_nil_of_left_ne_nil hwf.1 _) n hn,
      le_costCurveLeast_iff W hwf.1 n hn, List.length_append, List.length_singleton]
    constructor
    · intro h j hj hjn
      have := h j (Nat.lt_succ_of_lt hj) hjn
      rwa [costCurveOf_append _ _ _ hj, costCurveOf_append _ _ _ (Nat.le_of_lt hj)] at this
    · intro h j hj hjn
      rcases Nat.lt_or_eq_of_le (Nat.le_of_lt_succ hj) with hlt | rfl
      · rw [costCurveOf_append _ _ _ hlt, costCurveOf_append _ _ _ (Nat.le_of_lt hlt)]
        exact h j hlt hjn
      · rw [costCurveOf_append _ _ _ (Nat.le_refl _),
          costCurveOf_succ _ _ (by rw [List.length_append]; exact Nat.lt_succ_self _),
          getD_append_last]
        exact Nat.le_sub_of_add_le' (costExtrapolateNext_ge W hwf B fun i hi =>
          Nat.add_le_of_le_sub' (costCurveOf_step W hwf.2.1 i) (h i hi (Nat.lt_trans hi hjn)))
  exact Nat.le_antisymm ((key _).1 (Nat.le_refl _)) ((key _).2 (Nat.le_refl _))

theorem costCurveLeast_ext (w : List Nat) (hwf : costCurveWF w) (k n : Nat) :
    costCurveLeast (costIterExt w k) n = costCurveLeast w n :=
  (costIterExt_induction (P := fun W => costCurveWF W ∧ ∀ n, costCurveLeast W n = costCurveLeast w n)
    ⟨hwf, fun _ => rfl⟩
    (fun W h => ⟨costCurveWF_snoc_next W h.1, fun n => (costCurveLeast_append_next W h.1 n).trans (h.2 n)⟩) k).2 n

/-- `ExtrapolatingCurve::cost_of_jobs(n)` is what any long enough extrapolation says (for at
least three samples) -/
theorem xcostOf_eq (w : List Nat) (h3 : 3 ≤ w.length) (n k : Nat) (hk : n ≤ w.length + k) :
    xcostOf w n = costCurveOf (costIterExt w k) n := by
  rw [xcostOf, costExtrapolate_eq n w n h3 (Nat.sub_le _ _)]
  exact (costCurveOf_iterExt w _ k n (by omega) (by omega)).symm

/-- with fewer than three samples nothing is extrapolated -/
theorem xcostOf_short (w : List Nat) (h3 : w.length < 3) (n : Nat) : xcostOf w n = costCurveOf w n := by
  rw [xcostOf, costExtrapolate_short _ _ _ h3]

/-- on every finite range the auto-extrapolating model is a plain well-formed curve with the
same `least_wcet` that claims no more than the initial vector -/
theorem xcostOf_as_curve (w : List Nat) (hwf : costCurveWF w) (N : Nat) :
    ∃ W, costCurveWF W ∧ (∀ n, costCurveLeast W n = costCurveLeast w n) ∧
      ∀ n, n ≤ N → xcostOf w n = costCurveOf W n ∧ costCurveOf W n ≤ costCurveOf w n := by
  by_cases h3 : w.length < 3
  · exact ⟨w, hwf, fun _ => rfl, fun n _ => ⟨xcostOf_short w h3 n, Nat.le_refl _⟩⟩
  · exact ⟨costIterExt w N, costIterExt_wf w hwf N, costCurveLeast_ext w hwf N, fun n hn =>
      ⟨xcostOf_eq w (by omega) n N (by omega), costIterExt_le w hwf N n (by omega)⟩⟩

theorem xcostOf_zero (w : List Nat) : xcostOf w 0 = 0 := costCurveOf_zero _

theorem xcostOf_mono (w : List Nat) (hwf : costCurveWF w) : MonoN (xcostOf w) := by
  intro a b hab
  obtain ⟨W, hW, _, h⟩ := xcostOf_as_curve w hwf b
  rw [(h a hab).1, (h b (Nat.le_refl b)).1]
  exact costCurveOf_mono W hW.2.1 a b hab

theorem xcurve_least_le (w : List Nat) (hwf : costCurveWF w) (n i : Nat) (hi : i < n) :
    costCurveLeast w n ≤ xcostOf w (i + 1) - xcostOf w i := by
  obtain ⟨W, hW, hl, h⟩ := xcostOf_as_curve w hwf n
  rw [(h (i + 1) hi).1, (h i (Nat.le_of_lt hi)).1, ← hl n]
  exact curve_least_le W hW.1 n i hi

theorem cycleTake_eq_map (cs : List Nat) (hne : cs ≠ []) (n i : Nat) :
    cycleTake cs n i = (List.range n).map fun k => cs.getD ((i + k) % cs.length) 0 := by
  induction n generalizing i with
  | zero => rfl
  | succ n ih =>
    rw [cycleTake, if_neg hne, ih, List.range_succ_eq_map, List.map_cons, List.map_map, Nat.add_zero]
    congr 2
    funext k
    rw [Function.comp_apply, Nat.add_right_comm, Nat.add_assoc]

theorem multiframe_least_le (cs : List Nat) (n x : Nat) (hx : x ∈ cycleTake cs n 0) :
    (minList? (cs.take n)).getD 0 ≤ x := by
  by_cases hne : cs = []
  · subst hne
    cases n <;> exact absurd hx List.not_mem_nil
  · rw [cycleTake_eq_map cs hne] at hx
    obtain ⟨k, hk, rfl⟩ := List.mem_map.1 hx
    rw [List.mem_range] at hk
    rw [Nat.zero_add]
    have h1 : k % cs.length < cs.length := Nat.mod_lt _ (List.length_pos_iff.2 hne)
    have hmem : cs.getD (k % cs.length) 0 ∈ cs.take n := by
      rw [getD_eq_getElem cs h1, List.mem_take_iff_getElem]
      exact ⟨k % cs.length, Nat.lt_min.2 ⟨Nat.lt_of_le_of_lt (Nat.mod_le _ _) hk, h1⟩, rfl⟩
    obtain ⟨m, hm, _, hle⟩ := minList?_spec (cs.take n) (List.ne_nil_of_mem hmem)
    rw [hm]
    exact hle _ hmem

theorem sumList_cycleTake_step (cs : List Nat) (n i : Nat) :
    sumList (cycleTake cs n i) ≤ sumList (cycleTake cs (n + 1) i) := by
  induction n generalizing i with
  | zero => exact Nat.zero_le _
  | succ n ih =>
    by_cases hne : cs = []
    · subst hne; exact Nat.le_refl _
    · rw [cycleTake, if_neg hne, cycleTake, if_neg hne, sumList, sumList]
      exact Nat.add_le_add_left (ih (i + 1)) _

theorem sum_diffs (f : Nat → Nat) (h0 : f 0 = 0) (hm : MonoN f) (n : Nat) :
    sumList ((List.range n).map fun i => f (i + 1) - f i) = f n := by
  induction n with
  | zero => rw [h0]; rfl
  | succ n ih =>
    rw [sumList_eq_sum] at ih
    rw [List.range_succ, List.map_append, sumList_eq_sum, List.sum_append, ih, List.map_singleton,
      List.sum_singleton]
    exact Nat.add_sub_cancel' (hm n (n + 1) (Nat.le_succ n))

theorem costItemsGuard_of_mono (f : Nat → Nat) (hm : MonoN f) (n : Nat) :
    costItemsGuard f n = true := by
  rw [costItemsGuard, List.all_eq_true]
  intro i _
  exact decide_eq_true (hm i (i + 1) (Nat.le_succ i))

theorem costLeastGuard_of_wf (w : List Nat) (hwf : costCurveWF w) (n : Nat) :
    costLeastGuard w n = true := by
  obtain ⟨hne, hs, _⟩ := hwf
  have hall : ((List.range (min w.length n - 1)).all
      fun i => decide (w.getD i 0 ≤ w.getD (i + 1) 0)) = true := by
    rw [List.all_eq_true]
    intro i hi
    rw [List.mem_range] at hi
    exact decide_eq_true (sorted_getD_le w hs _ _ (Nat.le_succ i) (by omega))
  rw [costLeastGuard, hall, Bool.and_true, decide_eq_true hne, Bool.or_true]

theorem xcostRun_short (w : List Nat) (h3 : w.length < 3) (ops : List XCostOp) :
    xcostRun w ops = ops.map (xcostPure w) := by
  induction ops with
  | nil => rfl
  | cons op ops ih =>
    cases op with
    | coj n =>
      simp only [xcostRun, xcostStep, List.map_cons, xcostPure, xcostOf,
        costExtrapolate_short _ _ _ h3, ih]
    | least n =>
      simp only [xcostRun, xcostStep, List.map_cons, xcostPure, ih]

/-- the shared vector is always some extrapolation of the initial one, and every such vector
answers like the initial one -/
theorem xcostRun_ext (w : List Nat) (hwf : costCurveWF w) (h3 : 3 ≤ w.length)
    (ops : List XCostOp) (k : Nat) :
    xcostRun (costIterExt w k) ops = ops.map (xcostPure w) := by
  induction ops generalizing k with
  | nil => rfl
  | cons op ops ih =>
    cases op with
    | coj n =>
      have hlen := costIterExt_length w k
      have e1 : costExtrapolate (costIterExt w k) (n + 1) n =
          costIterExt w (k + (n - (costIterExt w k).length)) := by
        rw [costExtrapolate_eq n _ n (by omega) (Nat.sub_le _ _), costIterExt_add]
      simp only [xcostRun, xcostStep, List.map_cons, xcostPure, e1, ih,
        xcostOf_eq w h3 n (k + (n - (costIterExt w k).length)) (by omega)]
    | least n =>
      simp only [xcostRun, xcostStep, List.map_cons, xcostPure, ih,
        costCurveLeast_ext w hwf k n]

end CostLemmas

open CostLemmas

/-- finding F7: BEYOND the extrapolated range a partially extrapolated `wcet::Curve` can
claim more than the original (`[5,6,7]` extrapolated to four entries, five jobs: 17 > 13) -/
theorem cost_extrapolate_raises_beyond_range :
    costCurveOf (costExtrapolate [5, 6, 7] 5 5) 5 > costCurveOf [5, 6, 7] 5 := by
  decide

theorem Cost.ofJobs_zero (c : Cost) : c.ofJobs 0 = 0 := by
  cases c with
  | scalar c => rfl
  | multiframe cs => rfl
  | curve w => exact costCurveOf_zero w
  | xcurve w => exact costCurveOf_zero _

theorem cycleTake_length (cs : List Nat) (hne : cs ≠ []) (n i : Nat) : (cycleTake cs n i).length = n := by
  rw [cycleTake_eq_map cs hne, List.length_map, List.length_range]

theorem Cost.ofJobs_mono (c : Cost) (hwf : c.WF) : MonoN c.ofJobs := by
  cases c with
  | scalar c => intro a b hab; exact Nat.mul_le_mul_left c hab
  | multiframe cs => exact monoN_of_step _ (fun n => sumList_cycleTake_step cs n 0)
  | curve w => exact costCurveOf_mono w hwf.2.1
  | xcurve w => exact xcostOf_mono w hwf

theorem Cost.items_sum (c : Cost) (hwf : c.WF) (n : Nat) : sumList (c.items n) = c.ofJobs n := by
  cases c with
  | scalar c => exact (sumList_eq_sum _).trans (List.sum_replicate_nat.trans (Nat.mul_comm n c))
  | multiframe cs => rfl
  | curve w => exact sum_diffs _ (costCurveOf_zero w) (costCurveOf_mono w hwf.2.1) n
  | xcurve w => exact sum_diffs _ (xcostOf_zero w) (xcostOf_mono w hwf) n

/-- on well-formed models the subtraction in `job_cost_iter` never underflows -/
theorem Cost.itemsGuard_of_wf (c : Cost) (hwf : c.WF) (n : Nat) : c.itemsGuard n = true := by
  cases c with
  | scalar c => rfl
  | multiframe cs => rfl
  | curve w => exact costItemsGuard_of_mono _ (costCurveOf_mono w hwf.2.1) n
  | xcurve w => exact costItemsGuard_of_mono _ (xcostOf_mono w hwf) n

theorem Cost.leastGuard_of_wf (c : Cost) (hwf : c.WF) (n : Nat) : c.leastGuard n = true := by
  cases c with
  | scalar c => rfl
  | multiframe cs => rfl
  | curve w => exact costLeastGuard_of_wf w hwf n
  | xcurve w => exact costLeastGuard_of_wf w hwf n

theorem Cost.least_le (c : Cost) (hwf : c.WF) (n : Nat) : ∀ x ∈ c.items n, c.least n ≤ x := by
  intro x hx
  cases c with
  | scalar c =>
    obtain ⟨hn, rfl⟩ := List.mem_replicate.1 hx
    show (if n > 0 then x else 0) ≤ x
    rw [if_pos (by omega)]
    exact Nat.le_refl _
  | multiframe cs => exact multiframe_least_le cs n x hx
  | curve w =>
    obtain ⟨i, hi, rfl⟩ := List.mem_map.1 hx
    exact curve_least_le w hwf.1 n i (List.mem_range.1 hi)
  | xcurve w =>
    obtain ⟨i, hi, rfl⟩ := List.mem_map.1 hx
    exact xcurve_least_le w hwf n i (List.mem_range.1 hi)

end RTA
