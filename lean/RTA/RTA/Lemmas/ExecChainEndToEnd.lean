import RTA.Lemmas.ExecChainJobs
import RTA.Lemmas.ExecEndToEnd
import RTA.Lemmas.ChainSound
/-! For the end-to-end soundness of the processing-chain analysis (`rta_processing_chain`) over
the executor transition system with a linear chain `ch = [c₀, …, c_k]`: the number and the work of
the jobs of `toSysC` released in a window, counted through `relCount` of the source `c₀` (every
later stage has one job per source event, with the source event's arrival time). -/

namespace RTA.Exec.ChainEndToEndLemmas
open RTA RTA.Sched RTA.Spec RTA.Exec RefineLemmas ChainRefineLemmas

open Finset

theorem cnt_add (rels : ℕ → List ℕ) (i t : ℕ) : ∀ d,
    cnt rels i (t + d) = cnt rels i t + relCount rels i t d := by
  intro d
  induction d with
  | zero => simp [relCount]
  | succ d ih =>
    show cnt rels i (t + d) + (rels (t + d)).count i = _
    rw [ih, EndToEndLemmas.relCount_eq, EndToEndLemmas.relCount_eq, Finset.sum_range_succ]
    omega

theorem sum_range_mul_split (g : ℕ → ℕ) (M : ℕ) : ∀ X,
    ∑ j ∈ range (X * M), g j = ∑ x ∈ range X, ∑ m ∈ range M, g (x * M + m) := by
  intro X
  induction X with
  | zero => simp
  | succ X ih => rw [Nat.succ_mul, Finset.sum_range_add, ih, Finset.sum_range_succ]

theorem window_count (a b : ℕ) : ∀ M,
    ∑ m ∈ range M, (if a ≤ m ∧ m < b then 1 else 0) ≤ min M b - a := by
  intro M
  induction M with
  | zero => exact Nat.zero_le _
  | succ M ih => rw [Finset.sum_range_succ]; split <;> omega

theorem mem_head_or_tail {ch : List ℕ} {i : ℕ} (h : i ∈ ch) : i = ch.headD 0 ∨ i ∈ ch.tail := by
  cases ch with
  | nil => cases h
  | cons a l => simpa using h

variable {cbs : List Cb} {ch : List ℕ} {sigma : ℕ → Bool} {rels : ℕ → List ℕ} {H : ℕ}

local notation "Sy" => toSysC cbs ch sigma rels H

section stageSums

theorem ev_not_tail (hext : ∀ t, ∀ i ∈ rels t, i ∉ ch.tail) {k : ℕ}
    (hk : k < (events rels H).length) : ((events rels H).getD k (0, 0)).2 ∉ ch.tail :=
  hext _ _ (events_getD rels hk)

/-- one stage of the chain: `M` jobs of callback `i`, the `m`-th arriving with the `m`-th release
of the source `s` -/
theorem stage_sum (P : ℕ → Prop) [DecidablePred P] (c : ℕ → ℕ) (t d M i s : ℕ) (tk ar : ℕ → ℕ)
    (h : ∀ m, m < M → tk m = i ∧ ∀ T, ar m ≤ T ↔ m < cnt rels s (T + 1)) :
    ∑ m ∈ range M, (if P (tk m) ∧ t ≤ ar m ∧ ar m < t + d then c (tk m) else 0) ≤
    (if P i then c i else 0) * relCount rels s t d := by
  have hpt : ∀ m ∈ range M,
      (if P (tk m) ∧ t ≤ ar m ∧ ar m < t + d then c (tk m) else 0) =
      (if P i then c i else 0) * (if cnt rels s t ≤ m ∧ m < cnt rels s (t + d) then 1 else 0) := by
    intro m hm
    obtain ⟨htask, harr⟩ := h m (Finset.mem_range.1 hm)
    rw [htask]
    generalize ar m = A at harr
    have hlt : ∀ T, A < T ↔ m < cnt rels s T := by
      intro T
      cases T with
      | zero =>
        have : cnt rels s 0 = 0 := rfl
        omega
      | succ T' => rw [← harr T']; omega
    have hw : (t ≤ A ∧ A < t + d) ↔ (cnt rels s t ≤ m ∧ m < cnt rels s (t + d)) := by
      rw [← hlt (t + d)]
      have := hlt t
      omega
    by_cases hP : P i
    · by_cases hW : t ≤ A ∧ A < t + d
      · rw [if_pos ⟨hP, hW⟩, if_pos hP, if_pos (hw.1 hW), Nat.mul_one]
      · rw [if_neg (fun h => hW h.2), if_neg (fun h => hW (hw.2 h)), Nat.mul_zero]
    · rw [if_neg (fun h => hP h.1), if_neg hP, Nat.zero_mul]
  rw [Finset.sum_congr rfl hpt, ← Finset.mul_sum]
  apply Nat.mul_le_mul_left
  have h1 := window_count (cnt rels s t) (cnt rels s (t + d)) M
  have h2 := cnt_add rels s t d
  omega

/-- the external release events, plus one job per source event for every later stage -/
theorem toSysC_sum_le (hfin : ∀ t, H ≤ t → rels t = []) (P : ℕ → Prop) [DecidablePred P]
    (c : ℕ → ℕ) (t d : ℕ) :
    (∑ k ∈ range (Sy).n,
      if P ((Sy).task k) ∧ t ≤ (Sy).arr k ∧ (Sy).arr k < t + d then c ((Sy).task k) else 0) ≤
    (∑ k ∈ range (events rels H).length,
      if P ((Sy).task k) ∧ t ≤ (Sy).arr k ∧ (Sy).arr k < t + d then c ((Sy).task k) else 0) +
    ∑ x ∈ range (ch.length - 1),
      (if P (cAt ch (x + 1)) then c (cAt ch (x + 1)) else 0) * relCount rels (cAt ch 0) t d := by
  show (∑ k ∈ range ((events rels H).length + (ch.length - 1) * nSrc ch rels H), _) ≤ _
  rw [Finset.sum_range_add, sum_range_mul_split]
  apply Nat.add_le_add_left
  apply Finset.sum_le_sum
  intro x hx
  rw [Finset.mem_range] at hx
  refine stage_sum P c t d _ _ _ _ _ fun m hm => ?_
  have h := stage_facts (cbs := cbs) (sigma := sigma) hfin (show x + 1 < ch.length by omega) hm
  rw [Nat.add_assoc] at h
  exact h.2

end stageSums

section workBounds

theorem last_eq {l K : ℕ} (hK : ch.length = K + 2) (hlast : ch.getLast? = some l) :
    cAt ch (K + 1) = l := by
  rw [List.getLast?_eq_getElem?, hK] at hlast
  unfold cAt
  rw [List.getD_eq_getElem?_getD]
  have : K + 2 - 1 = K + 1 := by omega
  rw [this] at hlast
  rw [hlast]; rfl

theorem countOf_toSysC_le (hch : ch.Nodup) (hext : ∀ t, ∀ i ∈ rels t, i ∉ ch.tail)
    (hfin : ∀ t, H ≤ t → rels t = []) {l K : ℕ} (hK : ch.length = K + 2)
    (hlast : ch.getLast? = some l) (t d : ℕ) :
    countOf (Sy) l t (t + d) ≤ relCount rels (ch.headD 0) t d := by
  have hl := last_eq hK hlast
  have hlt : l ∈ ch.tail := mem_tail.2 ⟨K, by omega, hl.symm⟩
  unfold countOf
  rw [Finset.card_filter]
  refine Nat.le_trans (toSysC_sum_le (cbs := cbs) (sigma := sigma) hfin (fun i => i = l)
    (fun _ => 1) t d) ?_
  have h0 : (∑ k ∈ range (events rels H).length,
      if (Sy).task k = l ∧ t ≤ (Sy).arr k ∧ (Sy).arr k < t + d then 1 else 0) = 0 := by
    apply Finset.sum_eq_zero
    intro k hk
    rw [Finset.mem_range] at hk
    rw [if_neg]
    rintro ⟨h, _⟩
    have := ev_not_tail (H := H) hext hk
    rw [← (ext_facts (cbs := cbs) (ch := ch) (sigma := sigma) hk).1, h] at this
    exact this hlt
  rw [h0, Nat.zero_add, headD_eq]
  have hpt : ∀ x ∈ range (ch.length - 1),
      (if cAt ch (x + 1) = l then 1 else 0) * relCount rels (cAt ch 0) t d =
        if x = K then relCount rels (cAt ch 0) t d else 0 := by
    intro x hx
    rw [Finset.mem_range] at hx
    by_cases e : x = K
    · subst e; rw [if_pos hl, if_pos rfl, Nat.one_mul]
    · rw [if_neg e, if_neg, Nat.zero_mul]
      intro h
      rw [← hl] at h
      have := cAt_inj hch (by omega) (by omega) h
      omega
  rw [Finset.sum_congr rfl hpt, Finset.sum_ite_eq']
  split <;> omega

/-- the work of the other callbacks (chain prefix and callbacks outside the chain) released
in a window -/
theorem workOf_toSysC_le (hch : ch.Nodup) (hidx : ∀ t, ∀ i ∈ rels t, i < cbs.length)
    (hext : ∀ t, ∀ i ∈ rels t, i ∉ ch.tail)
    (hfin : ∀ t, H ≤ t → rels t = []) {l K : ℕ} (hK : ch.length = K + 2)
    (hlast : ch.getLast? = some l) (t d : ℕ) :
    workOf (Sy) (fun k => k ≠ l) t (t + d) ≤
      relCount rels (ch.headD 0) t d * (ch.dropLast.map fun i => (cbs.getD i default).cost).sum +
      (((List.range cbs.length).filter fun k => decide (k ∉ ch)).map fun k =>
        relCount rels k t d * (cbs.getD k default).cost).sum := by
  have hl := last_eq hK hlast
  have hlt : l ∈ ch.tail := mem_tail.2 ⟨K, by omega, hl.symm⟩
  have h0 : ch.headD 0 ∈ ch := by rw [headD_eq]; exact cAt_mem (by omega)
  refine Nat.le_trans (toSysC_sum_le (cbs := cbs) (sigma := sigma) hfin (fun i => i ≠ l)
    (fun i => (cbs.getD i default).cost) t d) ?_
  -- the external events
  have hev : (∑ k ∈ range (events rels H).length,
      if (Sy).task k ≠ l ∧ t ≤ (Sy).arr k ∧ (Sy).arr k < t + d
        then (cbs.getD ((Sy).task k) default).cost else 0) ≤
      relCount rels (ch.headD 0) t d * (cbs.getD (ch.headD 0) default).cost +
      (((List.range cbs.length).filter fun k => decide (k ∉ ch)).map fun k =>
        relCount rels k t d * (cbs.getD k default).cost).sum := by
    have hpt : ∀ k ∈ range (events rels H).length,
        (if (Sy).task k ≠ l ∧ t ≤ (Sy).arr k ∧ (Sy).arr k < t + d
          then (cbs.getD ((Sy).task k) default).cost else 0) =
        (if ((events rels H).getD k (0, 0)).2 = ch.headD 0 ∧ t ≤ ((events rels H).getD k (0, 0)).1 ∧
            ((events rels H).getD k (0, 0)).1 < t + d then 1 else 0) *
          (cbs.getD (ch.headD 0) default).cost +
        (if ((events rels H).getD k (0, 0)).2 ∉ ch ∧ t ≤ ((events rels H).getD k (0, 0)).1 ∧
            ((events rels H).getD k (0, 0)).1 < t + d
          then (cbs.getD ((events rels H).getD k (0, 0)).2 default).cost else 0) := by
      intro k hk
      rw [Finset.mem_range] at hk
      have hnt := ev_not_tail (H := H) hext hk
      obtain ⟨e1, e2⟩ := ext_facts (cbs := cbs) (ch := ch) (sigma := sigma) hk
      rw [e1, e2]
      generalize ((events rels H).getD k (0, 0)).2 = i at hnt
      generalize ((events rels H).getD k (0, 0)).1 = A
      have hil : i ≠ l := fun e => hnt (e ▸ hlt)
      by_cases hW : t ≤ A ∧ A < t + d
      · by_cases hi : i = ch.headD 0
        · rw [if_pos ⟨hil, hW⟩, if_pos ⟨hi, hW⟩, if_neg (fun h => h.1 (hi ▸ h0)), hi]; omega
        · have hic : i ∉ ch := fun h => by
            rcases mem_head_or_tail h with h | h
            · exact hi h
            · exact hnt h
          rw [if_pos ⟨hil, hW⟩, if_neg (fun h => hi h.1), if_pos ⟨hic, hW⟩]; omega
      · rw [if_neg (fun h => hW h.2), if_neg (fun h => hW h.2), if_neg (fun h => hW h.2)]; omega
    rw [Finset.sum_congr rfl hpt, Finset.sum_add_distrib, ← Finset.sum_mul]
    exact Nat.add_le_add
      (Nat.mul_le_mul_right _ (EndToEndLemmas.count_events_le rels H (ch.headD 0) t d))
      (EndToEndLemmas.work_events_le cbs rels H hidx (fun k => k ∉ ch) t d)
  -- the later stages
  have hst : ∑ x ∈ range (ch.length - 1),
      (if cAt ch (x + 1) ≠ l then (cbs.getD (cAt ch (x + 1)) default).cost else 0) *
        relCount rels (cAt ch 0) t d =
      relCount rels (ch.headD 0) t d *
        ∑ x ∈ range K, (cbs.getD (cAt ch (x + 1)) default).cost := by
    have e : ch.length - 1 = K + 1 := by omega
    rw [e, Finset.sum_range_succ, hl, if_neg (by simp), Nat.zero_mul, Nat.add_zero, headD_eq,
      Finset.mul_sum]
    apply Finset.sum_congr rfl
    intro x hx
    rw [Finset.mem_range] at hx
    rw [if_pos, Nat.mul_comm]
    intro h
    rw [← hl] at h
    have := cAt_inj hch (by omega) (by omega) h
    omega
  -- the prefix cost
  have hP : (ch.dropLast.map fun i => (cbs.getD i default).cost).sum =
      (cbs.getD (ch.headD 0) default).cost + ∑ x ∈ range K, (cbs.getD (cAt ch (x + 1)) default).cost := by
    rw [← EndToEndLemmas.sum_range_getD (fun i => (cbs.getD i default).cost) 0 ch.dropLast,
      List.length_dropLast]
    have e : ch.length - 1 = K + 1 := by omega
    rw [e, Finset.sum_range_succ', Nat.add_comm]
    have hget : ∀ x, x < K + 1 → ch.dropLast.getD x 0 = cAt ch x := by
      intro x hx
      unfold cAt
      rw [List.getD_eq_getElem?_getD, List.getD_eq_getElem?_getD, List.dropLast_eq_take,
        List.getElem?_take, if_pos (by omega)]
    congr 1
    · rw [hget 0 (by omega), headD_eq]
    · apply Finset.sum_congr rfl
      intro x hx
      rw [Finset.mem_range] at hx
      rw [hget (x + 1) (by omega)]
  rw [hst, hP, Nat.mul_add]
  omega

theorem dropLast_cost_pos {K : ℕ} (hK : ch.length = K + 2)
    (h0 : 1 ≤ (cbs.getD (ch.headD 0) default).cost) :
    1 ≤ (ch.dropLast.map fun i => (cbs.getD i default).cost).sum := by
  cases ch with
  | nil => simp at hK
  | cons a l =>
    cases l with
    | nil => simp at hK
    | cons b l' =>
      simp only [List.dropLast_cons_cons, List.map_cons, List.sum_cons]
      have : 1 ≤ (cbs.getD a default).cost := h0
      omega

end workBounds

end RTA.Exec.ChainEndToEndLemmas
