import RTA.Lemmas.ArrAll
import RTA.Lemmas.Demand
import RTA.Model.Analyses
/-! C11 for request bounds: `RequestBound::steps_iter` and `demand::step_offsets`. -/

namespace RTA

/-- every job has a positive cost: the cumulative cost strictly increases -/
def Cost.StrictPos (c : Cost) : Prop := ∀ n, c.ofJobs n < c.ofJobs (n + 1)

mutual
/-- request bounds whose `steps_iter` is exact: exact arrival models, positive job costs -/
def RB.Exact : RB → Prop
  | .rbf a c => a.Exact ∧ c.StrictPos
  | .agg rs => RB.ExactList rs
def RB.ExactList : List RB → Prop
  | [] => True
  | r :: rs => r.Exact ∧ RB.ExactList rs
end

mutual
/-- all arrival models inside are well-formed -/
def RB.ArrWF : RB → Prop
  | .rbf a _ => a.WF
  | .agg rs => RB.ArrWFList rs
def RB.ArrWFList : List RB → Prop
  | [] => True
  | r :: rs => r.ArrWF ∧ RB.ArrWFList rs
end

namespace RBStepsLemmas

theorem strictPos_lt (c : Cost) (h : c.StrictPos) (n m : Nat) (hnm : n < m) :
    c.ofJobs n < c.ofJobs m := by
  induction hnm with
  | refl => exact h n
  | step _ ih => exact Nat.lt_trans ih (h _)

theorem strictPos_mono (c : Cost) (h : c.StrictPos) : MonoN c.ofJobs := by
  intro a b hab
  rcases Nat.eq_or_lt_of_le hab with rfl | e
  · exact Nat.le_refl _
  · exact Nat.le_of_lt (strictPos_lt c h a b e)

theorem strictPos_lt_iff (c : Cost) (h : c.StrictPos) (n m : Nat) :
    c.ofJobs n < c.ofJobs m ↔ n < m :=
  ⟨fun hlt => Nat.lt_of_not_le fun hmn => Nat.not_le_of_lt hlt (strictPos_mono c h m n hmn),
    strictPos_lt c h n m⟩

theorem need_rbf_fun (a : Arr) (c : Cost) : (RB.rbf a c).need = fun d => c.ofJobs (a.N d) := by
  funext d; rw [RB.need]
theorem need_agg_fun (rs : List RB) : (RB.agg rs).need = RB.needList rs := by
  funext d; rw [RB.need]
theorem needList_nil_fun : RB.needList [] = fun _ => 0 := by
  funext d; rw [RB.needList]
theorem needList_cons_fun (r : RB) (rs : List RB) :
    RB.needList (r :: rs) = fun d => r.need d + RB.needList rs d := by
  funext d; rw [RB.needList]

/-- composing with a strictly increasing cost function keeps the step list -/
theorem stepsSpec_comp (c : Cost) (h : c.StrictPos) (N : Nat → Nat) (H : Nat) (l : List Nat)
    (hl : StepsSpec N H l) : StepsSpec (fun d => c.ofJobs (N d)) H l := by
  refine ⟨hl.1, fun δ => ?_⟩
  rw [hl.2 δ]
  show _ ↔ (1 ≤ δ ∧ δ ≤ H ∧ c.ofJobs (N (δ - 1)) < c.ofJobs (N δ))
  rw [strictPos_lt_iff c h]

theorem need_zero_joint : (∀ r : RB, r.need 0 = 0) ∧ ∀ rs, RB.needList rs 0 = 0 := by
  refine RB.induction (fun a c => ?_) (fun rs ih => ?_) rfl (fun r rs ihr ihrs => ?_)
  · rw [RB.need, Arr.N_zero a, Cost.ofJobs_zero]
  · rw [RB.need, ih]
  · rw [RB.needList, ihr, ihrs]

theorem needList_zero' : (rs : List RB) → RB.needList rs 0 = 0 := need_zero_joint.2

theorem need_mono_joint :
    (∀ r : RB, r.ArrWF → r.Exact → MonoN r.need) ∧
    ∀ rs, RB.ArrWFList rs → RB.ExactList rs → MonoN (RB.needList rs) := by
  refine RB.induction (fun a c hwf hex x y hxy => ?_) (fun rs ih hwf hex => ?_)
    (fun _ _ x y _ => Nat.le_refl _) (fun r rs ihr ihrs hwf hex x y hxy => ?_)
  · rw [RB.ArrWF] at hwf
    rw [RB.Exact] at hex
    rw [RB.need, RB.need]
    exact strictPos_mono c hex.2 _ _ (Arr.N_mono a hwf x y hxy)
  · rw [RB.ArrWF] at hwf
    rw [RB.Exact] at hex
    rw [need_agg_fun]
    exact ih hwf hex
  · rw [RB.ArrWFList] at hwf
    rw [RB.ExactList] at hex
    rw [RB.needList, RB.needList]
    exact Nat.add_le_add (ihr hwf.1 hex.1 x y hxy) (ihrs hwf.2 hex.2 x y hxy)

/-- C11 for request bounds: `steps_iter` (cut at any horizon) is strictly increasing,
every yielded `δ ≥ 1`, and `δ` is yielded iff `service_needed` increases at `δ`.  For a
component list: the k-way merge, before `dedup`, is sorted, free of 0 and has the right
members. -/
theorem steps_spec_joint :
    (∀ r : RB, r.ArrWF → r.Exact → ∀ H, StepsSpec r.need H (r.stepsUpTo H)) ∧
    ∀ rs, RB.ArrWFList rs → RB.ExactList rs → ∀ H,
      WSpec0 (RB.needList rs) H (RB.stepsList rs H) ∧ 0 ∉ RB.stepsList rs H := by
  refine RB.induction (fun a c hwf hex H => ?_) (fun rs ih hwf hex H => ?_)
    (fun _ _ H => ?_) (fun r rs ihr ihrs hwf hex H => ?_)
  · rw [RB.ArrWF] at hwf
    rw [RB.Exact] at hex
    rw [need_rbf_fun, RB.stepsUpTo]
    exact stepsSpec_comp c hex.2 a.N H _ (Arr.steps_spec a hwf hex.1 H)
  · rw [RB.ArrWF] at hwf
    rw [RB.Exact] at hex
    rw [need_agg_fun, RB.stepsUpTo]
    obtain ⟨h1, h0⟩ := ih hwf hex H
    exact StepsSpec.of_spec0 h1.dedup (fun h => h0 ((mem_dedup _ _).1 h))
  · rw [needList_nil_fun, RB.stepsList]
    exact ⟨WSpec0.nil H, List.not_mem_nil⟩
  · rw [RB.ArrWFList] at hwf
    rw [RB.ExactList] at hex
    have h1 := ihr hwf.1 hex.1 H
    obtain ⟨h2, h0⟩ := ihrs hwf.2 hex.2 H
    rw [needList_cons_fun, RB.stepsList]
    refine ⟨WSpec0.merge r.need (RB.needList rs) H _ _ (need_mono_joint.1 r hwf.1 hex.1)
      (need_mono_joint.2 rs hwf.2 hex.2) h1.toSpec0.toW h2, fun h => ?_⟩
    rcases (mem_merge _ _ _).1 h with h | h
    · exact h1.zero_not_mem h
    · exact h0 h

theorem stepsList_spec0' : (rs : List RB) → RB.ArrWFList rs → RB.ExactList rs → ∀ H,
    WSpec0 (RB.needList rs) H (RB.stepsList rs H) :=
  fun rs hwf hex H => (steps_spec_joint.2 rs hwf hex H).1

theorem zero_not_mem_stepsList' : (rs : List RB) → RB.ArrWFList rs → RB.ExactList rs → ∀ H,
    0 ∉ RB.stepsList rs H :=
  fun rs hwf hex H => (steps_spec_joint.2 rs hwf hex H).2

/-- `step_offsets` on an exact step list -/
theorem stepOffsetsBelow_spec (N : Nat → Nat) (L : Nat) (steps : List Nat)
    (hs : StepsSpec N L steps) :
    ∃ as, stepOffsetsBelow steps L = some as ∧ as.Pairwise (· < ·) ∧
      ∀ A, A ∈ as ↔ (A < L ∧ N A < N (A + 1)) := by
  have h0 : steps.any (fun x => decide (x = 0)) = false := by
    rw [List.any_eq_false]
    intro x hx
    have := (hs.2 x).1 hx
    simp only [decide_eq_true_eq]
    omega
  refine ⟨(steps.map (· - 1)).filter (· < L), ?_, ?_, ?_⟩
  · unfold stepOffsetsBelow
    rw [h0]; rfl
  · apply List.Pairwise.filter
    rw [List.pairwise_map]
    refine List.Pairwise.imp_of_mem ?_ hs.1
    intro a b ha hb hab
    have := (hs.2 a).1 ha
    have := (hs.2 b).1 hb
    omega
  · intro A
    rw [List.mem_filter, List.mem_map]
    constructor
    · rintro ⟨⟨δ, hδ, rfl⟩, _⟩
      have h := (hs.2 δ).1 hδ
      rw [Nat.sub_add_cancel h.1]
      exact ⟨Nat.lt_of_lt_of_le (Nat.sub_lt h.1 Nat.one_pos) h.2.1, h.2.2⟩
    · rintro ⟨hlt, hinc⟩
      refine ⟨⟨A + 1, ?_, Nat.add_sub_cancel A 1⟩, decide_eq_true hlt⟩
      rw [hs.2 (A + 1), Nat.add_sub_cancel]
      exact ⟨Nat.succ_pos A, hlt, hinc⟩

theorem head_zero_of_strict (as : List Nat) (hp : as.Pairwise (· < ·)) (h0 : 0 ∈ as) :
    ∃ rest, as = 0 :: rest := by
  cases as with
  | nil => cases h0
  | cons x rest =>
    rcases List.mem_cons.1 h0 with h0 | h0
    · exact ⟨rest, by rw [← h0]⟩
    · exact absurd ((List.pairwise_cons.1 hp).1 0 h0) (Nat.not_lt_zero x)

end RBStepsLemmas

open RBStepsLemmas

theorem Cost.scalar_strictPos (c : Nat) (hc : 1 ≤ c) : (Cost.scalar c).StrictPos := by
  intro n
  show c * n < c * (n + 1)
  rw [Nat.mul_succ]
  omega

/-- `service_needed(0) = 0` -/
theorem RB.need_zero (r : RB) : r.need 0 = 0 := RBStepsLemmas.need_zero_joint.1 r

/-- `service_needed` is non-decreasing: under `r.Exact` every job costs something, so
`cost_of_jobs` increases strictly (`Cost.WF` is not assumed) -/
theorem RB.need_mono (r : RB) (hwf : r.ArrWF) (hex : r.Exact) : MonoN r.need :=
  RBStepsLemmas.need_mono_joint.1 r hwf hex

theorem RB.steps_spec (r : RB) (hwf : r.ArrWF) (hex : r.Exact) (H : Nat) :
    StepsSpec r.need H (r.stepsUpTo H) :=
  RBStepsLemmas.steps_spec_joint.1 r hwf hex H

/-- `demand::step_offsets` never underflows on exact request bounds and yields exactly
the offsets `A < L` with `service_needed(A) < service_needed(A + 1)` -/
theorem RB.offsetsBelow_spec (r : RB) (hwf : r.ArrWF) (hex : r.Exact) (L : Nat) :
    ∃ as, r.offsetsBelow L = some as ∧ as.Pairwise (· < ·) ∧
      ∀ A, A ∈ as ↔ (A < L ∧ r.need A < r.need (A + 1)) :=
  stepOffsetsBelow_spec r.need L _ (RB.steps_spec r hwf hex L)

end RTA
