import RTA.Lemmas.FpSoundEq
import RTA.Lemmas.FifoSound
/-! C01 from the task set (`FpEqSetting.of_compliant`): the workload hypotheses of `FpEqSetting`
follow from compliance of the job set with the task set (`Compliant`), with the interference set
the crate's documentation asks for (all other tasks of higher or equal priority).  Kept as
hypotheses on the job system: `JlfpLegal`, the blocking bound `hblock`, positive job costs
`hpos`. -/

open Finset Classical

namespace RTA.Sched
open RTA RTA.Spec RTA.Sched.J

/-- request bound of task `x` of the task set -/
def taskRB (ts : List (Arr × Cost)) (x : ℕ) : RB :=
  .rbf (ts.getD x default).1 (ts.getD x default).2

/-- the interference set the crate's documentation asks for: all OTHER tasks of higher or
equal priority, in index order -/
def hepOthers (ts : List (Arr × Cost)) (pr : ℕ → ℕ) (i : ℕ) : List RB :=
  ((List.range ts.length).filter (fun x => decide (pr x ≤ pr i ∧ x ≠ i))).map (taskRB ts)

open FifoSoundLemmas

namespace FpSoundCompliantLemmas

theorem taskRB_eq (ts : List (Arr × Cost)) (x : ℕ) (hx : x < ts.length) :
    taskRB ts x = .rbf (ts[x]).1 (ts[x]).2 := by
  unfold taskRB
  simp [List.getD_eq_getElem?_getD, List.getElem?_eq_getElem hx]

theorem sum_range_ite_eq_sumList (n : ℕ) (p : ℕ → Prop) [DecidablePred p] (f : ℕ → ℕ) :
    (∑ k ∈ range n, if p k then f k else 0)
      = sumList (((List.range n).filter (fun k => decide (p k))).map f) := by
  rw [RTA.sumList_eq_sum]
  exact sum_range_ite_eq_list n p f

theorem sumNeed_hepOthers (ts : List (Arr × Cost)) (pr : ℕ → ℕ) (i d : ℕ) :
    sumNeed (hepOthers ts pr i) d
      = ∑ x ∈ range ts.length, if (pr x ≤ pr i ∧ x ≠ i) then (taskRB ts x).need d else 0 := by
  unfold sumNeed hepOthers
  rw [List.map_map]
  exact (sum_range_ite_eq_sumList ts.length (fun x => pr x ≤ pr i ∧ x ≠ i)
    (fun x => (taskRB ts x).need d)).symm

theorem task_work_le_taskRB (s : Sys) (ts : List (Arr × Cost))
    (hwf : ∀ p ∈ ts, p.1.WF ∧ p.2.WF) (hc : Compliant s ts) (x : ℕ) (hx : x < ts.length)
    (t d : ℕ) : workOf s (fun y => y = x) t (t + d) ≤ (taskRB ts x).need d := by
  rw [taskRB_eq ts x hx]
  have hmem : ts[x] ∈ ts := List.getElem_mem hx
  simp only [RB.need]
  exact task_work_le s x _ _ (hwf _ hmem).1 (hwf _ hmem).2 (hc.comp x hx) t d

theorem taskRB_arrWF (ts : List (Arr × Cost)) (hwf : ∀ p ∈ ts, p.1.WF ∧ p.2.WF)
    (x : ℕ) (hx : x < ts.length) : (taskRB ts x).ArrWF := by
  rw [taskRB_eq ts x hx]
  simp only [RB.ArrWF]
  exact (hwf _ (List.getElem_mem hx)).1

theorem othersOK_hepOthers (ts : List (Arr × Cost)) (pr : ℕ → ℕ) (i : ℕ)
    (hwf : ∀ p ∈ ts, p.1.WF ∧ p.2.WF)
    (hex : ∀ x, x < ts.length → pr x ≤ pr i → x ≠ i → (taskRB ts x).Exact) :
    OthersOK (hepOthers ts pr i) := by
  intro o ho
  unfold hepOthers at ho
  obtain ⟨x, hx, rfl⟩ := List.mem_map.1 ho
  obtain ⟨hx1, hx2⟩ := List.mem_filter.1 hx
  have hx' : x < ts.length := List.mem_range.1 hx1
  have hp : pr x ≤ pr i ∧ x ≠ i := of_decide_eq_true hx2
  exact ⟨taskRB_arrWF ts hwf x hx', hex x hx' hp.1 hp.2⟩

/-- a count is the workload of the same jobs at unit cost -/
theorem cntOf_eq_cnt (s : Sys) (i t d : ℕ) :
    cntOf s (fun x => x = i) t (t + d) = cnt (relsOf s i) t d := by
  have h := workOf_const { s with cost := fun _ => 1 } i 1 t d (fun _ _ _ => rfl)
  rw [Nat.one_mul, show relsOf { s with cost := fun _ => 1 } i = relsOf s i from rfl] at h
  rw [← h]
  unfold cntOf workOf
  refine sum_congr rfl (fun k _ => ?_)
  split_ifs <;> rfl

theorem task_cnt_le (s : Sys) (i : ℕ) (a : Arr) (c : Cost) (hwf : a.WF)
    (h : TaskCompliant s i a c) (t d : ℕ) :
    cntOf s (fun x => x = i) t (t + d) ≤ a.N d := by
  rw [cntOf_eq_cnt]
  exact Arr.bounds a hwf _ h.adm t d

theorem job_cost_le (s : Sys) (i : ℕ) (a : Arr) (C : ℕ)
    (h : TaskCompliant s i a (.scalar C)) (j : ℕ) (hj : j < s.n) (hji : s.task j = i) :
    s.cost j ≤ C := by
  have hmem : j ∈ (List.range s.n).filter (fun k => decide (s.task k = i)) := by
    rw [List.mem_filter]
    exact ⟨List.mem_range.2 hj, by simp [hji]⟩
  obtain ⟨st, hst, hget⟩ := List.mem_iff_getElem.1 hmem
  have h1 := h.costs st 1
  have hlen : st < (costsOf s i).length := by
    unfold costsOf; rw [List.length_map]; exact hst
  have e : runSum (costsOf s i) st 1 = s.cost j := by
    unfold runSum
    rw [List.drop_eq_getElem_cons hlen]
    simp only [List.take_succ_cons, List.take_zero, List.sum_cons, List.sum_nil, Nat.add_zero]
    simp only [costsOf, List.getElem_map, hget]
  rw [e] at h1
  simpa [Cost.ofJobs] using h1

theorem scalar_task (s : Sys) (ts : List (Arr × Cost)) (i : ℕ) (hi : i < ts.length) (a : Arr)
    (C : ℕ) (hts : ts[i] = (a, .scalar C)) (hwf : ∀ p ∈ ts, p.1.WF ∧ p.2.WF)
    (hc : Compliant s ts) :
    taskRB ts i = .rbf a (.scalar C) ∧ a.WF ∧
      (∀ t d, cntOf s (fun x => x = i) t (t + d) ≤ a.N d) ∧
      ∀ j, j < s.n → s.task j = i → s.cost j ≤ C := by
  have hcomp : TaskCompliant s i a (.scalar C) := by
    have := hc.comp i hi
    rwa [hts] at this
  have hawf : a.WF := by
    have := (hwf _ (List.getElem_mem hi)).1
    rwa [hts] at this
  exact ⟨by rw [taskRB_eq ts i hi, hts], hawf, task_cnt_le s i a _ hawf hcomp,
    job_cost_le s i a C hcomp⟩

theorem no_np_run {s : Sys} (hnp : ∀ l x, ¬ s.np l x) {l x len B : ℕ}
    (h : ∀ k, k < len → s.np l (x + k)) : len ≤ B := by
  rcases Nat.eq_zero_or_pos len with h0 | h0
  · omega
  · exact absurd (h 0 h0) (hnp l (x + 0))

end FpSoundCompliantLemmas
open FpSoundCompliantLemmas

theorem FpEqSetting.of_compliant (s : Sys) (ts : List (Arr × Cost)) (pr : ℕ → ℕ) (i : ℕ)
    (hi : i < ts.length)
    (hwf : ∀ p ∈ ts, p.1.WF ∧ p.2.WF) (hc : Compliant s ts)
    (hl : JlfpLegal s (hepFPe s pr)) (B : ℕ)
    (hblock : ∀ l, l < s.n → pr i < pr (s.task l) → ∀ x len,
      (∀ k, k < len → s.np l (x + k)) → len ≤ B)
    (hpos : ∀ k, k < s.n → 1 ≤ s.cost k) :
    FpEqSetting s pr i (taskRB ts i) (hepOthers ts pr i) B where
  legal := hl
  w_tua := fun t d => task_work_le_taskRB s ts hwf hc i hi t d
  w_hep := by
    intro t d
    rw [workOf_eq_sum_ite s ts.length _ (fun k hk _ => hc.task_lt k hk), sumNeed_hepOthers]
    apply Finset.sum_le_sum
    intro x hx
    have hx' : x < ts.length := mem_range.1 hx
    by_cases h : pr x ≤ pr i ∧ x ≠ i
    · rw [if_pos h, if_pos h]
      exact task_work_le_taskRB s ts hwf hc x hx' t d
    · rw [if_neg h, if_neg h]
  blocking := hblock
  cost_pos := hpos

end RTA.Sched
