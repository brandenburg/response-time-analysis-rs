import RTA.Lemmas.PollingExec
/-! C05, round-robin-aware analysis (`rr::rta_subchain`, singleton subchains): soundness over
the schedule-level Spec of the ROS 2 executor with polling points (`PollingExecLegal`).

Theorem (`rr_singleton_sound`): let `rtb` be the assumed response-time bounds in the
workload; if for EVERY callback the singleton analysis returns `Ok(R)` with `R ≤ rtb`
(the vector reproduces itself, as obtained by iterating the analysis), then every instance of
every callback completes within `rtb` of its release — for every supply process that delivers
at least the supply-bound function in every window. -/

open Finset

namespace RTA.Sched
open RTA RTA.Spec

namespace RrSoundLemmas
open Classical TimerSoundLemmas

variable {s : Sys} {σ : ℕ → Bool} {E : ExecInfo}

variable {nT : ℕ} {kind : ℕ → CbKind} {N : ℕ → ℕ → ℕ} {C rtb : ℕ → ℕ} {J : ℕ}

theorem p_atmost_one (hl : PollingExecLegal s σ E) (t k1 k2 : ℕ) (h1 : k1 < s.n) (h2 : k2 < s.n)
    (a1 : SI s k1 t) (a2 : SI s k2 t) : k1 = k2 := atmost_one (toTimer hl 0) t k1 k2 h1 h2 a1 a2

theorem ppIn_skip (x0 a y : ℕ) (hno : ∀ v, x0 < v → v ≤ a → E.pp v = false) :
    (ppIn E (x0 + 1) y).card ≤ (ppIn E a y).card := by
  refine ppIn_subset _ _ _ _ (fun v hv1 hv2 hv3 => ⟨Nat.le_of_not_lt (fun h => ?_), hv2⟩)
  have := hno v hv1 (Nat.le_of_lt h)
  rw [hv3] at this
  cases this

theorem StSet_split (c x y z : ℕ) : StSet s c x z ⊆ StSet s c x y ∪ StSet s c y z := by
  intro K hK
  rw [mem_union, mem_StSet, mem_StSet]
  rw [mem_StSet] at hK
  rcases Nat.eq_zero_or_pos (svc s K y) with h | h
  · exact Or.inr ⟨hK.1, hK.2.1, h, hK.2.2.2⟩
  · exact Or.inl ⟨hK.1, hK.2.1, hK.2.2.1, h⟩

theorem starts_le_pp (hl : PollingExecLegal s σ E) (c : ℕ) (hc : E.isTimer c = false) (x : ℕ) :
    ∀ y, (StSet s c x y).card ≤ (ppIn E (x + 1) y).card + 1 := by
  intro y
  induction y using Nat.strongRecOn with
  | _ y ih =>
    rcases Nat.eq_zero_or_pos (ppIn E (x + 1) y).card with h0 | hpos
    · rw [h0]
      apply one_per_window hl c x y hc
      intro v h1 h2
      cases hp : E.pp v with
      | false => rfl
      | true =>
        exfalso
        have : v ∈ ppIn E (x + 1) y := by rw [mem_ppIn]; exact ⟨h2, h1, hp⟩
        have := card_pos.2 ⟨v, this⟩
        omega
    · obtain ⟨q, h1, h2, h3, h4⟩ := ppIn_last (x + 1) y hpos
      have ha := card_le_card (StSet_split (s := s) c x q y)
      have hb := card_union_le (StSet s c x q) (StSet s c q y)
      have hc1 := ih q h2
      have hc2 := one_per_window hl c q y hc h4
      have hc3 := ppIn_card_succ (E := E) (x + 1) q y h1 h2 h3
      omega

/-- the start `x0` of the callback running at `a` (or `a` itself): no polling point in
`(x0, a]`, and every job incomplete at `a` is unstarted at `x0` -/
theorem exists_x0 (hl : PollingExecLegal s σ E) (a : ℕ) :
    ∃ x0, x0 ≤ a ∧ (∀ v, x0 < v → v ≤ a → E.pp v = false) ∧
      ∀ K, K < s.n → svc s K a < s.cost K → svc s K x0 = 0 := by
  by_cases h : ∃ K0, K0 < s.n ∧ SI s K0 a
  · obtain ⟨K0, hK0, hsi⟩ := h
    obtain ⟨u0, hu0, hs0, hz0⟩ := exists_start (s := s) K0 a hsi.1
    refine ⟨u0, by omega, ?_, ?_⟩
    · intro v h1 h2
      cases hp : E.pp v with
      | false => rfl
      | true =>
        exfalso
        have h3 := startsAt_svc K0 u0 v ⟨hs0, hz0⟩ h1
        have h4 := svc_mono (s := s) K0 h2
        have := hsi.2
        rcases hl.ppIdle v hp K0 hK0 with h | h <;> omega
    · intro K hK hlt
      rcases Nat.eq_zero_or_pos (svc s K a) with h | h
      · have := svc_mono (s := s) K (show u0 ≤ a by omega); omega
      · have := p_atmost_one hl a K K0 hK hK0 ⟨h, hlt⟩ hsi
        rw [this]; exact hz0
  · refine ⟨a, le_refl _, fun v h1 h2 => by omega, ?_⟩
    intro K hK hlt
    rcases Nat.eq_zero_or_pos (svc s K a) with h' | h'
    · exact h'
    · exact absurd ⟨K, hK, h', hlt⟩ h

theorem ActSet_sub_StSet (hl : PollingExecLegal s σ E) (c a T x0 : ℕ)
    (hx0 : ∀ K, K < s.n → svc s K a < s.cost K → svc s K x0 = 0) :
    ActSet s J c a T ⊆ StSet s c x0 T := by
  intro K hK
  rw [mem_ActSet] at hK
  rw [mem_StSet]
  have := hl.servesPending.svc_le_cost K T
  exact ⟨hK.1, hK.2.2.1, hx0 K hK.1 (by omega), by omega⟩

/-- a polled callback is served at most once per window -/
theorem act_polled (hl : PollingExecLegal s σ E) (c a T : ℕ) (hc : E.isTimer c = false) :
    (ActSet s J c a T).card ≤ (ppIn E a T).card + 1 := by
  obtain ⟨x0, h1, h2, h3⟩ := exists_x0 hl a
  have ha := card_le_card (ActSet_sub_StSet (J := J) hl c a T x0 h3)
  have hb := starts_le_pp hl c hc x0 T
  have hc' := ppIn_skip (E := E) x0 a T h2
  omega

/-- while a timer instance waits, no polled callback is started -/
theorem act_timer (hl : PollingExecLegal s σ E) (hJ : J < s.n) (hc0 : 1 ≤ s.cost J) (c T : ℕ)
    (hc : E.isTimer c = false) (hi : E.isTimer (s.task J) = true) (hT0 : svc s J T = 0) :
    (ActSet s J c (s.arr J) T).card ≤ 1 := by
  have key : ∀ K, K ∈ ActSet s J c (s.arr J) T → SI s K (s.arr J) := by
    intro K hK
    rw [mem_ActSet] at hK
    have hle := hl.servesPending.svc_le_cost K T
    refine ⟨?_, by omega⟩
    rcases Nat.eq_zero_or_pos (svc s K (s.arr J)) with h | h
    · exfalso
      obtain ⟨u, hu1, hu2, hst⟩ := start_in K (s.arr J) T h (by omega)
      have hJu : svc s J u = 0 := by
        have := svc_mono (s := s) J (show u ≤ T by omega); omega
      exact hl.timersFirst u K hst (by rw [hK.2.2.1]; exact hc) J hJ hi ⟨hu1, by omega⟩
    · exact h
  apply card_le_one.2
  intro K hK K' hK'
  have h1 := key K hK
  have h2 := key K' hK'
  rw [mem_ActSet] at hK hK'
  exact p_atmost_one hl _ K K' hK.1 hK'.1 h1 h2

theorem act_lowprio (A : Ana s σ E nT kind N C) (jc : JobCtx s rtb J) (c T : ℕ)
    (hpol : E.isTimer (s.task J) = false) (hc : E.isTimer c = false)
    (hpr : E.prio (s.task J) < E.prio c) (hT : s.arr J ≤ T) (hT0 : svc s J T = 0) :
    (ActSet s J c (s.arr J) T).card ≤ N (s.task J) (rtb (s.task J)) := by
  have hl := A.hl
  have how := own_window A jc T hT0
  obtain ⟨len, rfl⟩ := Nat.exists_eq_add_of_le hT
  rcases pp_chain hl J jc.hJ hpol len hT0 with h | ⟨q, h1, h2, h3, h4, h5⟩
  · have := act_polled (J := J) hl c (s.arr J) (s.arr J + len) hc
    omega
  · obtain ⟨x0, hx1, hx2, hx3⟩ := exists_x0 hl (s.arr J)
    have ha := card_le_card (ActSet_sub_StSet (J := J) hl c (s.arr J) (s.arr J + len) x0 hx3)
    have hb := card_le_card (StSet_split (s := s) c x0 q (s.arr J + len))
    have hb' := card_union_le (StSet s c x0 q) (StSet s c q (s.arr J + len))
    have hc1 := starts_le_pp hl c hc x0 q
    have hc2 := ppIn_skip (E := E) x0 (s.arr J) q hx2
    have hc3 := ppIn_card_succ (E := E) (s.arr J) q (s.arr J + len) h1 h2 h3
    have hd := one_per_window hl c q (s.arr J + len) hc h4
    have hmono := card_le_card (StSet_mono (s := s) (s.task J) (s.arr J) q (s.arr J + len)
      (Nat.le_of_lt h2))
    rcases Nat.eq_zero_or_pos (StSet s c q (s.arr J + len)).card with h0 | hpos
    · omega
    · obtain ⟨K, hK⟩ := card_pos.1 hpos
      rw [mem_StSet] at hK
      obtain ⟨t, ht1, ht2, hst⟩ := start_in K q (s.arr J + len) hK.2.2.1 hK.2.2.2
      have hlp : LastPP E q t := ⟨h3, ht1, fun v a b => h4 v a (Nat.lt_of_le_of_lt b ht2)⟩
      have hJq : svc s J q = 0 := Nat.le_zero.1 (hT0 ▸ svc_mono J (Nat.le_of_lt h2))
      obtain ⟨k', u, hk', hkt, hu1, hu2, hst'⟩ :=
        hl.prioWin q t K J hlp hst (by rw [hK.2.1]; exact hc) jc.hJ hpol
          (by rw [hK.2.1]; exact hpr) h1 hJq
      have := StSet_card_start (s.task J) (s.arr J) q (s.arr J + len) k' u hk' hkt hst' h1 hu1
        (Nat.lt_trans hu2 ht2)
      omega

theorem act_window (A : Ana s σ E nT kind N C) (jc : JobCtx s rtb J) (c S T K : ℕ)
    (hT : T ≤ s.arr J + S) (hK : K ∈ ActSet s J c (s.arr J) T) :
    s.arr J + 1 - rtb c ≤ s.arr K ∧ s.arr K < s.arr J + S := by
  rw [mem_ActSet] at hK
  obtain ⟨hKn, _, hKc, hlt⟩ := hK
  constructor
  · rcases Nat.lt_or_ge (s.arr J) (s.arr K + rtb c) with h | h
    · omega
    · have := jc.old K hKn (by rw [hKc]; exact h)
      have := A.hl.servesPending.svc_le_cost K T
      omega
  · rcases Nat.lt_or_ge (s.arr K) T with h | h
    · omega
    · have := A.hl.servesPending.svc_zero_before K T h
      omega

theorem act_arrived (A : Ana s σ E nT kind N C) (jc : JobCtx s rtb J) (c S T : ℕ)
    (hT : T ≤ s.arr J + S) :
    (ActSet s J c (s.arr J) T).card ≤ N c (S + rtb c - 1) :=
  act_card_le A c (s.arr J) T (s.arr J + 1 - rtb c) (s.arr J + S) _ (by omega)
    (fun K hK => act_window A jc c S T K hT hK)

theorem act_arrived_own (A : Ana s σ E nT kind N C) (jc : JobCtx s rtb J) (S T : ℕ)
    (hS : 1 ≤ S) (hT : T ≤ s.arr J + S) :
    (ActSet s J (s.task J) (s.arr J) T).card + 1 ≤ N (s.task J) (S + rtb (s.task J) - 1) :=
  act_own_card_le A jc.hJ (s.arr J) T (s.arr J + 1 - rtb (s.task J)) (s.arr J + S) _ (by omega)
    ⟨by have := jc.hrtb; omega, by omega⟩ (fun K hK => act_window A jc _ S T K hT hK)

/-- the cap of the analysis on the interfering instances of callback `c` -/
theorem act_cap (A : Ana s σ E nT kind N C) (jc : JobCtx s rtb J) (c S T : ℕ) (hc : c < nT)
    (hci : c ≠ s.task J) (hT : s.arr J ≤ T) (hTS : T ≤ s.arr J + S) (hT0 : svc s J T = 0) :
    (ActSet s J c (s.arr J) T).card ≤
      cappedJobs (kind c) (kind (s.task J)) (N c (S + rtb c - 1)) (N (s.task J) (rtb (s.task J))) := by
  have hl := A.hl
  have hi := A.htask J jc.hJ
  have harr := act_arrived A jc c S T hTS
  have how := own_window A jc T hT0
  have gen : E.isTimer c = false →
      (ActSet s J c (s.arr J) T).card ≤ N (s.task J) (rtb (s.task J)) + 1 := by
    intro hcp
    cases hti : E.isTimer (s.task J) with
    | false =>
      have h1 := act_polled (J := J) hl c (s.arr J) T hcp
      have h2 := pp_le_starts hl jc.hJ hti T hT hT0
      omega
    | true =>
      have := act_timer hl jc.hJ (A.hcost J jc.hJ).1 c T hcp hti hT0
      omega
  have hkc := A.hkinds c hc
  have hki := A.hkinds (s.task J) hi
  cases hk : kind c with
  | timer => exact harr
  | eventSource => rw [hk] at hkc; exact hkc.elim
  | polledUnknown =>
    rw [hk] at hkc
    simp only [cappedJobs]
    exact Nat.le_min.2 ⟨harr, gen hkc⟩
  | polled p =>
    rw [hk] at hkc
    have hkc' : E.isTimer c = false ∧ E.prio c = p := hkc
    cases hk' : kind (s.task J) with
    | polled q =>
      rw [hk'] at hki
      have hki' : E.isTimer (s.task J) = false ∧ E.prio (s.task J) = q := hki
      simp only [cappedJobs]
      by_cases hpq : p < q
      · rw [if_pos hpq]
        exact Nat.le_min.2 ⟨harr, gen hkc'.1⟩
      · rw [if_neg hpq]
        have hne : E.prio (s.task J) ≠ E.prio c := fun h =>
          hci (A.hprio _ _ hi hc hki'.1 hkc'.1 h).symm
        have := act_lowprio A jc c T hki'.1 hkc'.1 (by omega) hT hT0
        exact Nat.le_min.2 ⟨harr, by omega⟩
    | timer => simp only [cappedJobs]; exact Nat.le_min.2 ⟨harr, gen hkc'.1⟩
    | eventSource => simp only [cappedJobs]; exact Nat.le_min.2 ⟨harr, gen hkc'.1⟩
    | polledUnknown => simp only [cappedJobs]; exact Nat.le_min.2 ⟨harr, gen hkc'.1⟩

/-- the interference term of the analysis for callback `i` at `S` -/
noncomputable def interf (nT : ℕ) (kind : ℕ → CbKind) (N : ℕ → ℕ → ℕ) (C rtb : ℕ → ℕ) (i S : ℕ) : ℕ :=
  ∑ c ∈ range nT, if c = i then C c * (N c (S + rtb c - 1) - 1)
    else C c * cappedJobs (kind c) (kind i) (N c (S + rtb c - 1)) (N i (rtb i))

theorem others_bound (A : Ana s σ E nT kind N C) (jc : JobCtx s rtb J) (S T : ℕ) (hS : 1 ≤ S)
    (hT : s.arr J ≤ T) (hTS : T ≤ s.arr J + S) (hT0 : svc s J T = 0) :
    sv s (fun K => K ≠ J) T ≤ sv s (fun K => K ≠ J) (s.arr J) + interf nT kind N C rtb (s.task J) S := by
  refine Nat.le_trans (sv_diff_le A (s.arr J) T hT) (Nat.add_le_add_left ?_ _)
  unfold interf
  refine sum_le_sum (fun c hc => ?_)
  by_cases hci : c = s.task J
  · rw [if_pos hci]
    apply Nat.mul_le_mul_left
    have := act_arrived_own A jc S T hS hTS
    rw [hci]
    omega
  · rw [if_neg hci]
    exact Nat.mul_le_mul_left _ (act_cap A jc c S T (mem_range.1 hc) hci hT hTS hT0)

theorem job_done (A : Ana s σ E nT kind N C) (jc : JobCtx s rtb J) (sbf : ℕ → ℕ)
    (hsbf : ∀ t d, sbf d ≤ service σ t d) (S R : ℕ) (hS : 1 ≤ S)
    (hW : 1 + interf nT kind N C rtb (s.task J) S ≤ sbf S)
    (hR : sbf S - 1 + C (s.task J) ≤ sbf R) : svc s J (s.arr J + R) = s.cost J :=
  window_job_done A.hl sbf hsbf J (s.arr J) S R _ _ jc.hJ (A.hcost J jc.hJ).2
    (A.hl.servesPending.svc_zero_before J _ (le_refl _))
    (fun u h1 h2 h3 => A.hl.wc u h2 ⟨J, jc.hJ, h1, h3⟩)
    (fun T h1 h2 h3 => others_bound A jc S T hS h1 h2 h3) hW hR

theorem all_done (A : Ana s σ E nT kind N C) (sbf : ℕ → ℕ)
    (hsbf : ∀ t d, sbf d ≤ service σ t d) (hsbf0 : sbf 0 = 0)
    (hana : ∀ i, i < nT → ∃ S R, 1 ≤ S ∧ 1 + interf nT kind N C rtb i S ≤ sbf S ∧
      sbf S - 1 + C i ≤ sbf R ∧ R ≤ rtb i) :
    ∀ j, j < s.n → svc s j (s.arr j + rtb (s.task j)) = s.cost j := by
  refine all_done_of A.hl.servesPending rtb (fun j hj jc => ?_)
  obtain ⟨S, R, hS, hW, hR, hle⟩ := hana (s.task j) (A.htask j hj)
  have hcj := A.hcost j hj
  have hRpos : 1 ≤ R := by
    rcases Nat.eq_zero_or_pos R with h | h
    · rw [h, hsbf0] at hR; omega
    · exact h
  exact A.hl.servesPending.done_mono j (by omega)
    (job_done A (jc (by omega)) sbf hsbf S R hS hW hR)

/-- what `rr::rta_subchain = Ok(R)` provides for a singleton subchain -/
theorem rr_extract (sup : Supply) (hs : sup.WF) (wl : List Callback) (C : ℕ → ℕ)
    (hscalar : ∀ i, i < wl.length → (wl.getD i default).cost = .scalar (C i))
    (hwf : ∀ cb ∈ wl, cb.arr.WF) (i : ℕ) (hi : i < wl.length) (limit R : ℕ)
    (h : rrSubchain sup wl [i] limit = .ok R) :
    ∃ S, 1 ≤ S ∧
      1 + interf wl.length (fun c => (wl.getD c default).kind) (fun c d => (wl.getD c default).arr.N d)
        C (fun c => (wl.getD c default).rtb) i S ≤ sup.sbf S ∧
      sup.sbf S - 1 + C i ≤ sup.sbf R := by
  have hlim : 1 ≤ limit := by
    rcases Nat.eq_zero_or_pos limit with h0 | h'
    · subst h0
      exfalso
      unfold rrSubchain at h
      simp [hi, search, searchWithOffset_limit_zero] at h
    · exact h'
  rw [rr_eq_naive sup hs wl [i] limit hlim (by simpa using hi)
    (fun cb hcb => ⟨hwf cb hcb, monoN_of_scalar wl C hscalar cb hcb⟩)] at h
  unfold naiveRr at h
  simp only [List.getLast?_singleton] at h
  rw [sumPPBound_singleton] at h
  rcases RosNaiveLemmas.nss_cases sup.sbf 0
      (rrRhs wl i ((wl.getD i default).arr.N (wl.getD i default).rtb)) limit with ⟨S, hS⟩ | hS
  · rw [hS] at h
    simp only [] at h
    injection h with h
    have hrhs : ∀ x, rrRhs wl i ((wl.getD i default).arr.N (wl.getD i default).rtb) x =
        1 + interf wl.length (fun c => (wl.getD c default).kind)
          (fun c d => (wl.getD c default).arr.N d) C (fun c => (wl.getD c default).rtb) i x := by
      intro x
      unfold rrRhs interf
      simp only []
      rw [sumList_range, hscalar i hi, Nat.add_assoc, sum_ite_split _ _ hi]
      congr 1
      refine sum_congr rfl (fun c hc => ?_)
      by_cases hci : c = i
      · rw [if_pos hci, if_pos hci, hci]
        rfl
      · rw [if_neg hci, if_neg hci]
        unfold Callback.directRbf
        simp only []
        rw [hscalar c (mem_range.1 hc)]
        rfl
    obtain ⟨hSpos, hS'⟩ := SupplyFifoLemmas.nss_ok_pos sup hs _ limit S
      (by rw [hrhs]; exact Nat.le_add_right _ _) hS
    rw [hrhs] at hS'
    refine ⟨S, hSpos, hS', ?_⟩
    rw [RosNaiveLemmas.naiveSt_eq sup hs] at h
    have hg := (Supply.galois sup hs _ R).1 (le_of_eq h)
    rw [hscalar i hi] at hg
    rw [scalar_ofJobs_succ_sub] at hg
    exact hg
  · rw [hS] at h
    cases h

end RrSoundLemmas

theorem rr_singleton_sound (s : Sys) (σ : ℕ → Bool) (E : ExecInfo) (hl : PollingExecLegal s σ E)
    (sup : Supply) (hs : sup.WF) (hsbf : ∀ t d, sup.sbf d ≤ service σ t d)
    (wl : List Callback) (C : ℕ → ℕ)
    (hscalar : ∀ i, i < wl.length → (wl.getD i default).cost = .scalar (C i))
    (hwf : ∀ cb ∈ wl, cb.arr.WF)
    (htask : ∀ k, k < s.n → s.task k < wl.length)
    (hkinds : KindsAgree wl E)
    (hprio : ∀ i j, i < wl.length → j < wl.length → E.isTimer i = false → E.isTimer j = false →
      E.prio i = E.prio j → i = j)
    (hN : ∀ i t d, countOf s i t (t + d) ≤ (wl.getD i default).arr.N d)
    (hcost : ∀ k, k < s.n → 1 ≤ s.cost k ∧ s.cost k ≤ C (s.task k))
    (limit : ℕ)
    (hself : ∀ i, i < wl.length → ∃ R, rrSubchain sup wl [i] limit = .ok R ∧ R ≤ (wl.getD i default).rtb) :
    ∀ j, j < s.n → MeetsBound s j (wl.getD (s.task j) default).rtb := by
  intro j hj
  have A := RrSoundLemmas.ana_of_workload hl wl C hwf htask hkinds hprio hN hcost
  exact RrSoundLemmas.all_done (rtb := fun c => (wl.getD c default).rtb) A sup.sbf hsbf
    (Supply.sbf_zero sup hs) (by
      intro i hi
      obtain ⟨R, hR, hle⟩ := hself i hi
      obtain ⟨S, h1, h2, h3⟩ := RrSoundLemmas.rr_extract sup hs wl C hscalar hwf i hi limit R hR
      exact ⟨S, R, h1, h2, h3, hle⟩) j hj

end RTA.Sched
