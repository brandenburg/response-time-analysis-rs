import RTA.Spec.NaiveRos
import RTA.Lemmas.Supply
import RTA.Lemmas.Steps
/-! C06/C07/C17, shared part.

The order on results and least solutions.  Every naive analysis has the shape "least solution
`m` of an outer inequality, then the maximum over a list of offsets (depending on `m`) of
per-offset results", the per-offset results being least solutions followed by some arithmetic.
Comparing two such evaluations (two systems, or a pruned and a full search space) needs three
facts: least solutions are monotone in the inequality they solve (`nss_leD`), `naiveMax` is
monotone under domination of the entries (`naiveMax_leD`), sequencing preserves the order
(`leD_bind`).

The iterative search is the linear-scan least solution, on every well-formed supply and at every
offset within the busy window, for `1 ≤ limit` (`searchWithOffset_eq_naive`; `naiveSolve` is the
case of a dedicated processor and offset 0).
Combining per-offset results over a pruned search space equals combining them over every
offset when the pruned space dominates (`naiveMax_pruned_first`). -/

namespace RTA
open RTA.Spec

/-- every `ok` is below every divergence error, a divergence error below itself only -/
def Res.le : Res → Res → Prop
  | .ok a, .ok b => a ≤ b
  | .ok _, .div _ _ => True
  | .div o l, .div o' l' => o = o' ∧ l = l'
  | _, _ => False

/-- `Res.le` with all divergence errors identified -/
def Res.leD : Res → Res → Prop
  | .ok a, .ok b => a ≤ b
  | .ok _, .div _ _ => True
  | .div _ _, .div _ _ => True
  | _, _ => False

def Res.bind (r : Res) (k : Nat → Res) : Res :=
  match r with
  | .ok v => k v
  | e => e

theorem Res.leD_trans {a b c : Res} (h1 : Res.leD a b) (h2 : Res.leD b c) : Res.leD a c := by
  cases a <;> cases b <;> cases c <;> simp only [Res.leD] at h1 h2 ⊢
  omega

namespace PruneCoreLemmas

theorem leD_div_of_ne_panic (x : Res) (o l : Nat) (h : x ≠ .panic) : Res.leD x (.div o l) := by
  cases x with
  | ok v => exact trivial
  | div a b => exact trivial
  | panic => exact absurd rfl h

theorem leD_ok_right (x : Res) (b : Nat) (h : Res.leD x (.ok b)) : ∃ a, x = .ok a ∧ a ≤ b := by
  cases x with
  | ok v => exact ⟨v, rfl, h⟩
  | div a b => exact h.elim
  | panic => exact h.elim

theorem leD_ne_panic {x y : Res} (h : Res.leD x y) : x ≠ .panic ∧ y ≠ .panic := by
  cases x <;> cases y <;> first | exact h.elim | exact ⟨Res.noConfusion, Res.noConfusion⟩

theorem leD_of_le {x y : Res} (h : Res.le x y) : Res.leD x y := by
  cases x <;> cases y <;> first | exact h | exact trivial

theorem le_of_leD {x y : Res} {o l : Nat} (h : Res.leD x y)
    (hx : (∃ v, x = .ok v) ∨ x = .div o l) (hy : (∃ v, y = .ok v) ∨ y = .div o l) :
    Res.le x y := by
  rcases hx with ⟨v, rfl⟩ | rfl <;> rcases hy with ⟨v', rfl⟩ | rfl
  · exact h
  · exact trivial
  · exact h.elim
  · exact ⟨rfl, rfl⟩

theorem limit_pos_of_ok (f : Nat → Res) {o l limit R : Nat} (h0 : f 0 = .div o l)
    (h : f limit = .ok R) : 1 ≤ limit :=
  Nat.pos_of_ne_zero fun e => by rw [e, h0] at h; cases h

theorem bind_eq_ok (r : Res) (k : Nat → Res) (R : Nat) :
    r.bind k = .ok R ↔ ∃ v, r = .ok v ∧ k v = .ok R := by
  cases r with
  | ok v => exact ⟨fun h => ⟨v, rfl, h⟩, fun ⟨_, e, h⟩ => (by cases e; exact h)⟩
  | div o l => exact ⟨fun h => (by cases h), fun ⟨_, e, _⟩ => (by cases e)⟩
  | panic => exact ⟨fun h => (by cases h), fun ⟨_, e, _⟩ => (by cases e)⟩

theorem bind_ne_panic (r : Res) (k : Nat → Res) (hr : r ≠ .panic) (hk : ∀ v, k v ≠ .panic) :
    r.bind k ≠ .panic := by
  cases r with
  | ok v => exact hk v
  | div o l => exact Res.noConfusion
  | panic => exact absurd rfl hr

theorem bind_cases (r : Res) (k : Nat → Res) (o l : Nat) (hr : (∃ v, r = .ok v) ∨ r = .div o l)
    (hk : ∀ v, (∃ w, k v = .ok w) ∨ k v = .div o l) :
    (∃ w, r.bind k = .ok w) ∨ r.bind k = .div o l := by
  rcases hr with ⟨v, rfl⟩ | rfl
  · exact hk v
  · exact Or.inr rfl

/-- sequencing preserves the order: the continuations are compared at the values the two
first stages actually return -/
theorem leD_bind (r r' : Res) (k k' : Nat → Res) (hr : Res.leD r r') (hnp : ∀ v, k v ≠ .panic)
    (hk : ∀ v v', r = .ok v → r' = .ok v' → v ≤ v' → Res.leD (k v) (k' v')) :
    Res.leD (r.bind k) (r'.bind k') := by
  cases r' with
  | ok v' =>
    obtain ⟨v, rfl, hv⟩ := leD_ok_right r v' hr
    exact hk v v' rfl rfl hv
  | div o l => exact leD_div_of_ne_panic _ o l (bind_ne_panic r k (leD_ne_panic hr).1 hnp)
  | panic => exact absurd rfl (leD_ne_panic hr).2

end PruneCoreLemmas
open PruneCoreLemmas

theorem scanLeast_spec (P : Nat → Bool) (limit : Nat) :
    (∀ r, scanLeast P limit = some r ↔ (r ≤ limit ∧ P r = true ∧ ∀ r', r' < r → P r' = false)) ∧
    (scanLeast P limit = none ↔ ∀ r, r ≤ limit → P r = false) := by
  unfold scanLeast
  constructor
  · intro r
    rw [List.find?_range_eq_some]
    simp only [List.mem_range, Bool.not_eq_true']
    constructor
    · rintro ⟨a, b, c⟩; exact ⟨by omega, a, c⟩
    · rintro ⟨a, b, c⟩; exact ⟨b, by omega, c⟩
  · rw [List.find?_range_eq_none]
    simp only [Bool.not_eq_true']
    constructor
    · intro h r hr; exact h r (by omega)
    · intro h r hr; exact h r (by omega)

namespace RosNaiveLemmas

theorem nss_cases (sbf : Nat → Nat) (off : Nat) (w : Nat → Nat) (limit : Nat) :
    (∃ r, naiveSolveSup sbf off w limit = .ok r) ∨ naiveSolveSup sbf off w limit = .div off limit := by
  unfold naiveSolveSup
  cases h : scanLeast (fun r => decide (w (max r 1) ≤ sbf (off + r))) limit with
  | none => right; rfl
  | some r0 => left; exact ⟨r0, rfl⟩

theorem nss_ok_iff (sbf : Nat → Nat) (off : Nat) (w : Nat → Nat) (limit r : Nat) :
    naiveSolveSup sbf off w limit = .ok r ↔
      (r ≤ limit ∧ w (max r 1) ≤ sbf (off + r) ∧ ∀ r', r' < r → ¬ w (max r' 1) ≤ sbf (off + r')) := by
  have hs := scanLeast_spec (fun r => decide (w (max r 1) ≤ sbf (off + r))) limit
  have hr := hs.1 r
  simp only [decide_eq_true_eq, decide_eq_false_iff_not] at hr
  rw [← hr]
  unfold naiveSolveSup
  cases h : scanLeast (fun r => decide (w (max r 1) ≤ sbf (off + r))) limit with
  | none => simp
  | some r0 => simp

theorem nss_div_iff (sbf : Nat → Nat) (off : Nat) (w : Nat → Nat) (limit : Nat) :
    naiveSolveSup sbf off w limit = .div off limit ↔
      ∀ r, r ≤ limit → ¬ w (max r 1) ≤ sbf (off + r) := by
  have hs := scanLeast_spec (fun r => decide (w (max r 1) ≤ sbf (off + r))) limit
  unfold naiveSolveSup
  cases h : scanLeast (fun r => decide (w (max r 1) ≤ sbf (off + r))) limit with
  | none =>
    simp only [true_iff]
    intro r hr
    have := hs.2.1 h r hr
    simpa using this
  | some r0 =>
    have := (hs.1 r0).1 h
    simp only [reduceCtorEq, false_iff]
    intro hall
    have h2 := this.2.1
    simp only [decide_eq_true_eq] at h2
    exact hall r0 this.1 h2

theorem nss_ne_panic (sbf : Nat → Nat) (off : Nat) (w : Nat → Nat) (limit : Nat) :
    naiveSolveSup sbf off w limit ≠ .panic := by
  rcases nss_cases sbf off w limit with ⟨r, h⟩ | h <;> rw [h] <;> intro h' <;> cases h'

/-- every solution of the primed inequality yields a solution of the unprimed one that is
not larger: then the least solutions compare -/
theorem nss_leD (sbf sbf' : Nat → Nat) (off off' : Nat) (w w' : Nat → Nat) (limit : Nat)
    (h : ∀ r', w' (max r' 1) ≤ sbf' (off' + r') → ∃ r, r ≤ r' ∧ w (max r 1) ≤ sbf (off + r)) :
    Res.leD (naiveSolveSup sbf off w limit) (naiveSolveSup sbf' off' w' limit) := by
  rcases nss_cases sbf' off' w' limit with ⟨b, hb⟩ | hb
  · rw [hb]
    rw [nss_ok_iff] at hb
    obtain ⟨r, hrb, hr⟩ := h b hb.2.1
    rcases nss_cases sbf off w limit with ⟨a, ha⟩ | ha
    · rw [ha]
      rw [nss_ok_iff] at ha
      show a ≤ b
      rcases Nat.lt_or_ge r a with hlt | hge
      · exact absurd hr (ha.2.2 r hlt)
      · omega
    · rw [nss_div_iff] at ha
      exact absurd hr (ha r (by omega))
  · rw [hb]
    exact leD_div_of_ne_panic _ _ _ (nss_ne_panic _ _ _ _)

theorem nss_leD_same (sbf sbf' : Nat → Nat) (off : Nat) (w w' : Nat → Nat) (limit : Nat)
    (hsbf : ∀ t, sbf' t ≤ sbf t) (hw : ∀ x, w x ≤ w' x) :
    Res.leD (naiveSolveSup sbf off w limit) (naiveSolveSup sbf' off w' limit) :=
  nss_leD sbf sbf' off off w w' limit fun r hr =>
    ⟨r, Nat.le_refl r, Nat.le_trans (hw _) (Nat.le_trans hr (hsbf _))⟩

/-- for one supply and one offset the carried divergence errors agree as well -/
theorem nss_mono (sbf : Nat → Nat) (off : Nat) (w w' : Nat → Nat) (limit : Nat)
    (h : ∀ x, w x ≤ w' x) :
    Res.le (naiveSolveSup sbf off w limit) (naiveSolveSup sbf off w' limit) :=
  le_of_leD (nss_leD_same sbf sbf off w w' limit (fun _ => Nat.le_refl _) h)
    (nss_cases sbf off w limit) (nss_cases sbf off w' limit)

end RosNaiveLemmas
open RosNaiveLemmas

/-- the supply-aware iterative search is the linear-scan least solution -/
theorem searchWithOffset_eq_naive (s : Supply) (hs : s.WF) (w : Nat → Nat) (hw : Mono w) (off limit : Nat)
    (hl : 1 ≤ limit) (hoff : InBusyWindow s.stClosed w off) :
    searchWithOffset s off limit w = naiveSolveSup s.sbf off w limit := by
  rcases s.search_spec hs w hw off limit hoff with ⟨r, h, hsol, hleast, hle⟩ | ⟨h, hnone⟩
  · rw [h, eq_comm, nss_ok_iff]
    exact ⟨hle, hsol, fun r' hlt hs' => absurd (hleast r' hs') (Nat.not_le_of_lt hlt)⟩
  · rw [h, eq_comm, nss_div_iff]
    intro r hr hs'
    have := hnone r hs'
    omega

namespace PruneCoreLemmas

/-- a dedicated processor serves `t` within `t` -/
theorem naiveSolve_eq_sup (w : Nat → Nat) (limit : Nat) :
    naiveSolve w limit = naiveSolveSup (fun t => t) 0 w limit := by
  unfold naiveSolve naiveSolveSup
  simp only [Nat.zero_add]
  rfl

theorem naiveSolve_div_iff (w : Nat → Nat) (limit : Nat) :
    naiveSolve w limit = .div 0 limit ↔ ∀ r, r ≤ limit → ¬ w (max r 1) ≤ r := by
  rw [naiveSolve_eq_sup, nss_div_iff]
  simp only [Nat.zero_add]

theorem firstErr_ok (g : Nat → Nat) (l : List Nat) :
    firstErr (l.map fun A => Res.ok (g A)) = none := by
  induction l with
  | nil => rfl
  | cons a as ih => simpa only [List.map_cons, firstErr] using ih

theorem maxOk_ok (g : Nat → Nat) (l : List Nat) :
    maxOk (l.map fun A => Res.ok (g A)) = maxList (l.map g) := by
  induction l with
  | nil => rfl
  | cons a as ih => simp only [List.map_cons, maxOk, maxList, ih]

theorem maxResponseTime_ok (g : Nat → Nat) (l : List Nat) :
    maxResponseTime (l.map fun A => Res.ok (g A)) = .ok (maxList (l.map g)) := by
  rw [maxResponseTime_spec, firstErr_ok, maxOk_ok]
  intro x hx
  rcases List.mem_map.1 hx with ⟨a, _, rfl⟩
  intro h; cases h

theorem firstErr_ne_panic (rs : List Res) (e : Res) (h : firstErr rs = some e) : e ≠ .panic := by
  induction rs with
  | nil => simp [firstErr] at h
  | cons x xs ih =>
    cases x with
    | ok a => simp only [firstErr] at h; exact ih h
    | panic => simp only [firstErr] at h; exact ih h
    | div o l => simp only [firstErr] at h; injection h with h; subst h; intro h; cases h

theorem maxResponseTime_ne_panic (rs : List Res) (hnp : ∀ x ∈ rs, x ≠ .panic) :
    maxResponseTime rs ≠ .panic := by
  rw [maxResponseTime_spec rs hnp]
  cases h : firstErr rs with
  | none => intro h; cases h
  | some e => exact firstErr_ne_panic rs e h

theorem find_eq_firstErr (p : Res → Bool) (hp_ok : ∀ v, p (.ok v) = false)
    (hp_div : ∀ o l, p (.div o l) = true) (rs : List Res) (hnp : ∀ x ∈ rs, x ≠ .panic) :
    rs.find? p = firstErr rs := by
  induction rs with
  | nil => rfl
  | cons x xs ih =>
    have hxs : ∀ y ∈ xs, y ≠ .panic := fun y hy => hnp y (by simp [hy])
    cases x with
    | panic => exact absurd rfl (hnp .panic (by simp))
    | div o l => simp only [List.find?_cons, hp_div, firstErr]
    | ok v => simp only [List.find?_cons, hp_ok, firstErr]; exact ih hxs

theorem maxList_eq_maxOk (g : Res → Nat) (hg : ∀ v, g (.ok v) = v) (rs : List Res)
    (hnp : ∀ x ∈ rs, x ≠ .panic) (hne : firstErr rs = none) :
    maxList (rs.map g) = maxOk rs := by
  induction rs with
  | nil => rfl
  | cons x xs ih =>
    have hxs : ∀ y ∈ xs, y ≠ .panic := fun y hy => hnp y (by simp [hy])
    cases x with
    | panic => exact absurd rfl (hnp .panic (by simp))
    | div o l => simp [firstErr] at hne
    | ok v =>
      simp only [firstErr] at hne
      simp only [List.map_cons, maxList, maxOk, hg, ih hxs hne]

theorem pick_eq_spec (p : Res → Bool) (hp_ok : ∀ v, p (.ok v) = false)
    (hp_div : ∀ o l, p (.div o l) = true) (g : Res → Nat) (hg : ∀ v, g (.ok v) = v)
    (rs : List Res) (hnp : ∀ x ∈ rs, x ≠ .panic) :
    (if rs.any p then (rs.find? p).getD .panic else .ok (maxList (rs.map g))) =
      match firstErr rs with
      | some e => e
      | none => .ok (maxOk rs) := by
  have hf := find_eq_firstErr p hp_ok hp_div rs hnp
  cases h : firstErr rs with
  | none =>
    rw [h] at hf
    have hany : rs.any p = false := by
      rw [List.any_eq_false]
      rw [List.find?_eq_none] at hf
      exact hf
    rw [hany, maxList_eq_maxOk g hg rs hnp h]
    rfl
  | some e =>
    rw [h] at hf
    have hany : rs.any p = true := by
      rw [List.any_eq_true]
      exact ⟨e, List.mem_of_find?_eq_some hf, List.find?_some hf⟩
    rw [hany, hf]
    rfl

theorem maxResponseTime_eq_naiveMax (rs : List Res) (hnp : ∀ x ∈ rs, x ≠ .panic) :
    maxResponseTime rs = naiveMax rs := by
  rw [maxResponseTime_spec rs hnp]
  unfold naiveMax
  exact (pick_eq_spec _ (fun _ => rfl) (fun _ _ => rfl) _ (fun _ => rfl) rs hnp).symm

theorem naiveMax_ok (g : Nat → Nat) (l : List Nat) :
    naiveMax (l.map fun A => Res.ok (g A)) = .ok (maxList (l.map g)) := by
  rw [← maxResponseTime_eq_naiveMax, maxResponseTime_ok]
  intro x hx
  rcases List.mem_map.1 hx with ⟨a, _, rfl⟩
  exact Res.noConfusion

theorem maxList_eq_zero_or_mem (l : List Nat) : maxList l = 0 ∨ maxList l ∈ l := by
  induction l with
  | nil => exact Or.inl rfl
  | cons a as ih =>
    simp only [maxList, List.mem_cons]
    rcases Nat.le_total a (maxList as) with h | h
    · rw [Nat.max_eq_right h]
      exact ih.imp id Or.inr
    · rw [Nat.max_eq_left h]
      exact Or.inr (Or.inl rfl)

theorem pick_eq_ok (p : Res → Bool) (hp_ok : ∀ v, p (.ok v) = false) (X : Res) (rs : List Res)
    (R : Nat) (h : (if rs.any p then (rs.find? p).getD .panic else X) = .ok R) :
    rs.any p = false ∧ X = .ok R := by
  cases hany : rs.any p with
  | false => rw [hany] at h; exact ⟨rfl, h⟩
  | true =>
    rw [if_pos hany] at h
    obtain ⟨x, hx, hpx⟩ := List.any_eq_true.1 hany
    cases hf : rs.find? p with
    | none => exact absurd hpx (List.find?_eq_none.1 hf x hx)
    | some y =>
      rw [hf] at h
      have hy : y = .ok R := h
      have hpy := List.find?_some hf
      rw [hy, hp_ok] at hpy
      cases hpy

theorem naiveMax_ok_elim (rs : List Res) (R : Nat) (h : naiveMax rs = .ok R) :
    (∀ x ∈ rs, ∃ v, x = .ok v ∧ v ≤ R) ∧ (R = 0 ∨ .ok R ∈ rs) := by
  unfold naiveMax at h
  obtain ⟨hany, hR⟩ := pick_eq_ok _ (fun _ => rfl) _ rs R h
  injection hR with hR
  have hok : ∀ x ∈ rs, ∃ v, x = .ok v := by
    intro x hx
    have hpx := List.any_eq_false.1 hany x hx
    cases x with
    | ok v => exact ⟨v, rfl⟩
    | div o l => exact absurd rfl hpx
    | panic => exact absurd rfl hpx
  subst hR
  constructor
  · intro x hx
    obtain ⟨v, rfl⟩ := hok x hx
    exact ⟨v, rfl, le_maxList_of_mem _ v (List.mem_map.2 ⟨_, hx, rfl⟩)⟩
  · refine (maxList_eq_zero_or_mem _).imp id fun hm => ?_
    obtain ⟨x, hx, hxv⟩ := List.mem_map.1 hm
    obtain ⟨v, rfl⟩ := hok x hx
    rw [← hxv]; exact hx

theorem naiveMax_map (f : Nat → Res) (l : List Nat) :
    (∃ g : Nat → Nat, (∀ A ∈ l, f A = .ok (g A)) ∧ naiveMax (l.map f) = .ok (maxList (l.map g))) ∨
    (∃ A ∈ l, naiveMax (l.map f) = f A ∧ ∀ v, f A ≠ .ok v) := by
  by_cases hall : ∀ A ∈ l, ∃ v, f A = .ok v
  · left
    refine ⟨fun A => match f A with | .ok v => v | _ => 0, ?_, ?_⟩
    · intro A hA
      obtain ⟨v, hv⟩ := hall A hA
      show f A = .ok (match f A with | .ok v => v | _ => 0)
      rw [hv]
    · have e : l.map f = l.map fun A => Res.ok (match f A with | .ok v => v | _ => 0) := by
        apply List.map_congr_left
        intro A hA
        obtain ⟨v, hv⟩ := hall A hA
        rw [hv]
      rw [e, naiveMax_ok]
  · right
    have key : ∃ y ∈ l.map f, naiveMax (l.map f) = y ∧ ∀ v, y ≠ .ok v := by
      unfold naiveMax
      split
      · rename_i hany
        cases hf : (l.map f).find? (fun r => match r with | .ok _ => false | _ => true) with
        | none =>
          rw [List.any_eq_true] at hany
          obtain ⟨x, hx, hpx⟩ := hany
          rw [List.find?_eq_none] at hf
          exact absurd hpx (hf x hx)
        | some y =>
          refine ⟨y, List.mem_of_find?_eq_some hf, rfl, ?_⟩
          intro v hv
          have hp := List.find?_some hf
          rw [hv] at hp
          cases hp
      · rename_i hany
        exfalso
        apply hall
        intro A hA
        cases hfA : f A with
        | ok v => exact ⟨v, rfl⟩
        | div o lim =>
          exact absurd (List.any_eq_true.2 ⟨f A, List.mem_map.2 ⟨A, hA, rfl⟩, by rw [hfA]⟩) hany
        | panic =>
          exact absurd (List.any_eq_true.2 ⟨f A, List.mem_map.2 ⟨A, hA, rfl⟩, by rw [hfA]⟩) hany
    obtain ⟨y, hy, e, hno⟩ := key
    obtain ⟨A, hA, rfl⟩ := List.mem_map.1 hy
    exact ⟨A, hA, e, hno⟩

theorem naiveMax_eq_ok (f : Nat → Res) (l : List Nat) (R : Nat) :
    naiveMax (l.map f) = .ok R ↔
      ∃ g : Nat → Nat, (∀ A ∈ l, f A = .ok (g A)) ∧ R = maxList (l.map g) := by
  constructor
  · intro h
    rcases naiveMax_map f l with ⟨g, hg, e⟩ | ⟨A, _, e, hno⟩
    · rw [e] at h
      injection h with h
      exact ⟨g, hg, h.symm⟩
    · exact absurd (e ▸ h) (hno R)
  · rintro ⟨g, hg, rfl⟩
    rw [List.map_congr_left hg, naiveMax_ok]

theorem naiveMax_ne_panic (f : Nat → Res) (l : List Nat) (h : ∀ A ∈ l, f A ≠ .panic) :
    naiveMax (l.map f) ≠ .panic := by
  rcases naiveMax_map f l with ⟨g, _, e⟩ | ⟨A, hA, e, _⟩
  · rw [e]; exact Res.noConfusion
  · rw [e]; exact h A hA

theorem naiveMax_cases (f : Nat → Res) (l : List Nat) (o lim : Nat)
    (hall : ∀ A ∈ l, (∃ v, f A = .ok v) ∨ f A = .div o lim) :
    (∃ v, naiveMax (l.map f) = .ok v) ∨ naiveMax (l.map f) = .div o lim := by
  rcases naiveMax_map f l with ⟨g, _, e⟩ | ⟨A, hA, e, hno⟩
  · exact Or.inl ⟨_, e⟩
  · rcases hall A hA with ⟨v, hv⟩ | hd
    · exact absurd hv (hno v)
    · exact Or.inr (e.trans hd)

theorem naiveMax_leD (f f' : Nat → Res) (l l' : List Nat) (hnp' : ∀ A ∈ l', f' A ≠ .panic)
    (hdom : ∀ A ∈ l, ∃ A' ∈ l', Res.leD (f A) (f' A')) :
    Res.leD (naiveMax (l.map f)) (naiveMax (l'.map f')) := by
  have hn : naiveMax (l.map f) ≠ .panic := by
    apply naiveMax_ne_panic
    intro A hA
    obtain ⟨A', _, hle⟩ := hdom A hA
    exact (leD_ne_panic hle).1
  rcases naiveMax_map f' l' with ⟨g', hg', e'⟩ | ⟨A', hA', e', hno'⟩
  · have hok : ∀ A ∈ l, ∃ A' ∈ l', ∃ v, f A = .ok v ∧ v ≤ g' A' := by
      intro A hA
      obtain ⟨A', hA', hle⟩ := hdom A hA
      rw [hg' A' hA'] at hle
      exact ⟨A', hA', leD_ok_right _ _ hle⟩
    rcases naiveMax_map f l with ⟨g, hg, e⟩ | ⟨A, hA, _, hno⟩
    · rw [e, e']
      show maxList _ ≤ maxList _
      apply (maxList_le_iff _ _).2
      intro x hx
      obtain ⟨A, hA, rfl⟩ := List.mem_map.1 hx
      obtain ⟨A', hA', v, hv, hle⟩ := hok A hA
      rw [hg A hA] at hv
      injection hv with hv
      rw [hv]
      exact Nat.le_trans hle (le_maxList_of_mem _ _ (List.mem_map.2 ⟨A', hA', rfl⟩))
    · obtain ⟨_, _, v, hv, _⟩ := hok A hA
      exact absurd hv (hno v)
  · rw [e']
    cases hfA' : f' A' with
    | ok v => exact absurd hfA' (hno' v)
    | div o lim => exact leD_div_of_ne_panic _ _ _ hn
    | panic => exact absurd hfA' (hnp' A' hA')

/-- the scheme "outer least solution, then maximum over offsets": every offset examined by the first
analysis is dominated by one examined by the second -/
theorem scheme_leD (r r' : Res) (offs offs' : Nat → List Nat) (f f' : Nat → Res)
    (hr : Res.leD r r') (hnp : ∀ A, f A ≠ .panic) (hnp' : ∀ A, f' A ≠ .panic)
    (hdom : ∀ m m', r = .ok m → r' = .ok m' → m ≤ m' →
      ∀ A ∈ offs m, ∃ A' ∈ offs' m', Res.leD (f A) (f' A')) :
    Res.leD (r.bind fun m => naiveMax ((offs m).map f))
      (r'.bind fun m => naiveMax ((offs' m).map f')) :=
  leD_bind r r' _ _ hr (fun _ => naiveMax_ne_panic f _ (fun A _ => hnp A))
    (fun m m' hm hm' hle => naiveMax_leD f f' _ _ (fun A _ => hnp' A) (hdom m m' hm hm' hle))

theorem scheme_ne_panic (r : Res) (offs : Nat → List Nat) (f : Nat → Res) (hr : r ≠ .panic)
    (hnp : ∀ A, f A ≠ .panic) : (r.bind fun m => naiveMax ((offs m).map f)) ≠ .panic :=
  bind_ne_panic r _ hr (fun _ => naiveMax_ne_panic f _ (fun A _ => hnp A))

theorem scheme_cases (r : Res) (offs : Nat → List Nat) (f : Nat → Res) (o l : Nat)
    (hr : (∃ v, r = .ok v) ∨ r = .div o l) (hf : ∀ A, (∃ v, f A = .ok v) ∨ f A = .div o l) :
    (∃ v, (r.bind fun m => naiveMax ((offs m).map f)) = .ok v) ∨
      (r.bind fun m => naiveMax ((offs m).map f)) = .div o l :=
  bind_cases r _ o l hr (fun _ => naiveMax_cases f _ o l (fun A _ => hf A))

theorem scheme_ok_stable (r r' : Res) (offs : Nat → List Nat) (f f' : Nat → Res) (R : Nat)
    (hr : ∀ m, r = .ok m → r' = .ok m) (hf : ∀ A v, f A = .ok v → f' A = .ok v)
    (h : (r.bind fun m => naiveMax ((offs m).map f)) = .ok R) :
    (r'.bind fun m => naiveMax ((offs m).map f')) = .ok R := by
  rw [bind_eq_ok] at h ⊢
  obtain ⟨m, hm, hR⟩ := h
  refine ⟨m, hr m hm, ?_⟩
  rw [naiveMax_eq_ok] at hR ⊢
  obtain ⟨g, hg, e⟩ := hR
  exact ⟨g, fun A hA => hf A _ (hg A hA), e⟩

end PruneCoreLemmas
open PruneCoreLemmas

theorem naiveSolve_ok_iff (w : Nat → Nat) (limit r : Nat) :
    naiveSolve w limit = .ok r ↔ (r ≤ limit ∧ w (max r 1) ≤ r ∧ ∀ r', r' < r → ¬ w (max r' 1) ≤ r') := by
  rw [naiveSolve_eq_sup, nss_ok_iff]
  simp only [Nat.zero_add]

theorem naiveSolve_cases (w : Nat → Nat) (limit : Nat) :
    (∃ r, naiveSolve w limit = .ok r) ∨ naiveSolve w limit = .div 0 limit := by
  rw [naiveSolve_eq_sup]
  exact nss_cases _ 0 w limit

/-- `1 ≤ limit`: with `limit = 0` the search always diverges (K4) -/
theorem search_dedicated_eq_naive (w : Nat → Nat) (hw : Mono w) (limit : Nat) (hl : 1 ≤ limit) :
    search .dedicated limit w = naiveSolve w limit := by
  rw [naiveSolve_eq_sup]
  exact searchWithOffset_eq_naive .dedicated trivial w hw 0 limit hl (fun _ _ => Nat.zero_le _)

theorem naiveSolve_mono (w w' : Nat → Nat) (limit : Nat) (h : ∀ x, w x ≤ w' x) :
    Res.le (naiveSolve w limit) (naiveSolve w' limit) := by
  rw [naiveSolve_eq_sup, naiveSolve_eq_sup]
  exact nss_mono _ 0 w w' limit h

/-- the per-offset step of the FP and EDF evaluators (least `AF`, then `AF - A + rem`): a larger
right-hand side, a smaller offset, a larger remainder -/
theorem PruneCoreLemmas.perOffset_leD (w w' : Nat → Nat) (limit A A' rem rem' : Nat)
    (hw : ∀ x, w x ≤ w' x) (hA : A' ≤ A) (hrem : rem ≤ rem') :
    Res.leD ((naiveSolve w limit).bind fun AF => .ok (AF - A + rem))
      ((naiveSolve w' limit).bind fun AF => .ok (AF - A' + rem')) :=
  leD_bind _ _ _ _ (leD_of_le (naiveSolve_mono w w' limit hw)) (fun _ => Res.noConfusion)
    (fun v v' _ _ h => show v - A + rem ≤ v' - A' + rem' by omega)

theorem naiveSolve_below (w : Nat → Nat) (limit L : Nat) (h : naiveSolve w limit = .ok L) (x : Nat)
    (h1 : 1 ≤ x) (hx : x < L) : x < w x := by
  rw [naiveSolve_ok_iff] at h
  have := h.2.2 x hx
  have e : max x 1 = x := by omega
  rw [e] at this
  omega

namespace PruneCoreLemmas

theorem exists_least (P : Nat → Prop) (n : Nat) (h : P n) : ∃ m, P m ∧ ∀ k, k < m → ¬ P k := by
  induction n using Nat.strongRecOn with
  | _ n ih =>
    by_cases hex : ∃ k, k < n ∧ P k
    · obtain ⟨k, hk, hpk⟩ := hex; exact ih k hk hpk
    · exact ⟨n, h, fun k hk hp => hex ⟨k, hk, hp⟩⟩

theorem find_sorted (p : Res → Bool) (f : Nat → Res) (S : List Nat) (hs : S.Pairwise (· < ·))
    (A0 : Nat) (h0 : A0 ∈ S) (hp : p (f A0) = true) (hlt : ∀ A ∈ S, A < A0 → p (f A) = false) :
    (S.map f).find? p = some (f A0) := by
  induction S with
  | nil => cases h0
  | cons a as ih =>
    rw [List.pairwise_cons] at hs
    rw [List.map_cons, List.find?_cons]
    rcases List.mem_cons.1 h0 with e | hmem
    · subst e; rw [hp]
    · have : a < A0 := hs.1 A0 hmem
      rw [hlt a (by simp) this]
      exact ih hs.2 hmem (fun A hA => hlt A (by simp [hA]))

theorem pick_first (p : Res → Bool) (X : Res) (f : Nat → Res) (S : List Nat) (hs : S.Pairwise (· < ·))
    (A0 : Nat) (h0 : A0 ∈ S) (hp : p (f A0) = true) (hlt : ∀ A ∈ S, A < A0 → p (f A) = false) :
    (if (S.map f).any p then ((S.map f).find? p).getD .panic else X) = f A0 := by
  have hany : (S.map f).any p = true := by
    rw [List.any_eq_true]
    exact ⟨f A0, List.mem_map.2 ⟨A0, h0, rfl⟩, hp⟩
  rw [if_pos hany, find_sorted p f S hs A0 h0 hp hlt]
  rfl

theorem naiveMax_first (f : Nat → Res) (S : List Nat) (hs : S.Pairwise (· < ·))
    (A0 : Nat) (h0 : A0 ∈ S) (hbad : ¬ ∃ v, f A0 = .ok v)
    (hlt : ∀ A ∈ S, A < A0 → ∃ v, f A = .ok v) :
    naiveMax (S.map f) = f A0 := by
  unfold naiveMax
  apply pick_first _ _ f S hs A0 h0
  · cases h : f A0 with
    | ok v => exact absurd ⟨v, h⟩ hbad
    | div o l => rfl
    | panic => rfl
  · intro A hA hlt'
    obtain ⟨v, hv⟩ := hlt A hA hlt'
    rw [hv]

theorem maxList_pruned (g : Nat → Nat) (L : Nat) (S : List Nat) (hS : ∀ A ∈ S, A < L)
    (hdom : ∀ A, A < L → g A = 0 ∨ ∃ A' ∈ S, g A ≤ g A') :
    maxList (S.map g) = maxList ((List.range L).map g) := by
  apply Nat.le_antisymm
  · apply (maxList_le_iff _ _).2
    intro x hx
    rcases List.mem_map.1 hx with ⟨A, hA, rfl⟩
    apply le_maxList_of_mem
    exact List.mem_map.2 ⟨A, List.mem_range.2 (hS A hA), rfl⟩
  · apply (maxList_le_iff _ _).2
    intro x hx
    rcases List.mem_map.1 hx with ⟨A, hA, rfl⟩
    rcases hdom A (List.mem_range.1 hA) with h0 | ⟨A', hA', hle⟩
    · rw [h0]; exact Nat.zero_le _
    · exact Nat.le_trans hle (le_maxList_of_mem _ _ (List.mem_map.2 ⟨A', hA', rfl⟩))

/-- pruning lemma for per-offset results whose divergence errors carry the offset: the
pruned space is strictly increasing, and every offset is `ok 0` or dominated by a pruned
offset at or below it -/
theorem naiveMax_pruned_first (f : Nat → Res) (L : Nat) (S : List Nat) (hsorted : S.Pairwise (· < ·))
    (hS : ∀ A ∈ S, A < L)
    (hres : ∀ A, A < L → (∃ v, f A = .ok v) ∨ (∃ o l, f A = .div o l))
    (hdom : ∀ A, A < L → f A = .ok 0 ∨ ∃ A' ∈ S, A' ≤ A ∧ Res.leD (f A) (f A')) :
    naiveMax (S.map f) = naiveMax ((List.range L).map f) := by
  by_cases hex : ∃ A, A < L ∧ ¬ ∃ v, f A = .ok v
  · obtain ⟨A1, hA1⟩ := hex
    obtain ⟨A0, ⟨hA0L, hA0bad⟩, hleast⟩ := exists_least (fun A => A < L ∧ ¬ ∃ v, f A = .ok v) A1 hA1
    have hmem : A0 ∈ S := by
      rcases hdom A0 hA0L with h0 | ⟨A', hA', hle, hr⟩
      · exact absurd ⟨0, h0⟩ hA0bad
      · have hbad' : ¬ ∃ v, f A' = .ok v := by
          rintro ⟨v, hv⟩
          rcases hres A0 hA0L with ⟨v0, hv0⟩ | ⟨o, l, hd⟩
          · exact hA0bad ⟨v0, hv0⟩
          · rw [hd, hv] at hr; exact hr
        have : ¬ A' < A0 := fun hlt => hleast A' hlt ⟨hS A' hA', hbad'⟩
        have e : A' = A0 := by omega
        rw [← e]; exact hA'
    have hok : ∀ A, A < A0 → ∃ v, f A = .ok v := by
      intro A hA
      apply Classical.byContradiction
      intro hn
      exact hleast A hA ⟨by omega, hn⟩
    rw [naiveMax_first f S hsorted A0 hmem hA0bad (fun A _ hA => hok A hA)]
    rw [naiveMax_first f (List.range L) List.pairwise_lt_range A0 (List.mem_range.2 hA0L) hA0bad
      (fun A _ hA => hok A hA)]
  · have hok : ∀ A, A < L → ∃ v, f A = .ok v := by
      intro A hA
      apply Classical.byContradiction
      intro hn
      exact hex ⟨A, hA, hn⟩
    let g : Nat → Nat := fun A => match f A with | .ok v => v | _ => 0
    have hfg : ∀ A, A < L → f A = .ok (g A) := by
      intro A hA
      obtain ⟨v, hv⟩ := hok A hA
      show f A = .ok (match f A with | .ok v => v | _ => 0)
      rw [hv]
    have e1 : S.map f = S.map fun A => Res.ok (g A) :=
      List.map_congr_left (fun a ha => hfg a (hS a ha))
    have e2 : (List.range L).map f = (List.range L).map fun A => Res.ok (g A) :=
      List.map_congr_left (fun a ha => hfg a (List.mem_range.1 ha))
    rw [e1, e2, naiveMax_ok, naiveMax_ok]
    congr 1
    apply maxList_pruned g L S hS
    intro A hA
    rcases hdom A hA with h0 | ⟨A', hA', _, hle⟩
    · left
      have := hfg A hA
      rw [h0] at this
      injection this with this
      exact this.symm
    · right
      rw [hfg A hA, hfg A' (hS A' hA')] at hle
      exact ⟨A', hA', hle⟩


theorem maxResponseTime_pruned (f : Nat → Res) (L : Nat) (S : List Nat) (hsorted : S.Pairwise (· < ·))
    (hS : ∀ A ∈ S, A < L)
    (hres : ∀ A, A < L → (∃ v, f A = .ok v) ∨ (∃ o l, f A = .div o l))
    (hdom : ∀ A, A < L → f A = .ok 0 ∨ ∃ A' ∈ S, A' ≤ A ∧ Res.leD (f A) (f A')) :
    maxResponseTime (S.map f) = naiveMax ((List.range L).map f) := by
  rw [maxResponseTime_eq_naiveMax, naiveMax_pruned_first f L S hsorted hS hres hdom]
  intro x hx
  obtain ⟨A, hA, rfl⟩ := List.mem_map.1 hx
  rcases hres A (hS A hA) with ⟨v, h⟩ | ⟨o, l, h⟩ <;> rw [h] <;> exact Res.noConfusion

end PruneCoreLemmas

theorem exists_greatest (P : Nat → Prop) (h0 : P 0) (A : Nat) :
    ∃ A', P A' ∧ A' ≤ A ∧ ∀ B, P B → B ≤ A → B ≤ A' := by
  induction A with
  | zero => exact ⟨0, h0, Nat.le_refl _, fun B _ hB => hB⟩
  | succ A ih =>
    by_cases hp : P (A + 1)
    · exact ⟨A + 1, hp, Nat.le_refl _, fun B _ hB => hB⟩
    · obtain ⟨A', h1, h2, h3⟩ := ih
      refine ⟨A', h1, by omega, ?_⟩
      intro B hB hle
      rcases Nat.eq_or_lt_of_le hle with e | hlt
      · subst e; exact absurd hB hp
      · exact h3 B hB (by omega)

/-- above the greatest point `A' ≤ A` of a set that holds every increase offset of `N` below
`L`, `N (· + 1)` stays what it is at `A'` (so that point dominates the offset `A`) -/
theorem succ_eq_of_greatest (N : Nat → Nat) (hm : MonoN N) {P : Nat → Prop} (L : Nat)
    (hP : ∀ B, B < L ∧ N B < N (B + 1) → P B) (A A' : Nat) (hA : A < L) (hle : A' ≤ A)
    (hg : ∀ B, P B → B ≤ A → B ≤ A') : N (A + 1) = N (A' + 1) := by
  apply const_of_no_increase N hm (A' + 1) (A + 1) (by omega)
  intro δ h1 h2 hinc
  have e : δ - 1 + 1 = δ := by omega
  have := hg (δ - 1) (hP (δ - 1) ⟨by omega, by rw [e]; exact hinc⟩) (by omega)
  omega

end RTA
