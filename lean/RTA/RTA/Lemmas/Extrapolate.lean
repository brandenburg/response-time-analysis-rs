import RTA.Lemmas.CurveN
import RTA.Lemmas.CurveSteps
import RTA.Lemmas.Sporadic
import RTA.Model.XCurve
/-! Extrapolation of delta-min prefixes (C13): append-only, conservative, tightening
within the covered horizon (beyond it not: `extrapolate_loosens_beyond_horizon`, F6), and the
pure semantics of `ExtrapolatingCurve` with its step list (`xcurve_steps_spec`, C11). -/

namespace RTA
open RTA.Spec

/-- the prefix extended `n` times by `extrapolate_next` -/
def iterExt (d : List Nat) : Nat → List Nat
  | 0 => d
  | n + 1 => iterExt d n ++ [extrapolateNext (iterExt d n)]

theorem le_extrapolateNext (d : List Nat) (k : Nat) (hk : k < d.length) :
    d.getD k 0 + d.getD (d.length - 1 - k) 0 ≤ extrapolateNext d := by
  unfold extrapolateNext
  by_cases h : k ≤ d.length / 2
  · apply le_maxList_of_mem
    rw [List.mem_map]
    refine ⟨k, List.mem_range.2 (by omega), ?_⟩
    have e : d.length - k - 1 = d.length - 1 - k := by omega
    simp only [e]
  · apply le_maxList_of_mem
    rw [List.mem_map]
    refine ⟨d.length - 1 - k, List.mem_range.2 (by omega), ?_⟩
    have e : d.length - (d.length - 1 - k) - 1 = k := by omega
    simp only [e]
    omega

theorem extrapolateNext_le (d : List Nat) (b : Nat)
    (h : ∀ k, k ≤ d.length / 2 → d.getD k 0 + d.getD (d.length - k - 1) 0 ≤ b) :
    extrapolateNext d ≤ b := by
  unfold extrapolateNext
  rw [maxList_le_iff]
  intro x hx
  rw [List.mem_map] at hx
  obtain ⟨k, hk, rfl⟩ := hx
  exact h k (by have := List.mem_range.1 hk; omega)

theorem iterExt_succ_left (d : List Nat) (n : Nat) :
    iterExt d (n + 1) = iterExt (d ++ [extrapolateNext d]) n := by
  induction n with
  | zero => rfl
  | succ n ih =>
    show iterExt d (n + 1) ++ [extrapolateNext (iterExt d (n + 1))] = _
    rw [ih]; rfl

theorem extrapolate_is_iterExt (d : List Nat) (h fuel : Nat) :
    ∃ n, extrapolate d h fuel = iterExt d n := by
  induction fuel generalizing d with
  | zero => exact ⟨0, rfl⟩
  | succ f ih =>
    unfold extrapolate
    split
    · obtain ⟨n, hn⟩ := ih (d ++ [extrapolateNext d])
      exact ⟨n + 1, by rw [hn, iterExt_succ_left]⟩
    · exact ⟨0, rfl⟩

theorem extrapolateSteps_is_iterExt (d : List Nat) (k fuel : Nat) :
    ∃ n, extrapolateSteps d k fuel = iterExt d n := by
  induction fuel generalizing d with
  | zero => exact ⟨0, rfl⟩
  | succ f ih =>
    unfold extrapolateSteps
    split
    · obtain ⟨n, hn⟩ := ih (d ++ [extrapolateNext d])
      exact ⟨n + 1, by rw [hn, iterExt_succ_left]⟩
    · exact ⟨0, rfl⟩

theorem iterExt_prefix (d : List Nat) (n k : Nat) : ∃ more, iterExt d (n + k) = iterExt d n ++ more := by
  induction k with
  | zero => exact ⟨[], by simp⟩
  | succ k ih =>
    obtain ⟨more, hm⟩ := ih
    refine ⟨more ++ [extrapolateNext (iterExt d (n + k))], ?_⟩
    rw [← List.append_assoc, ← hm]
    rfl

theorem iterExt_take (d : List Nat) (n : Nat) : (iterExt d n).take d.length = d := by
  obtain ⟨more, hm⟩ := iterExt_prefix d 0 n
  rw [Nat.zero_add] at hm
  rw [hm]
  exact List.take_left' rfl

theorem iterExt_length (d : List Nat) (n : Nat) : (iterExt d n).length = d.length + n := by
  induction n with
  | zero => rfl
  | succ n ih =>
    show (iterExt d n ++ _).length = _
    rw [List.length_append, ih]; rfl

theorem extrapolateNext_ge (d : List Nat) (hne : d ≠ []) :
    d.headD 0 + d.getLastD 0 ≤ extrapolateNext d := by
  have hlen : 0 < d.length := List.length_pos_iff.2 hne
  have := le_extrapolateNext d 0 hlen
  rw [getD_zero_eq_headD, Nat.sub_zero, getD_last d] at this
  exact this

theorem curveWF_snoc (d : List Nat) (hwf : curveWF d) (e : Nat) (he : d.getLastD 0 ≤ e) :
    curveWF (d ++ [e]) := by
  obtain ⟨hne, hs, hl⟩ := hwf
  refine ⟨by simp, ?_, ?_⟩
  · rw [List.pairwise_append]
    refine ⟨hs, by simp, ?_⟩
    intro a ha b hb
    simp at hb; subst hb
    exact Nat.le_trans (CurveSteps.sorted_le_getLastD d 0 hs a ha) he
  · rw [List.getLastD_concat]; omega

theorem iterExt_wf (d : List Nat) (hwf : curveWF d) (n : Nat) : curveWF (iterExt d n) := by
  induction n with
  | zero => exact hwf
  | succ n ih =>
    apply curveWF_snoc _ ih
    have := extrapolateNext_ge (iterExt d n) ih.1
    omega

theorem respects_two_runs {d rels : List Nat} (h : Respects d rels) (i k m : Nat)
    (hk : k < d.length) (hm : m < d.length) (hi : i + k + 1 + m + 1 < rels.length) :
    rels.getD i 0 + (d.getD k 0 + d.getD m 0) ≤ rels.getD (i + k + 1 + m + 1) 0 := by
  have h1 := h.2 i k hk (by omega)
  have h2 := h.2 (i + k + 1) m hm hi
  omega

theorem respects_extrapolateNext (d rels : List Nat) (h2 : 2 ≤ d.length) (h : Respects d rels) :
    Respects (d ++ [extrapolateNext d]) rels := by
  refine ⟨h.1, ?_⟩
  intro i k hk hik
  rw [List.length_append, List.length_singleton] at hk
  by_cases hkn : k < d.length
  · rw [getD_append_left hkn]
    exact h.2 i k hkn hik
  · obtain rfl : k = d.length := by omega
    rw [getD_append_last]
    -- every split `d[k] + d[len - 1 - k]` is spanned by two adjacent runs of events
    have hspan : ∀ k, k ≤ d.length / 2 → rels.getD i 0 +
        (d.getD k 0 + d.getD (d.length - k - 1) 0) ≤ rels.getD (i + d.length + 1) 0 := by
      intro k hk
      have := respects_two_runs h i k (d.length - k - 1) (by omega) (by omega) (by omega)
      rwa [show i + k + 1 + (d.length - k - 1) + 1 = i + d.length + 1 by omega] at this
    exact Nat.add_le_of_le_sub' (Nat.le_trans (Nat.le_add_right _ _) (hspan 0 (Nat.zero_le _)))
      (extrapolateNext_le d _ fun k hk => Nat.le_sub_of_add_le' (hspan k hk))

theorem respects_iterExt (d rels : List Nat) (h2 : 2 ≤ d.length) (h : Respects d rels) (n : Nat) :
    Respects (iterExt d n) rels := by
  induction n with
  | zero => exact h
  | succ n ih =>
    exact respects_extrapolateNext _ _ (by rw [iterExt_length]; omega) ih

theorem iterExt_getD_prefix (d : List Nat) (n k j : Nat) (hj : j < d.length + n) :
    (iterExt d (n + k)).getD j 0 = (iterExt d n).getD j 0 := by
  obtain ⟨more, hm⟩ := iterExt_prefix d n k
  rw [hm, getD_append_left (by rw [iterExt_length]; exact hj)]

theorem iterExt_getD_new (d : List Nat) (n : Nat) :
    (iterExt d (n + 1)).getD (d.length + n) 0 = extrapolateNext (iterExt d n) := by
  show (iterExt d n ++ [extrapolateNext (iterExt d n)]).getD (d.length + n) 0 = _
  rw [← iterExt_length d n, getD_append_last]

theorem iterExt_getD_orig (d : List Nat) (n j : Nat) (hj : j < d.length) :
    (iterExt d n).getD j 0 = d.getD j 0 := by
  have := iterExt_getD_prefix d 0 n j (by omega)
  rw [Nat.zero_add] at this
  exact this

theorem spanLB_small (d : List Nat) (m : Nat) (h1 : 1 ≤ m) (hm : m ≤ d.length) :
    spanLB d m = d.getD (m - 1) 0 := by
  unfold spanLB
  rcases Nat.lt_or_eq_of_le hm with h | h
  · rw [Nat.div_eq_of_lt h, Nat.mod_eq_of_lt h, if_neg (by omega)]
    omega
  · subst h
    rw [Nat.div_self (by omega), Nat.mod_self, if_pos rfl, getD_last d]
    omega

theorem spanLB_add_len (d : List Nat) (hne : d ≠ []) (m : Nat) :
    spanLB d (m + d.length) = d.getLastD 0 + spanLB d m := by
  have hlen : 0 < d.length := List.length_pos_iff.2 hne
  unfold spanLB
  rw [Nat.add_div_right _ hlen, Nat.add_mod_right, Nat.add_mul, Nat.one_mul]
  omega

theorem iterExt_getD_ext (d : List Nat) (n p : Nat) (hp : p < n) :
    (iterExt d n).getD (d.length + p) 0 = extrapolateNext (iterExt d p) := by
  obtain ⟨k, rfl⟩ : ∃ k, n = (p + 1) + k := ⟨n - (p + 1), by omega⟩
  rw [iterExt_getD_prefix d (p + 1) k _ (by omega), iterExt_getD_new]

/-- The split `(len - 1, p)` of `extrapolateNext` gives one whole block plus, inductively, the bound
for `p + 1` gaps. -/
theorem iterExt_entry_ge_spanLB (d : List Nat) (hwf : curveWF d) (h2 : 2 ≤ d.length) (n j : Nat)
    (hj : j < d.length + n) : spanLB d (j + 1) ≤ (iterExt d n).getD j 0 := by
  induction j using Nat.strongRecOn generalizing n with
  | ind j ih =>
    by_cases hjl : j < d.length
    · rw [spanLB_small d (j + 1) (Nat.succ_pos j) hjl, iterExt_getD_orig d n j hjl]
      exact Nat.le_refl _
    · obtain ⟨p, rfl⟩ : ∃ p, j = d.length + p := ⟨j - d.length, by omega⟩
      have hle := le_extrapolateNext (iterExt d p) (d.length - 1) (by rw [iterExt_length]; omega)
      rw [iterExt_length, iterExt_getD_orig d p (d.length - 1) (by omega), getD_last d,
        show d.length + p - 1 - (d.length - 1) = p by omega] at hle
      rw [iterExt_getD_ext d n p (by omega), show d.length + p + 1 = (p + 1) + d.length by omega,
        spanLB_add_len d hwf.1]
      exact Nat.le_trans (Nat.add_le_add_left (ih p (by omega) p (by omega)) _) hle

theorem curveN_small_le (d : List Nat) (hwf : curveWF d) (x : Nat) (hx1 : 1 ≤ x)
    (hx : x ≤ d.getLastD 0) : curveN d x = 1 + countLt d x := by
  rw [curveN_of_le_last d hwf x hx, if_neg (by omega)]

/-- C13 tightening below the largest extrapolated distance (beyond it: F6,
`extrapolate_loosens_beyond_horizon`). -/
theorem curveN_iterExt_le (d : List Nat) (hwf : curveWF d) (h2 : 2 ≤ d.length) (n x : Nat)
    (hx : x < (iterExt d n).getLastD 0) :
    curveN (iterExt d n) x ≤ curveN d x := by
  by_cases hx0 : x = 0
  · subst hx0; rw [curveN_zero]; exact Nat.zero_le _
  · have hwfD := iterExt_wf d hwf n
    rw [curveN_small_le _ hwfD x (by omega) (Nat.le_of_lt hx)]
    obtain ⟨c, hc⟩ : ∃ c, curveN d x = c + 1 :=
      ⟨_, (Nat.succ_pred_eq_of_pos (curveN_pos d hwf x (by omega))).symm⟩
    rw [hc]
    by_cases hm : c < d.length + n
    · -- `c + 1` events of the original span at least `x`, hence so do those of the extrapolation
      have h1 := curveN_spanLB d hwf x (c + 1) (by omega) (Nat.le_of_eq hc)
      have h2' := iterExt_entry_ge_spanLB d hwf h2 n c hm
      rw [Nat.add_comm]
      exact Nat.succ_le_succ (Nat.le_of_not_lt fun hlt =>
        absurd (getD_lt_of_countLt (iterExt d n) hwfD.2.1 x c hlt) (Nat.not_lt.2 (Nat.le_trans h1 h2')))
    · have := countLt_lt_length (iterExt d n) hwfD.1 x (Nat.le_of_lt hx)
      rw [iterExt_length] at this
      omega

/-- finding F6: BEYOND the extrapolated horizon a partially extrapolated `Curve` can
claim more arrivals than the original (`Curve [1,10]` extrapolated to horizon 11, Δ = 13) -/
theorem extrapolate_loosens_beyond_horizon :
    curveN (extrapolate [1, 10] 11 (extrapolateFuel [1, 10] 11)) 13 > curveN [1, 10] 13 := by
  decide

theorem countLt_append_stable (e more : List Nat) (hs : (e ++ more).Pairwise (· ≤ ·)) (hne : e ≠ [])
    (x : Nat) (hx : x ≤ e.getLastD 0) : countLt (e ++ more) x = countLt e x := by
  rw [countLt_append, countLt_eq_zero more x]
  · rfl
  · intro v hv
    have := (List.pairwise_append.1 hs).2.2 _ (CurveSteps.getLastD_mem e hne 0) v hv
    omega

theorem getLastD_append_ge (e more : List Nat) (hs : (e ++ more).Pairwise (· ≤ ·)) (hne : e ≠ []) :
    e.getLastD 0 ≤ (e ++ more).getLastD 0 :=
  CurveSteps.sorted_le_getLastD _ 0 hs _ (List.mem_append_left _ (CurveSteps.getLastD_mem e hne 0))

theorem curveN_stable (e more : List Nat) (hwf : curveWF (e ++ more)) (hne : e ≠ []) (x : Nat)
    (hx : x < e.getLastD 0) : curveN (e ++ more) x = curveN e x := by
  by_cases hx0 : x = 0
  · subst hx0; rw [curveN_zero, curveN_zero]
  · have hge := getLastD_append_ge e more hwf.2.1 hne
    have hwfe : curveWF e := ⟨hne, (List.pairwise_append.1 hwf.2.1).1, by omega⟩
    rw [curveN_small_le _ hwf x (by omega) (by omega),
      curveN_small_le _ hwfe x (by omega) (Nat.le_of_lt hx),
      countLt_append_stable e more hwf.2.1 hne x (Nat.le_of_lt hx)]

theorem extrapolate_result (d : List Nat) (h fuel : Nat) (h2 : 2 ≤ d.length) :
    ∃ n, extrapolate d h fuel = iterExt d n ∧ (h ≤ (iterExt d n).getLastD 0 ∨ n = fuel) := by
  induction fuel generalizing d with
  | zero => exact ⟨0, rfl, Or.inr rfl⟩
  | succ f ih =>
    unfold extrapolate
    split
    · obtain ⟨n, hn, hor⟩ := ih (d ++ [extrapolateNext d]) (by simp; omega)
      refine ⟨n + 1, by rw [hn, iterExt_succ_left], ?_⟩
      rw [iterExt_succ_left]
      rcases hor with h | h
      · exact Or.inl h
      · exact Or.inr (by omega)
    · rename_i hc
      exact ⟨0, rfl, Or.inl (by show h ≤ d.getLastD 0; omega)⟩

theorem iterExt_last_ge (d : List Nat) (hwf : curveWF d) (h2 : 2 ≤ d.length) (n : Nat) :
    (d.length + n) / d.length ≤ (iterExt d n).getLastD 0 := by
  have h := iterExt_entry_ge_spanLB d hwf h2 n (d.length + n - 1) (by omega)
  have hl := getD_last (iterExt d n)
  rw [iterExt_length] at hl
  rw [hl, Nat.sub_add_cancel (by omega)] at h
  refine Nat.le_trans ?_ h
  unfold spanLB
  have := Nat.mul_le_mul_left ((d.length + n) / d.length) hwf.2.2
  omega

/-- termination of `extrapolate`: the fuel of the model suffices, because every `len` pushes
raise the last entry (`iterExt_last_ge`) -/
theorem extrapolate_iterExt_reaches (d : List Nat) (hwf : curveWF d) (h2 : 2 ≤ d.length) (h : Nat) :
    ∃ n, extrapolate d h (extrapolateFuel d h) = iterExt d n ∧ h ≤ (iterExt d n).getLastD 0 := by
  obtain ⟨n, hn, hor⟩ := extrapolate_result d h (extrapolateFuel d h) h2
  refine ⟨n, hn, ?_⟩
  rcases hor with hh | hh
  · exact hh
  · refine Nat.le_trans ?_ (iterExt_last_ge d hwf h2 n)
    rw [Nat.le_div_iff_mul_le (by omega), hh]
    unfold extrapolateFuel
    have := Nat.mul_le_mul_left (h + 1) (show d.length ≤ d.length + 2 by omega)
    rw [Nat.succ_mul] at this
    omega

theorem extrapolate_reaches (d : List Nat) (hwf : curveWF d) (h2 : 2 ≤ d.length) (h : Nat) :
    h ≤ (extrapolate d h (extrapolateFuel d h)).getLastD 0 := by
  obtain ⟨n, hn, hr⟩ := extrapolate_iterExt_reaches d hwf h2 h
  rw [hn]
  exact hr

/-- `extrapolate_reaches` with the extra hypothesis `hpos` (two events cannot coincide), which
is not used; no other declaration refers to this theorem. -/
theorem extrapolate_reaches_of_pos (d : List Nat) (hwf : curveWF d) (h2 : 2 ≤ d.length)
    (hpos : 1 ≤ d.headD 0) (h : Nat) :
    h ≤ (extrapolate d h (extrapolateFuel d h)).getLastD 0 := by
  have _ := hpos
  exact extrapolate_reaches d hwf h2 h

theorem xcurveN_zero (d : List Nat) : xcurveN d 0 = 0 := by
  simp [xcurveN]

theorem extrapolate_short (d : List Nat) (h fuel : Nat) (hs : d.length < 2) :
    extrapolate d h fuel = d := by
  cases fuel with
  | zero => rfl
  | succ f => unfold extrapolate; rw [if_neg (by omega)]

theorem xcurveN_short (d : List Nat) (x : Nat) (hs : d.length < 2) : xcurveN d x = curveN d x := by
  unfold xcurveN
  split
  · rename_i h; subst h; rw [curveN_zero]
  · rw [extrapolate_short _ _ _ hs]

theorem countLt_iterExt_stable (d : List Nat) (hwf : curveWF d) (n k x : Nat)
    (hx : x ≤ (iterExt d n).getLastD 0) :
    countLt (iterExt d (n + k)) x = countLt (iterExt d n) x := by
  obtain ⟨more, hm⟩ := iterExt_prefix d n k
  have hw := iterExt_wf d hwf (n + k)
  rw [hm] at hw ⊢
  exact countLt_append_stable _ _ hw.2.1 (iterExt_wf d hwf n).1 x hx

theorem iterExt_last_mono (d : List Nat) (hwf : curveWF d) (n k : Nat) :
    (iterExt d n).getLastD 0 ≤ (iterExt d (n + k)).getLastD 0 := by
  obtain ⟨more, hm⟩ := iterExt_prefix d n k
  have hw := iterExt_wf d hwf (n + k)
  rw [hm] at hw ⊢
  exact getLastD_append_ge _ _ hw.2.1 (iterExt_wf d hwf n).1

theorem exists_iterExt_last_gt (d : List Nat) (hwf : curveWF d) (h2 : 2 ≤ d.length) (b : Nat) :
    ∃ n, b < (iterExt d n).getLastD 0 := by
  obtain ⟨n, _, hr⟩ := extrapolate_iterExt_reaches d hwf h2 (b + 1)
  exact ⟨n, hr⟩

theorem xcurveN_eq (d : List Nat) (hwf : curveWF d) (h2 : 2 ≤ d.length) (x n : Nat) (hx : 1 ≤ x)
    (hn : x < (iterExt d n).getLastD 0) :
    xcurveN d x = 1 + countLt (iterExt d n) x := by
  unfold xcurveN
  rw [if_neg (by omega)]
  obtain ⟨n', hn', hr⟩ := extrapolate_iterExt_reaches d hwf h2 (x + 1)
  rw [hn']
  rw [curveN_small_le _ (iterExt_wf d hwf n') x hx (by omega)]
  congr 1
  rcases Nat.le_total n n' with hle | hle
  · obtain ⟨k, rfl⟩ : ∃ k, n' = n + k := ⟨n' - n, by omega⟩
    exact countLt_iterExt_stable d hwf n k x (by omega)
  · obtain ⟨k, rfl⟩ : ∃ k, n = n' + k := ⟨n - n', by omega⟩
    exact (countLt_iterExt_stable d hwf n' k x (by omega)).symm

theorem curveN_iterExt_eq_xcurveN (d : List Nat) (hwf : curveWF d) (h2 : 2 ≤ d.length) (n x : Nat)
    (hx : x < (iterExt d n).getLastD 0) : curveN (iterExt d n) x = xcurveN d x := by
  by_cases h0 : x = 0
  · subst h0; rw [curveN_zero, xcurveN_zero]
  · rw [curveN_small_le _ (iterExt_wf d hwf n) x (by omega) (Nat.le_of_lt hx),
      xcurveN_eq d hwf h2 x n (by omega) hx]

theorem xcurveN_mono (d : List Nat) (hwf : curveWF d) : MonoN (xcurveN d) := by
  intro a b hab
  by_cases h2 : 2 ≤ d.length
  · by_cases ha : a = 0
    · subst ha; rw [xcurveN_zero]; exact Nat.zero_le _
    · obtain ⟨n, hn⟩ := exists_iterExt_last_gt d hwf h2 b
      rw [xcurveN_eq d hwf h2 a n (by omega) (by omega), xcurveN_eq d hwf h2 b n (by omega) hn]
      have := countLt_mono (iterExt d n) a b hab
      omega
  · rw [xcurveN_short d a (by omega), xcurveN_short d b (by omega)]
    exact curveN_mono d hwf a b hab

/-- C13 tightening for the auto-extrapolating curve: never more than the plain curve -/
theorem xcurveN_le_curveN (d : List Nat) (hwf : curveWF d) (x : Nat) : xcurveN d x ≤ curveN d x := by
  by_cases h2 : 2 ≤ d.length
  · by_cases hx : x = 0
    · subst hx; rw [xcurveN_zero]; exact Nat.zero_le _
    · obtain ⟨n, hn⟩ := exists_iterExt_last_gt d hwf h2 x
      rw [← curveN_iterExt_eq_xcurveN d hwf h2 n x hn]
      exact curveN_iterExt_le d hwf h2 n x hn
  · rw [xcurveN_short d x (by omega)]
    exact Nat.le_refl _

/-- C10/C13 conservative: still bounds every sequence respecting the original prefix -/
theorem xcurve_bounds (d : List Nat) (hwf : curveWF d) (rels : List Nat) (h : Respects d rels)
    (t x : Nat) : cnt rels t x ≤ xcurveN d x := by
  by_cases h2 : 2 ≤ d.length
  · unfold xcurveN
    split
    · rename_i hx; subst hx; rw [cnt_zero]; exact Nat.le_refl _
    · obtain ⟨n, hn⟩ := extrapolate_is_iterExt d (x + 1) (extrapolateFuel d (x + 1))
      rw [hn]
      exact curve_bounds _ (iterExt_wf d hwf n) rels (respects_iterExt d rels h2 h n) t x
  · rw [xcurveN_short d x (by omega)]
    exact curve_bounds d hwf rels h t x

theorem countLt_step_iff (D : List Nat) (a : Nat) : countLt D a < countLt D (a + 1) ↔ a ∈ D := by
  rw [countLt_succ, ← List.count_pos_iff]
  omega

theorem xcurveN_step_iff (d : List Nat) (hwf : curveWF d) (h2 : 2 ≤ d.length) (δ n : Nat)
    (hδ : 2 ≤ δ) (hn : δ ≤ (iterExt d n).getLastD 0) :
    xcurveN d (δ - 1) < xcurveN d δ ↔ (δ - 1) ∈ iterExt d n := by
  obtain ⟨n', hn'⟩ := exists_iterExt_last_gt d hwf h2 δ
  have hmono := iterExt_last_mono d hwf n' n
  rw [xcurveN_eq d hwf h2 (δ - 1) (n' + n) (by omega) (by omega),
    xcurveN_eq d hwf h2 δ (n' + n) (by omega) (by omega)]
  have key := countLt_step_iff (iterExt d (n' + n)) (δ - 1)
  rw [show δ - 1 + 1 = δ by omega] at key
  rw [Nat.add_lt_add_iff_left, key, Nat.add_comm n' n]
  obtain ⟨more, hm⟩ := iterExt_prefix d n n'
  have hw := iterExt_wf d hwf (n + n')
  rw [hm] at hw ⊢
  rw [List.mem_append]
  constructor
  · rintro (h | h)
    · exact h
    · have := (List.pairwise_append.1 hw.2.1).2.2 _ (CurveSteps.getLastD_mem _ (iterExt_wf d hwf n).1 0) _ h
      omega
  · exact Or.inl

theorem curveN_singleton (T x : Nat) (hT : 1 ≤ T) : curveN [T] x = ceilDiv x T := by
  by_cases hx : x = 0
  · subst hx; simp [curveN, ceilDiv]
  · have hwf : curveWF [T] := ⟨by simp, by simp, hT⟩
    obtain ⟨c, t, ht1, ht, hxe, hN⟩ := curveN_decomp [T] hwf x (by omega)
    have hl : [T].getLastD 0 = T := rfl
    rw [hl] at ht hxe
    have hc : countLt [T] t = 0 := countLt_eq_zero _ _ (fun v hv => by
      rw [List.mem_singleton] at hv; omega)
    rw [hN, hc, List.length_singleton, Nat.mul_one]
    unfold ceilDiv
    by_cases htT : t = T
    · have e : x = T * (c + 1) + 0 := by rw [Nat.mul_succ, Nat.mul_comm]; omega
      have := (Nat.div_mod_unique (a := x) (d := c + 1) (c := 0) hT).2 ⟨by omega, hT⟩
      rw [this.1, this.2]; simp
    · have := (Nat.div_mod_unique (a := x) (d := c) (c := t) hT).2
        ⟨by rw [Nat.mul_comm]; omega, by omega⟩
      rw [this.1, this.2, if_pos (by omega)]

/-- C11 for `ExtrapolatingCurve` -/
theorem xcurve_steps_spec (d : List Nat) (hwf : curveWF d) (H : Nat) :
    StepsSpec (xcurveN d) H (xcurveSteps d H) := by
  by_cases h2 : 2 ≤ d.length
  · unfold xcurveSteps
    rw [if_pos h2]
    by_cases hH : 1 ≤ H
    · rw [if_pos hH]
      obtain ⟨n0, hn0, hr⟩ := extrapolate_iterExt_reaches d hwf h2 H
      rw [hn0]
      have hwfE := iterExt_wf d hwf n0
      constructor
      · rw [List.pairwise_cons]
        constructor
        · intro z hz
          rw [List.mem_map] at hz
          obtain ⟨v, hv, rfl⟩ := hz
          rw [List.mem_filter] at hv
          simp at hv
          omega
        · rw [List.pairwise_map]
          exact ((dedup_strict _ hwfE.2.1).filter _).imp (fun h => by omega)
      · intro δ
        rw [List.mem_cons, List.mem_map]
        constructor
        · rintro (rfl | ⟨v, hv, rfl⟩)
          · refine ⟨Nat.le_refl _, hH, ?_⟩
            show xcurveN d 0 < xcurveN d 1
            obtain ⟨n, hn⟩ := exists_iterExt_last_gt d hwf h2 1
            rw [xcurveN_zero, xcurveN_eq d hwf h2 1 n (Nat.le_refl _) hn]
            omega
          · rw [List.mem_filter, mem_dedup] at hv
            obtain ⟨hvE, hc⟩ := hv
            simp at hc
            refine ⟨by omega, hc.2, ?_⟩
            rw [xcurveN_step_iff d hwf h2 (v + 1) n0 (by omega) (by omega)]
            simpa using hvE
        · rintro ⟨h1, hle, hstep⟩
          by_cases hδ1 : δ = 1
          · left; exact hδ1
          · right
            refine ⟨δ - 1, ?_, by omega⟩
            rw [List.mem_filter, mem_dedup]
            refine ⟨(xcurveN_step_iff d hwf h2 δ n0 (by omega) (by omega)).1 hstep, ?_⟩
            simp
            omega
    · rw [if_neg hH]
      have : H = 0 := by omega
      subst this
      exact stepsSpec_zero _
  · cases d with
    | nil => exact absurd rfl hwf.1
    | cons T tl =>
      cases tl with
      | cons a as => simp at h2
      | nil =>
        have hT : 1 ≤ T := hwf.2.2
        have hp := periodic_steps_spec T H hT
        have e : xcurveN [T] = (Arr.periodic T).N := by
          funext x
          rw [xcurveN_short [T] x (by simp), curveN_singleton T x hT, periodic_N_eq]
        rw [e]
        unfold xcurveSteps
        rw [if_neg (by simp)]
        exact hp

end RTA
