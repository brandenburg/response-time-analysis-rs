import RTA.Lemmas.Steps
/-! `ArrivalCurvePrefix`: `number_arrivals` and `steps_iter` (C10, C11). -/

namespace RTA
open RTA.Spec

/-- `prefixLookup.go` with the accumulator as a number (`none` ↦ `0`) -/
def pfxLk : List (Nat × Nat) → Nat → Nat → Nat
  | [], a, _ => a
  | (d, n) :: rest, a, p => if d ≤ p then pfxLk rest n p else a

/-- job count of the last step (default `a`) -/
def pfxMax (st : List (Nat × Nat)) (a : Nat) : Nat := (st.getLast?.map (·.2)).getD a

def pfxChain (a : Nat) (st : List (Nat × Nat)) : Prop :=
  st.Pairwise (fun x y => x.1 < y.1 ∧ x.2 < y.2) ∧ ∀ s ∈ st, a < s.2

theorem pfxLk_go (st : List (Nat × Nat)) (acc : Option Nat) (p : Nat) :
    (prefixLookup.go p st acc).getD 0 = pfxLk st (acc.getD 0) p := by
  induction st generalizing acc with
  | nil => simp [prefixLookup.go, pfxLk]
  | cons s rest ih =>
    obtain ⟨d, n⟩ := s
    simp only [prefixLookup.go, pfxLk]
    split
    · rw [ih]; rfl
    · rfl

theorem pfxLk_eq (st : List (Nat × Nat)) (p : Nat) :
    (prefixLookup st p).getD 0 = pfxLk st 0 p := by
  unfold prefixLookup
  rw [pfxLk_go]; rfl

theorem pfxMax_cons (d n : Nat) (rest : List (Nat × Nat)) (a : Nat) :
    pfxMax ((d, n) :: rest) a = pfxMax rest n := by
  unfold pfxMax
  cases rest with
  | nil => simp
  | cons s r =>
    rw [List.getLast?_cons_cons]
    cases hl : (s :: r).getLast? with
    | none => simp at hl
    | some v => rfl

theorem pfxChain_tail {a d n : Nat} {rest : List (Nat × Nat)} (hc : pfxChain a ((d, n) :: rest)) :
    pfxChain n rest := by
  obtain ⟨hp, _⟩ := hc
  rw [List.pairwise_cons] at hp
  exact ⟨hp.2, fun s hs => (hp.1 s hs).2⟩

theorem pfxChain_head {a d n : Nat} {rest : List (Nat × Nat)} (hc : pfxChain a ((d, n) :: rest)) :
    a < n := hc.2 (d, n) (List.mem_cons_self)

theorem pfxLk_ge (st : List (Nat × Nat)) (a p : Nat) (hc : pfxChain a st) : a ≤ pfxLk st a p := by
  induction st generalizing a with
  | nil => simp [pfxLk]
  | cons s rest ih =>
    obtain ⟨d, n⟩ := s
    simp only [pfxLk]
    split
    · have := ih n (pfxChain_tail hc)
      have := pfxChain_head hc
      omega
    · omega

theorem pfxLk_mono (st : List (Nat × Nat)) (a p q : Nat) (hc : pfxChain a st) (hpq : p ≤ q) :
    pfxLk st a p ≤ pfxLk st a q := by
  induction st generalizing a with
  | nil => simp [pfxLk]
  | cons s rest ih =>
    obtain ⟨d, n⟩ := s
    simp only [pfxLk]
    by_cases h1 : d ≤ p
    · rw [if_pos h1, if_pos (by omega)]
      exact ih n (pfxChain_tail hc)
    · rw [if_neg h1]
      split
      · have := pfxLk_ge rest n q (pfxChain_tail hc)
        have := pfxChain_head hc
        omega
      · omega

theorem pfxLk_all (st : List (Nat × Nat)) (a p : Nat) (hall : ∀ s ∈ st, s.1 ≤ p) :
    pfxLk st a p = pfxMax st a := by
  induction st generalizing a with
  | nil => simp [pfxLk, pfxMax]
  | cons s rest ih =>
    obtain ⟨d, n⟩ := s
    rw [pfxMax_cons]
    simp only [pfxLk]
    rw [if_pos (hall (d, n) List.mem_cons_self)]
    exact ih n (fun s hs => hall s (List.mem_cons_of_mem _ hs))

theorem pfxLk_inc (st : List (Nat × Nat)) (a p : Nat) (hc : pfxChain a st) (hp : 1 ≤ p) :
    pfxLk st a (p - 1) < pfxLk st a p ↔ ∃ s ∈ st, s.1 = p := by
  induction st generalizing a with
  | nil => simp [pfxLk]
  | cons s rest ih =>
    obtain ⟨d, n⟩ := s
    have hct := pfxChain_tail hc
    have hlt := pfxChain_head hc
    simp only [pfxLk]
    by_cases h1 : d ≤ p - 1
    · rw [if_pos h1, if_pos (by omega), ih n hct]
      constructor
      · rintro ⟨s, hs, e⟩
        exact ⟨s, List.mem_cons_of_mem _ hs, e⟩
      · rintro ⟨s, hs, e⟩
        rw [List.mem_cons] at hs
        rcases hs with hs | hs
        · subst hs; simp at e; omega
        · exact ⟨s, hs, e⟩
    · rw [if_neg h1]
      by_cases h2 : d ≤ p
      · rw [if_pos h2]
        have := pfxLk_ge rest n p hct
        constructor
        · intro _
          exact ⟨(d, n), List.mem_cons_self, by simp; omega⟩
        · intro _; omega
      · rw [if_neg h2]
        constructor
        · intro h; omega
        · rintro ⟨s, hs, e⟩
          rw [List.mem_cons] at hs
          rcases hs with hs | hs
          · subst hs; simp at e; omega
          · have := ((List.pairwise_cons.1 hc.1).1 s hs).1
            simp at this
            omega

theorem prefixWF_chain {h : Nat} {st : List (Nat × Nat)} (hwf : prefixWF h st) : pfxChain 0 st := by
  obtain ⟨_, hne, _, h2, hp, _⟩ := hwf
  refine ⟨hp, ?_⟩
  cases st with
  | nil => exact absurd rfl hne
  | cons s rest =>
    simp only [List.headD_cons] at h2
    intro s' hs'
    rw [List.mem_cons] at hs'
    rcases hs' with hs' | hs'
    · subst hs'; omega
    · have := ((List.pairwise_cons.1 hp).1 s' hs').2
      omega

theorem prefixWF_one_mem {h : Nat} {st : List (Nat × Nat)} (hwf : prefixWF h st) :
    ∃ s ∈ st, s.1 = 1 := by
  obtain ⟨_, hne, h1, _, _, _⟩ := hwf
  cases st with
  | nil => exact absurd rfl hne
  | cons s rest => exact ⟨s, List.mem_cons_self, by simpa using h1⟩

theorem prefixWF_le_horizon {h : Nat} {st : List (Nat × Nat)} (hwf : prefixWF h st) :
    ∀ s ∈ st, s.1 ≤ h := hwf.2.2.2.2.2

theorem prefixWF_delta_pos {h : Nat} {st : List (Nat × Nat)} (hwf : prefixWF h st) :
    ∀ s ∈ st, 1 ≤ s.1 := by
  obtain ⟨_, hne, h1, _, hp, _⟩ := hwf
  cases st with
  | nil => exact absurd rfl hne
  | cons s rest =>
    simp only [List.headD_cons] at h1
    intro s' hs'
    rw [List.mem_cons] at hs'
    rcases hs' with hs' | hs'
    · subst hs'; omega
    · have := ((List.pairwise_cons.1 hp).1 s' hs').1
      omega

theorem pfxLk_zero {h : Nat} {st : List (Nat × Nat)} (hwf : prefixWF h st) : pfxLk st 0 0 = 0 := by
  obtain ⟨_, hne, h1, _, _, _⟩ := hwf
  cases st with
  | nil => exact absurd rfl hne
  | cons s rest =>
    obtain ⟨d, n⟩ := s
    simp only [List.headD_cons] at h1
    simp only [pfxLk]
    rw [if_neg (by omega)]

theorem prefixN_eq (h : Nat) (st : List (Nat × Nat)) (x : Nat) :
    prefixN h st x = pfxMax st 0 * (x / h) +
      (if x % h = 0 then 0 else pfxLk st 0 (x % h)) := by
  unfold prefixN pfxMax
  simp only [pfxLk_eq]

theorem prefixN_form {h : Nat} {st : List (Nat × Nat)} (hwf : prefixWF h st) (c p : Nat)
    (hp : p ≤ h) : prefixN h st (c * h + p) = pfxMax st 0 * c + pfxLk st 0 p := by
  have hh : 1 ≤ h := hwf.1
  rw [prefixN_eq]
  by_cases hph : p = h
  · subst hph
    have e : c * p + p = (c + 1) * p := by rw [Nat.add_mul]; omega
    rw [e, Nat.mul_mod_left, Nat.mul_div_cancel _ (by omega : 0 < p), if_pos rfl,
      pfxLk_all st 0 p (prefixWF_le_horizon hwf), Nat.mul_add]
    omega
  · have hlt : p < h := by omega
    have e1 : (c * h + p) / h = c := by
      rw [Nat.mul_comm, Nat.mul_add_div (by omega), Nat.div_eq_of_lt hlt]; omega
    have e2 : (c * h + p) % h = p := by
      rw [Nat.mul_comm, Nat.mul_add_mod, Nat.mod_eq_of_lt hlt]
    rw [e1, e2]
    by_cases hp0 : p = 0
    · subst hp0; rw [if_pos rfl, pfxLk_zero hwf]
    · rw [if_neg hp0]

theorem prefixN_divmod {h : Nat} {st : List (Nat × Nat)} (hwf : prefixWF h st) (x : Nat) :
    prefixN h st x = pfxMax st 0 * (x / h) + pfxLk st 0 (x % h) := by
  rw [prefixN_eq]
  split
  · next h0 => rw [h0, pfxLk_zero hwf]
  · rfl

theorem pfxLk_le_max {h : Nat} {st : List (Nat × Nat)} (hwf : prefixWF h st) (p : Nat) :
    pfxLk st 0 p ≤ pfxMax st 0 := by
  have h1 := pfxLk_mono st 0 p (max p h) (prefixWF_chain hwf) (by omega)
  have h2 := pfxLk_all st 0 (max p h) (fun s hs => by have := prefixWF_le_horizon hwf s hs; omega)
  omega

theorem pfxLk_pos {h : Nat} {st : List (Nat × Nat)} (hwf : prefixWF h st) (p : Nat) (hp : 1 ≤ p) :
    0 < pfxLk st 0 p := by
  have h1 := (pfxLk_inc st 0 1 (prefixWF_chain hwf) (by omega)).2 (prefixWF_one_mem hwf)
  have h2 := pfxLk_mono st 0 1 p (prefixWF_chain hwf) hp
  omega

theorem prefixN_zero (h : Nat) (st : List (Nat × Nat)) : prefixN h st 0 = 0 := by
  unfold prefixN
  simp

theorem prefixN_mono (h : Nat) (st : List (Nat × Nat)) (hwf : prefixWF h st) :
    MonoN (prefixN h st) := by
  intro a b hab
  have hh : 1 ≤ h := hwf.1
  have ea := Nat.div_add_mod a h
  have eb := Nat.div_add_mod b h
  rw [prefixN_divmod hwf a, prefixN_divmod hwf b]
  have hq : a / h ≤ b / h := Nat.div_le_div_right hab
  rcases Nat.eq_or_lt_of_le hq with hq | hq
  · have hpq : a % h ≤ b % h := by
      rw [← hq] at eb; omega
    have := pfxLk_mono st 0 _ _ (prefixWF_chain hwf) hpq
    rw [hq]; omega
  · obtain ⟨e, he⟩ : ∃ e, b / h = a / h + 1 + e := ⟨b / h - (a / h) - 1, by omega⟩
    have := pfxLk_le_max hwf (a % h)
    rw [he, Nat.mul_add, Nat.mul_add]
    omega

theorem prefixN_pos (h : Nat) (st : List (Nat × Nat)) (hwf : prefixWF h st) (x : Nat) (hx : 1 ≤ x) :
    0 < prefixN h st x := by
  have := prefixN_form hwf 0 1 hwf.1
  have h1 := pfxLk_pos hwf 1 (by omega)
  have hm := prefixN_mono h st hwf 1 x hx
  simp only [Nat.zero_mul, Nat.zero_add, Nat.mul_zero] at this
  omega

theorem prefix_bounds_aux (h : Nat) (st : List (Nat × Nat)) (hwf : prefixWF h st) (rels : List Nat)
    (hadm : ∀ t x, x ≤ h → cnt rels t x ≤ prefixN h st x) (c : Nat) :
    ∀ t p, p ≤ h → cnt rels t (c * h + p) ≤ pfxMax st 0 * c + pfxLk st 0 p := by
  induction c with
  | zero =>
    intro t p hp
    have := hadm t p hp
    have f := prefixN_form hwf 0 p hp
    simp only [Nat.zero_mul, Nat.zero_add, Nat.mul_zero] at f ⊢
    omega
  | succ c ih =>
    intro t p hp
    have e : (c + 1) * h + p = h + (c * h + p) := by rw [Nat.add_mul]; omega
    rw [e, cnt_add]
    have h1 := hadm t h (Nat.le_refl h)
    have f := prefixN_form hwf 1 0 (Nat.zero_le h)
    rw [pfxLk_zero hwf] at f
    simp only [Nat.one_mul, Nat.add_zero, Nat.mul_one] at f
    have h2 := ih (t + h) p hp
    rw [Nat.mul_add]
    omega

/-- C10 for `ArrivalCurvePrefix`: a sequence that obeys the curve inside the horizon obeys the
(pessimistically) extended curve everywhere -/
theorem prefix_bounds (h : Nat) (st : List (Nat × Nat)) (hwf : prefixWF h st) (rels : List Nat)
    (hadm : ∀ t x, x ≤ h → cnt rels t x ≤ prefixN h st x) (t x : Nat) :
    cnt rels t x ≤ prefixN h st x := by
  have b := prefix_bounds_aux h st hwf rels hadm (x / h) t (x % h)
    (Nat.le_of_lt (Nat.mod_lt x hwf.1))
  rwa [Nat.mul_comm (x / h) h, Nat.div_add_mod x h, ← prefixN_divmod hwf] at b

theorem pfx_takeWhile_all (M : List Nat) (H : Nat) (hall : ∀ x ∈ M, x ≤ H) :
    M.takeWhile (· ≤ H) = M := by
  induction M with
  | nil => rfl
  | cons m rest ih =>
    have hm : m ≤ H := hall m List.mem_cons_self
    rw [List.takeWhile_cons_of_pos (by simpa using hm),
      ih (fun x hx => hall x (List.mem_cons_of_mem _ hx))]

theorem pfx_takeWhile_full (M : List Nat) (H : Nat) :
    (M.takeWhile (· ≤ H)).length = M.length ↔ ∀ x ∈ M, x ≤ H := by
  constructor
  · intro hl
    have hp : M.takeWhile (· ≤ H) <+: M := List.takeWhile_prefix _
    have heq := hp.eq_of_length hl
    have hall : (M.takeWhile (· ≤ H)).all (· ≤ H) = true := List.all_takeWhile
    rw [heq, List.all_eq_true] at hall
    intro x hx
    simpa using hall x hx
  · intro hall
    rw [pfx_takeWhile_all M H hall]

theorem pfx_mem_takeWhile (M : List Nat) (H : Nat) (hs : M.Pairwise (· < ·)) (x : Nat) :
    x ∈ M.takeWhile (· ≤ H) ↔ x ∈ M ∧ x ≤ H := by
  induction M with
  | nil => simp
  | cons m rest ih =>
    rw [List.pairwise_cons] at hs
    rw [List.takeWhile_cons]
    by_cases hm : m ≤ H
    · simp only [hm, decide_true, if_true, List.mem_cons, ih hs.2]
      constructor
      · rintro (e | ⟨h1, h2⟩)
        · subst e; exact ⟨Or.inl rfl, hm⟩
        · exact ⟨Or.inr h1, h2⟩
      · rintro ⟨e | h1, h2⟩
        · exact Or.inl e
        · exact Or.inr ⟨h1, h2⟩
    · simp only [hm, decide_false, Bool.false_eq_true, if_false, List.not_mem_nil, false_iff,
        List.mem_cons]
      rintro ⟨e | h1, h2⟩
      · subst e; exact hm h2
      · have := hs.1 x h1; omega

theorem pfx_map_sorted {h : Nat} {st : List (Nat × Nat)} (hwf : prefixWF h st) (k : Nat) :
    (st.map fun s => s.1 + k).Pairwise (· < ·) := by
  rw [List.pairwise_map]
  exact hwf.2.2.2.2.1.imp (fun hab => by omega)

theorem pfx_cycle_lt {h : Nat} {st : List (Nat × Nat)} (hwf : prefixWF h st) {s s' : Nat × Nat}
    (hs : s ∈ st) (hs' : s' ∈ st) {c c' : Nat} (hc : c < c') : s.1 + h * c < s'.1 + h * c' := by
  have b1 := prefixWF_le_horizon hwf s hs
  have b2 := prefixWF_delta_pos hwf s' hs'
  obtain ⟨k, rfl⟩ : ∃ k, c' = c + 1 + k := ⟨c' - c - 1, by omega⟩
  rw [Nat.mul_add, Nat.mul_add, Nat.mul_one]
  omega

theorem pfx_aux_mem {h : Nat} {st : List (Nat × Nat)} (hwf : prefixWF h st) (H : Nat)
    (fuel : Nat) : ∀ cycle δ, δ ∈ prefixStepsAux h st H fuel cycle ↔
      δ ≤ H ∧ ∃ c s, cycle ≤ c ∧ c < cycle + fuel ∧ s ∈ st ∧ δ = s.1 + h * c := by
  induction fuel with
  | zero =>
    intro cycle δ
    simp only [prefixStepsAux, List.not_mem_nil, false_iff]
    rintro ⟨_, c, s, h1, h2, _⟩
    omega
  | succ fuel ih =>
    intro cycle δ
    have hsorted := pfx_map_sorted hwf (h * cycle)
    have hmemM : ∀ y, y ∈ (st.map fun s => s.1 + h * cycle) ↔ ∃ s ∈ st, y = s.1 + h * cycle := by
      intro y
      rw [List.mem_map]
      constructor
      · rintro ⟨s, hs, e⟩; exact ⟨s, hs, e.symm⟩
      · rintro ⟨s, hs, e⟩; exact ⟨s, hs, e.symm⟩
    have hlen : (st.map fun s => s.1 + h * cycle).length = st.length := List.length_map _
    simp only [prefixStepsAux]
    by_cases hall : ∀ x ∈ (st.map fun s => s.1 + h * cycle), x ≤ H
    · have hfull := (pfx_takeWhile_full _ H).2 hall
      rw [hlen] at hfull
      rw [if_pos hfull, List.mem_append, pfx_mem_takeWhile _ H hsorted, ih, hmemM]
      constructor
      · rintro (⟨⟨s, hs, e⟩, hH⟩ | ⟨hH, c, s, h1, h2, hs, e⟩)
        · exact ⟨hH, cycle, s, Nat.le_refl _, by omega, hs, e⟩
        · exact ⟨hH, c, s, by omega, by omega, hs, e⟩
      · rintro ⟨hH, c, s, h1, h2, hs, e⟩
        by_cases hc : c = cycle
        · subst hc; exact Or.inl ⟨⟨s, hs, e⟩, hH⟩
        · exact Or.inr ⟨hH, c, s, by omega, by omega, hs, e⟩
    · have hnf : ¬ ((st.map fun s => s.1 + h * cycle).takeWhile (· ≤ H)).length = st.length := by
        rw [← hlen, pfx_takeWhile_full]; exact hall
      rw [if_neg hnf, pfx_mem_takeWhile _ H hsorted, hmemM]
      constructor
      · rintro ⟨⟨s, hs, e⟩, hH⟩
        exact ⟨hH, cycle, s, Nat.le_refl _, by omega, hs, e⟩
      · rintro ⟨hH, c, s, h1, h2, hs, e⟩
        refine ⟨?_, hH⟩
        by_cases hc : c = cycle
        · subst hc; exact ⟨s, hs, e⟩
        · exfalso
          apply hall
          intro x hx
          obtain ⟨s', hs', e'⟩ := (hmemM x).1 hx
          have := pfx_cycle_lt hwf hs' hs (show cycle < c by omega)
          omega

theorem pfx_aux_sorted {h : Nat} {st : List (Nat × Nat)} (hwf : prefixWF h st) (H : Nat)
    (fuel : Nat) : ∀ cycle, (prefixStepsAux h st H fuel cycle).Pairwise (· < ·) := by
  induction fuel with
  | zero => intro cycle; simp [prefixStepsAux]
  | succ fuel ih =>
    intro cycle
    have hsorted := pfx_map_sorted hwf (h * cycle)
    have hcur : ((st.map fun s => s.1 + h * cycle).takeWhile (· ≤ H)).Pairwise (· < ·) :=
      hsorted.sublist (List.takeWhile_sublist _)
    simp only [prefixStepsAux]
    split
    · rw [List.pairwise_append]
      refine ⟨hcur, ih (cycle + 1), ?_⟩
      intro a ha b hb
      have ha' := (List.takeWhile_sublist _).mem ha
      rw [List.mem_map] at ha'
      obtain ⟨s, hs, ea⟩ := ha'
      obtain ⟨_, c, s', h1, _, hs', eb⟩ := (pfx_aux_mem hwf H fuel (cycle + 1) b).1 hb
      have := pfx_cycle_lt hwf hs hs' (show cycle < c by omega)
      omega
    · exact hcur

theorem prefixN_inc {h : Nat} {st : List (Nat × Nat)} (hwf : prefixWF h st) (δ : Nat) (hδ : 1 ≤ δ) :
    prefixN h st (δ - 1) < prefixN h st δ ↔ ∃ c s, s ∈ st ∧ δ = s.1 + h * c := by
  have hh : 1 ≤ h := hwf.1
  have key : ∀ c p, 1 ≤ p → p ≤ h →
      (prefixN h st (c * h + p - 1) < prefixN h st (c * h + p) ↔ ∃ s ∈ st, s.1 = p) := by
    intro c p hp1 hp2
    have e : c * h + p - 1 = c * h + (p - 1) := by omega
    rw [e, prefixN_form hwf c p hp2, prefixN_form hwf c (p - 1) (by omega),
      ← pfxLk_inc st 0 p (prefixWF_chain hwf) hp1]
    omega
  constructor
  · intro hlt
    have ed := Nat.div_add_mod (δ - 1) h
    have ld := Nat.mod_lt (δ - 1) (by omega : 0 < h)
    have e : δ = (δ - 1) / h * h + ((δ - 1) % h + 1) := by
      rw [Nat.mul_comm]; omega
    rw [e] at hlt
    obtain ⟨s, hs, es⟩ := (key ((δ - 1) / h) ((δ - 1) % h + 1) (by omega) (by omega)).1 hlt
    refine ⟨(δ - 1) / h, s, hs, ?_⟩
    rw [es]; omega
  · rintro ⟨c, s, hs, e⟩
    have b1 := prefixWF_le_horizon hwf s hs
    have b2 := prefixWF_delta_pos hwf s hs
    have e' : δ = c * h + s.1 := by rw [Nat.mul_comm]; omega
    rw [e']
    exact (key c s.1 b2 b1).2 ⟨s, hs, rfl⟩

/-- C11 for `ArrivalCurvePrefix`: apart from the leading `0` (finding K1) the iterator is exact -/
theorem prefix_steps_spec0 (h : Nat) (st : List (Nat × Nat)) (hwf : prefixWF h st) (H : Nat) :
    StepsSpec0 (prefixN h st) H (prefixSteps h st H) := by
  have hh : 1 ≤ h := hwf.1
  unfold prefixSteps
  refine ⟨?_, fun δ hδ => ?_⟩
  · rw [List.pairwise_cons]
    refine ⟨fun b hb => ?_, pfx_aux_sorted hwf H (H + 1) 0⟩
    obtain ⟨_, c, s, _, _, hs, e⟩ := (pfx_aux_mem hwf H (H + 1) 0 b).1 hb
    have := prefixWF_delta_pos hwf s hs
    omega
  · rw [List.mem_cons, pfx_aux_mem hwf H (H + 1) 0 δ, prefixN_inc hwf δ hδ]
    constructor
    · rintro (e | ⟨hH, c, s, _, _, hs, e⟩)
      · omega
      · exact ⟨hH, c, s, hs, e⟩
    · rintro ⟨hH, c, s, hs, e⟩
      refine Or.inr ⟨hH, c, s, Nat.zero_le _, ?_, hs, e⟩
      have : c ≤ h * c := Nat.le_mul_of_pos_left c (by omega)
      omega

/-- finding K1: the iterator yields 0, which is not an increase point and is not `≥ 1` -/
theorem prefix_steps_yield_zero (h : Nat) (st : List (Nat × Nat)) (H : Nat) :
    0 ∈ prefixSteps h st H := by
  unfold prefixSteps
  exact List.mem_cons_self

end RTA
