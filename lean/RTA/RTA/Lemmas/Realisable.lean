import RTA.Lemmas.Extrapolate
import RTA.Lemmas.Tight
/-! C18: auto-extrapolating super-additive delta-min curves are realisable.

For a well-formed prefix `d` (entry `k` = minimum span of `k + 2` events) that is
super-additive, the "densest" event sequence — first event at `t₀`, event `m + 1` at
`t₀ + D[m]`, where `D` is the prefix continued by `extrapolate_next` — respects the curve
(is admissible for `ExtrapolatingCurve`) and has exactly `number_arrivals(Δ)` events in
`[t₀, t₀ + Δ)` for every `Δ` it covers. -/

namespace RTA
open RTA.Spec RTA.Sched

/-- `d[n] ≥ d[k] + d[n-k-1]` for every split of `n + 2` events into two groups sharing one event -/
def SuperAdditive (d : List Nat) : Prop :=
  ∀ n k, n < d.length → k < n → d.getD k 0 + d.getD (n - k - 1) 0 ≤ d.getD n 0

/-- the densest event sequence from `t₀`, using the prefix and `n` extrapolated entries -/
def densest (d : List Nat) (n t₀ : Nat) : List Nat := t₀ :: (iterExt d n).map (· + t₀)

namespace Realisable

theorem superAdditive_snoc (D : List Nat) (h : SuperAdditive D) :
    SuperAdditive (D ++ [extrapolateNext D]) := by
  intro n k hn hk
  rw [List.length_append, List.length_singleton] at hn
  by_cases hnl : n < D.length
  · rw [getD_append_left (by omega), getD_append_left (by omega),
      getD_append_left hnl]
    exact h n k hnl hk
  · have e : n = D.length := by omega
    subst e
    rw [getD_append_left (by omega), getD_append_left (by omega),
      getD_append_last]
    have := le_extrapolateNext D k hk
    have e2 : D.length - 1 - k = D.length - k - 1 := by omega
    rw [e2] at this
    exact this

theorem superAdditive_iterExt (d : List Nat) (h : SuperAdditive d) (n : Nat) :
    SuperAdditive (iterExt d n) := by
  induction n with
  | zero => exact h
  | succ n ih => exact superAdditive_snoc _ ih

theorem getD_map_add (D : List Nat) (c j : Nat) (hj : j < D.length) :
    (D.map (· + c)).getD j 0 = D.getD j 0 + c := by
  rw [List.getD_eq_getElem?_getD, List.getD_eq_getElem?_getD, List.getElem?_map,
    List.getElem?_eq_getElem hj]
  rfl

theorem countLt_map_add (D : List Nat) (c x : Nat) :
    countLt (D.map (· + c)) (c + x) = countLt D x := by
  induction D with
  | nil => rfl
  | cons v vs ih =>
    rw [List.map_cons, countLt_cons, countLt_cons, ih]
    congr 1
    by_cases hv : v < x
    · rw [if_pos hv, if_pos (by omega)]
    · rw [if_neg hv, if_neg (by omega)]

end Realisable
open Realisable

theorem densest_admissible (d : List Nat) (hwf : curveWF d) (h2 : 2 ≤ d.length) (hsa : SuperAdditive d)
    (n t₀ : Nat) : Admissible (.xcurve d) (densest d n t₀) := by
  rw [Admissible]
  have _ := h2
  have hwfD := iterExt_wf d hwf n
  have hsaD := superAdditive_iterExt d hsa n
  have hlen := iterExt_length d n
  unfold densest
  constructor
  · rw [List.pairwise_cons]
    constructor
    · intro x hx
      rw [List.mem_map] at hx
      obtain ⟨v, _, rfl⟩ := hx
      omega
    · rw [List.pairwise_map]
      exact hwfD.2.1.imp (fun h => by omega)
  · intro i k hk hik
    rw [List.length_cons, List.length_map, hlen] at hik
    cases i with
    | zero =>
      rw [show 0 + k + 1 = k + 1 by omega, List.getD_cons_succ, List.getD_cons_zero,
        getD_map_add _ _ _ (by omega), iterExt_getD_orig d n k hk]
      omega
    | succ m =>
      rw [show m + 1 + k + 1 = (m + k + 1) + 1 by omega, List.getD_cons_succ, List.getD_cons_succ,
        getD_map_add _ _ _ (by omega), getD_map_add _ _ _ (by omega)]
      have := hsaD (m + k + 1) m (by omega) (by omega)
      rw [show m + k + 1 - m - 1 = k by omega, iterExt_getD_orig d n k hk] at this
      omega

/-- the realisation half of `C18.extrapolating_curve_realisable`: exactly `number_arrivals(Δ)`
events in `[t₀, t₀ + Δ)` for every `Δ ≤ H`, provided the extrapolated entries reach beyond `H`;
`hsa` is not used. -/
theorem densest_realises (d : List Nat) (hwf : curveWF d) (h2 : 2 ≤ d.length) (hsa : SuperAdditive d)
    (n t₀ H : Nat) (hn : H ≤ (iterExt d n).getLastD 0) :
    RealisesFrom (.xcurve d) (densest d n t₀) t₀ H := by
  have _ := hsa
  have hall : ∀ r ∈ densest d n t₀, t₀ ≤ r := by
    intro r hr
    unfold densest at hr
    rcases List.mem_cons.1 hr with rfl | hr
    · exact Nat.le_refl _
    · rw [List.mem_map] at hr
      obtain ⟨v, _, rfl⟩ := hr
      omega
  refine ⟨hall, ?_⟩
  intro Δ hΔ
  rw [Arr.N]
  by_cases h0 : Δ = 0
  · subst h0; rw [cnt_zero, xcurveN_zero]
  · rw [cnt_eq_countLt _ t₀ Δ hall]
    unfold densest
    rw [countLt_cons, if_pos (by omega), countLt_map_add]
    obtain ⟨n', hn'⟩ := exists_iterExt_last_gt d hwf h2 Δ
    have hmono := iterExt_last_mono d hwf n' n
    rw [xcurveN_eq d hwf h2 Δ (n' + n) (by omega) (by omega), Nat.add_comm n' n,
      countLt_iterExt_stable d hwf n n' Δ (by omega)]

theorem densest_covers (d : List Nat) (hwf : curveWF d) (h2 : 2 ≤ d.length) (H : Nat) :
    ∃ n, H ≤ (iterExt d n).getLastD 0 := by
  obtain ⟨n, hn⟩ := exists_iterExt_last_gt d hwf h2 H
  exact ⟨n, Nat.le_of_lt hn⟩

/-- non-vacuity: a bursty super-additive prefix (pairs of events 1 apart, one pair every 10) -/
example : curveWF [1, 10, 11] ∧ SuperAdditive [1, 10, 11] ∧ iterExt [1, 10, 11] 2 = [1, 10, 11, 20, 21] := by
  refine ⟨by decide, ?_, by decide⟩
  intro n k hn hk
  have hn' : n < 3 := hn
  have : (n = 1 ∧ k = 0) ∨ (n = 2 ∧ k = 0) ∨ (n = 2 ∧ k = 1) := by omega
  rcases this with ⟨rfl, rfl⟩ | ⟨rfl, rfl⟩ | ⟨rfl, rfl⟩ <;> decide

end RTA
