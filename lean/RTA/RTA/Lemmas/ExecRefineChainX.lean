import RTA.Lemmas.ExecChainJobs
import RTA.Spec.Ros2ExecX
/-! Refinement for processing chains over the executor transition system with ARBITRARY execution
times (`RTA/Spec/Ros2ExecX.lean`): every run with a linear chain satisfies the schedule-level Spec
used by `chain_sound`, and the completions of the last callback that `ExecX.run` reports are those
of the run's job system.  The jobs (`n`, `task`, `arr`) are those of `Exec.toSysC`, the cost of a
job is the execution time that the instance actually gets (`ex i t0`, `t0` its start slot; the WCET
if it never starts).  Everything that does not depend on the run (structure of the chain, the state
invariant `Good`, the jobs `jobC`) is in `Lemmas/ExecChainJobs.lean`.  The chain may be empty:
`Lemmas/ExecRefineX.lean` instantiates this file at `ch = []`. -/

open Finset

namespace RTA.ExecX
open RTA RTA.Sched RTA.Exec

variable (cbs : List Cb) (ex : ℕ → ℕ → ℕ) (ch : List ℕ) (sigma : ℕ → Bool) (rels : ℕ → List ℕ)

namespace RefineXLemmas

theorem pick_timer (t : ℕ) (s : State) (i : ℕ) (h : bestOf cbs (pendingTimers cbs s.queue) = some i) :
    pick cbs ex t s =
      { queue := s.queue.set i ((s.queue.getD i []).drop 1), ready := s.ready,
        running := some (i, ex i t, (s.queue.getD i []).headD 0) } := by
  simp [pick, h, popInstance]

theorem pick_polled (t : ℕ) (s : State) (i : ℕ) (h : bestOf cbs (pendingTimers cbs s.queue) = none)
    (h2 : bestOf cbs (if s.ready.isEmpty then pendingPolled cbs s.queue else s.ready) = some i) :
    pick cbs ex t s =
      { queue := s.queue.set i ((s.queue.getD i []).drop 1),
        ready := (if s.ready.isEmpty then pendingPolled cbs s.queue else s.ready).erase i,
        running := some (i, ex i t, (s.queue.getD i []).headD 0) } := by
  simp only [pick, h, h2, popInstance]

theorem pick_none (t : ℕ) (s : State) (h : bestOf cbs (pendingTimers cbs s.queue) = none)
    (h2 : bestOf cbs (if s.ready.isEmpty then pendingPolled cbs s.queue else s.ready) = none) :
    pick cbs ex t s = { s with ready := (if s.ready.isEmpty then pendingPolled cbs s.queue else s.ready) } := by
  simp only [pick, h, h2]

theorem svc_zero_not_sched (s : Sys) (k : ℕ) : ∀ t, svc s k t = 0 → ∀ u, u < t → s.sched u ≠ some k := by
  intro t
  induction t with
  | zero => intro _ u hu; omega
  | succ t ih =>
    intro h u hu hs
    simp only [svc] at h
    rcases Nat.lt_or_ge u t with h' | h'
    · exact ih (by omega) u h' hs
    · have e : u = t := by omega
      subst e
      rw [if_pos hs] at h; omega

end RefineXLemmas

/-- the state at the beginning of slot `t` -/
def stateAtC : ℕ → State
  | 0 => State.init cbs.length
  | t + 1 => (step cbs ex (chainFn ch) t (sigma t) (rels t) (stateAtC t)).1

/-- state of slot `t` after recording the releases and picking -/
def pickedAtC (t : ℕ) : State :=
  let s1 := { stateAtC cbs ex ch sigma rels t with
    queue := addReleases (stateAtC cbs ex ch sigma rels t).queue (rels t) t }
  if !sigma t then s1 else
  match s1.running with
  | some _ => s1
  | none => pick cbs ex t s1

def servedCbC (t : ℕ) : Option ℕ :=
  if !sigma t then none else (pickedAtC cbs ex ch sigma rels t).running.map (·.1)

def startsCbC (t i : ℕ) : Bool :=
  sigma t && (({ stateAtC cbs ex ch sigma rels t with
      queue := addReleases (stateAtC cbs ex ch sigma rels t).queue (rels t) t } : State).running.isNone) &&
    (servedCbC cbs ex ch sigma rels t == some i)

def startedBeforeC (i : ℕ) : ℕ → ℕ
  | 0 => 0
  | t + 1 => startedBeforeC i t + (if startsCbC cbs ex ch sigma rels t i then 1 else 0)

def taskCX (H k : ℕ) : ℕ :=
  if k < (events rels H).length then ((events rels H).getD k (0, 0)).2
  else ch.getD ((k - (events rels H).length) / nSrc ch rels H + 1) 0

def schedCX (H t : ℕ) : Option ℕ :=
  match servedCbC cbs ex ch sigma rels t with
  | none => none
  | some i =>
    let m0 := startedBeforeC cbs ex ch sigma rels i t
    let m := if startsCbC cbs ex ch sigma rels t i then m0 else m0 - 1
    match ch.findIdx? (· = i) with
    | some (x + 1) => some ((events rels H).length + x * nSrc ch rels H + m)
    | _ => nthEventOf rels H i m

open Classical in
/-- the cost of job `k` = the execution time its instance actually gets: `ex i t0` where `t0` is
the first slot in which the job is served (its start slot); the WCET if it is never served -/
noncomputable def costCX (H k : ℕ) : ℕ :=
  if h : ∃ t, schedCX cbs ex ch sigma rels H t = some k ∧
      ∀ u, u < t → schedCX cbs ex ch sigma rels H u ≠ some k
  then ex (taskCX ch rels H k) (Classical.choose h)
  else (cbs.getD (taskCX ch rels H k) default).cost

/-- the job system of a run with a chain: jobs, callbacks and arrival times as in `Exec.toSysC`,
costs = actual execution times -/
noncomputable def toSysCX (H : ℕ) : Sys where
  n := (events rels H).length + (ch.length - 1) * nSrc ch rels H
  task := taskCX ch rels H
  arr := fun k =>
    if k < (events rels H).length then ((events rels H).getD k (0, 0)).1
    else
      match nthEventOf rels H (ch.headD 0) ((k - (events rels H).length) % nSrc ch rels H) with
      | some e => ((events rels H).getD e (0, 0)).1
      | none => 0
  cost := costCX cbs ex ch sigma rels H
  np := fun _ _ => False
  sched := schedCX cbs ex ch sigma rels H

namespace ChainRefineXLemmas
open RTA.Exec.RefineLemmas RTA.Exec.ChainRefineLemmas

section slotEquations
variable (cbs : List Cb) (ex : ℕ → ℕ → ℕ) (ch : List ℕ) (sigma : ℕ → Bool) (rels : ℕ → List ℕ)

def relAtC (t : ℕ) : State :=
  { stateAtC cbs ex ch sigma rels t with
    queue := addReleases (stateAtC cbs ex ch sigma rels t).queue (rels t) t }

theorem stateAtC_succ (t : ℕ) : stateAtC cbs ex ch sigma rels (t + 1) =
    if sigma t = true then fin ch t (pickedAtC cbs ex ch sigma rels t) else relAtC cbs ex ch sigma rels t := by
  cases hs : sigma t with
  | false => simp [stateAtC, step, hs, relAtC]
  | true =>
    simp only [stateAtC, step, pickedAtC, hs, relAtC]
    simp only [Bool.not_true, Bool.false_eq_true, if_false, if_true]
    exact fin_aux ch t _

theorem pickedAtC_eq (t : ℕ) : pickedAtC cbs ex ch sigma rels t =
    if sigma t = true then
      (match (relAtC cbs ex ch sigma rels t).running with
        | some _ => relAtC cbs ex ch sigma rels t
        | none => pick cbs ex t (relAtC cbs ex ch sigma rels t))
    else relAtC cbs ex ch sigma rels t := by
  cases hs : sigma t <;> simp [pickedAtC, hs, relAtC]

theorem startsCbC_eq (t c : ℕ) : startsCbC cbs ex ch sigma rels t c =
    (sigma t && (relAtC cbs ex ch sigma rels t).running.isNone &&
      (servedCbC cbs ex ch sigma rels t == some c)) := rfl

theorem servedCbC_eq (t : ℕ) : servedCbC cbs ex ch sigma rels t =
    if sigma t = true then (pickedAtC cbs ex ch sigma rels t).running.map (·.1) else none := by
  cases hs : sigma t <;> simp [servedCbC, hs]

end slotEquations

section run
variable {cbs : List Cb} {ex : ℕ → ℕ → ℕ} {ch : List ℕ} {sigma : ℕ → Bool} {rels : ℕ → List ℕ} {H : ℕ}

local notation "St" => stateAtC cbs ex ch sigma rels
local notation "Rl" => relAtC cbs ex ch sigma rels
local notation "sb" => startedBeforeC cbs ex ch sigma rels
local notation "Sy" => toSysCX cbs ex ch sigma rels H

section slotCases

variable (cbs ex ch sigma rels) in
/-- the ready set used by `pick` in slot `t` -/
def readyAtC (t : ℕ) : List ℕ :=
  if (Rl t).ready.isEmpty then pendingPolled cbs (Rl t).queue else (Rl t).ready

variable {t : ℕ}

/-- an unsupplied slot -/
theorem slotA (hs : sigma t = false) :
    servedCbC cbs ex ch sigma rels t = none ∧ (∀ c, startsCbC cbs ex ch sigma rels t c = false) ∧
    St (t + 1) = Rl t := by
  refine ⟨by simp [servedCbC_eq, hs], fun c => by simp [startsCbC_eq, hs],
    by simp [stateAtC_succ, hs]⟩

/-- a supplied slot in which the running instance continues -/
theorem slotB (hs : sigma t = true) {i rem r : ℕ} (hr : (Rl t).running = some (i, rem, r)) :
    servedCbC cbs ex ch sigma rels t = some i ∧ (∀ c, startsCbC cbs ex ch sigma rels t c = false) ∧
    pickedAtC cbs ex ch sigma rels t = Rl t := by
  have hp : pickedAtC cbs ex ch sigma rels t = Rl t := by rw [pickedAtC_eq]; simp [hs, hr]
  exact ⟨by simp [servedCbC_eq, hs, hp, hr], fun c => by simp [startsCbC_eq, hr], hp⟩

/-- a supplied idle slot with a pending timer: the best timer starts -/
theorem slotC (hs : sigma t = true) (hr : (Rl t).running = none) {i : ℕ}
    (hb : bestOf cbs (pendingTimers cbs (Rl t).queue) = some i) :
    servedCbC cbs ex ch sigma rels t = some i ∧ (∀ c, startsCbC cbs ex ch sigma rels t c = true ↔ c = i) ∧
    pickedAtC cbs ex ch sigma rels t =
      { queue := (Rl t).queue.set i (((Rl t).queue.getD i []).drop 1),
        ready := (Rl t).ready,
        running := some (i, ex i t, ((Rl t).queue.getD i []).headD 0) } := by
  have hp0 : pickedAtC cbs ex ch sigma rels t = pick cbs ex t (Rl t) := by
    rw [pickedAtC_eq, if_pos hs]; simp only [hr]
  have hp := hp0.trans (RefineXLemmas.pick_timer cbs ex t _ i hb)
  have hsv : servedCbC cbs ex ch sigma rels t = some i := by simp [servedCbC_eq, hs, hp]
  refine ⟨hsv, fun c => ?_, hp⟩
  rw [startsCbC_eq, hs, hr, hsv]
  simp only [Option.isNone_none, Bool.and_self, Bool.true_and, beq_iff_eq, Option.some.injEq]
  exact eq_comm

/-- a supplied idle slot without pending timer: the best callback of the ready set starts -/
theorem slotD (hs : sigma t = true) (hr : (Rl t).running = none)
    (hb : bestOf cbs (pendingTimers cbs (Rl t).queue) = none) {i : ℕ}
    (hb2 : bestOf cbs (readyAtC cbs ex ch sigma rels t) = some i) :
    servedCbC cbs ex ch sigma rels t = some i ∧ (∀ c, startsCbC cbs ex ch sigma rels t c = true ↔ c = i) ∧
    pickedAtC cbs ex ch sigma rels t =
      { queue := (Rl t).queue.set i (((Rl t).queue.getD i []).drop 1),
        ready := (readyAtC cbs ex ch sigma rels t).erase i,
        running := some (i, ex i t, ((Rl t).queue.getD i []).headD 0) } := by
  have hp0 : pickedAtC cbs ex ch sigma rels t = pick cbs ex t (Rl t) := by
    rw [pickedAtC_eq, if_pos hs]; simp only [hr]
  have hp := hp0.trans (RefineXLemmas.pick_polled cbs ex t _ i hb hb2)
  have hsv : servedCbC cbs ex ch sigma rels t = some i := by simp [servedCbC_eq, hs, hp]
  refine ⟨hsv, fun c => ?_, hp⟩
  rw [startsCbC_eq, hs, hr, hsv]
  simp only [Option.isNone_none, Bool.and_self, Bool.true_and, beq_iff_eq, Option.some.injEq]
  exact eq_comm

/-- a supplied idle slot with nothing to pick -/
theorem slotE (hs : sigma t = true) (hr : (Rl t).running = none)
    (hb : bestOf cbs (pendingTimers cbs (Rl t).queue) = none)
    (hb2 : bestOf cbs (readyAtC cbs ex ch sigma rels t) = none) :
    servedCbC cbs ex ch sigma rels t = none ∧ (∀ c, startsCbC cbs ex ch sigma rels t c = false) ∧
    pickedAtC cbs ex ch sigma rels t = { Rl t with ready := readyAtC cbs ex ch sigma rels t } := by
  have hp0 : pickedAtC cbs ex ch sigma rels t = pick cbs ex t (Rl t) := by
    rw [pickedAtC_eq, if_pos hs]; simp only [hr]
  have hp := hp0.trans (RefineXLemmas.pick_none cbs ex t _ hb hb2)
  have hsv : servedCbC cbs ex ch sigma rels t = none := by simp [servedCbC_eq, hs, hp, hr]
  exact ⟨hsv, fun c => by simp [startsCbC_eq, hsv], hp⟩

theorem sbC_succ (i t : ℕ) : sb i (t + 1) = sb i t + if startsCbC cbs ex ch sigma rels t i = true then 1 else 0 := rfl

theorem sbC_keep (hst : ∀ c, startsCbC cbs ex ch sigma rels t c = false) (i : ℕ) : sb i (t + 1) = sb i t := by
  rw [sbC_succ, hst]; rfl

theorem sbC_start {i0 : ℕ} (hst : ∀ c, startsCbC cbs ex ch sigma rels t c = true ↔ c = i0) (i : ℕ) :
    sb i (t + 1) = sb i t + if i = i0 then 1 else 0 := by
  rw [sbC_succ]
  by_cases e : i = i0
  · rw [if_pos ((hst i).2 e), if_pos e]
  · rw [if_neg (fun hh => e ((hst i).1 hh)), if_neg e]

end slotCases

section bookkeeping

variable (cbs ex ch sigma rels) in
def Inv1C (t : ℕ) : Prop := Good cbs ch (St t) (fun i => sb i t) (fun i => cnt rels i t)

theorem inv1C_zero : Inv1C cbs ex ch sigma rels 0 := by
  refine ⟨by simp [stateAtC, State.init], ?_, ?_, ?_, by simp [stateAtC, State.init], ?_, ?_⟩
  · intro i hi _
    simp [stateAtC, State.init, startedBeforeC, cnt, List.getD_eq_getElem?_getD, getD_replicate_nil]
  · intro x hx
    simp [stateAtC, State.init, startedBeforeC, List.getD_eq_getElem?_getD, getD_replicate_nil]
  · intro i rem r h; simp [stateAtC, State.init] at h
  · intro c hc; simp [stateAtC, State.init] at hc
  · intro c hc; simp [stateAtC, State.init] at hc

variable (hnd : ch.Nodup) (hmem : ∀ i ∈ ch, i < cbs.length) (hext : ∀ t, ∀ i ∈ rels t, i ∉ ch.tail)
  (hexec : ∀ k, k < cbs.length → ∀ t, 1 ≤ ex k t ∧ ex k t ≤ (cbs.getD k default).cost)
variable {t : ℕ}
include hmem hext

theorem goodRl_of (h : Inv1C cbs ex ch sigma rels t) :
    Good cbs ch (Rl t) (fun i => sb i t) (fun i => cnt rels i (t + 1)) :=
  (good_rel hmem h (rels t) t (hext t)).congr (fun _ => rfl) (fun _ => rfl)

include hexec in
theorem goodPk_of (h : Inv1C cbs ex ch sigma rels t) (hs : sigma t = true) :
    Good cbs ch (pickedAtC cbs ex ch sigma rels t) (fun i => sb i (t + 1)) (fun i => cnt rels i (t + 1)) := by
  have g := goodRl_of hmem hext h
  rcases hr : (Rl t).running with _ | ⟨i, rem, r⟩
  · cases hb : bestOf cbs (pendingTimers cbs (Rl t).queue) with
    | some i =>
      obtain ⟨_, hst, hp⟩ := slotC hs hr hb
      have hm := (mem_pendingTimers _ _ _).1 (bestOf_mem _ _ _ hb)
      rw [hp]
      refine (good_pop hmem g hr i hm.1 hm.2.2 _ _ _ (hexec _ hm.1 t).1 g.rNodup ?_).congr
        (sbC_start hst) (fun _ => rfl)
      intro c hc
      have h1 := g.rPolled c hc
      refine ⟨?_, h1.1, h1.2, g.rPend c hc⟩
      intro e; subst e; rw [h1.2] at hm; exact absurd hm.2.1 (by simp)
    | none =>
      cases hb2 : bestOf cbs (readyAtC cbs ex ch sigma rels t) with
      | some i =>
        obtain ⟨_, hst, hp⟩ := slotD hs hr hb hb2
        have hm := good_rdy_mem g i (bestOf_mem _ _ _ hb2)
        rw [hp]
        refine (good_pop hmem g hr i hm.1 hm.2.2 _ _ _ (hexec _ hm.1 t).1
          ((good_rdy_nodup g).erase i) ?_).congr (sbC_start hst) (fun _ => rfl)
        intro c hc
        rw [(good_rdy_nodup g).mem_erase_iff] at hc
        exact ⟨hc.1, good_rdy_mem g c hc.2⟩
      | none =>
        obtain ⟨_, hst, hp⟩ := slotE hs hr hb hb2
        rw [hp]
        exact (good_ready g _ (good_rdy_nodup g) (good_rdy_mem g)).congr (sbC_keep hst) (fun _ => rfl)
  · obtain ⟨_, hst, hp⟩ := slotB hs hr
    rw [hp]
    exact g.congr (sbC_keep hst) (fun _ => rfl)

include hnd hexec in
theorem inv1C_succ (h : Inv1C cbs ex ch sigma rels t) : Inv1C cbs ex ch sigma rels (t + 1) := by
  unfold Inv1C
  cases hs : sigma t with
  | false =>
    obtain ⟨_, hst, hnext⟩ := slotA (cbs := cbs) (ex := ex) (ch := ch) (rels := rels) hs
    rw [hnext]
    exact (goodRl_of hmem hext h).congr (sbC_keep hst) (fun _ => rfl)
  | true =>
    rw [stateAtC_succ, if_pos hs]
    exact good_fin hmem hnd (goodPk_of hmem hext hexec h hs) t

end bookkeeping

section slotShape

variable (hnd : ch.Nodup) (hmem : ∀ i ∈ ch, i < cbs.length) (hext : ∀ t, ∀ i ∈ rels t, i ∉ ch.tail)
  (hexec : ∀ k, k < cbs.length → ∀ t, 1 ≤ ex k t ∧ ex k t ≤ (cbs.getD k default).cost)
include hnd hmem hext hexec

theorem inv1C : ∀ t, Inv1C cbs ex ch sigma rels t
  | 0 => inv1C_zero
  | t + 1 => inv1C_succ hnd hmem hext hexec (inv1C t)

theorem goodRl (t : ℕ) : Good cbs ch (Rl t) (fun i => sb i t) (fun i => cnt rels i (t + 1)) :=
  goodRl_of hmem hext (inv1C hnd hmem hext hexec t)

omit hnd hmem hext hexec in
theorem readyAtC_of_empty {t : ℕ} (h : (St t).ready = []) :
    readyAtC cbs ex ch sigma rels t = pendingPolled cbs (Rl t).queue := by
  unfold readyAtC
  have : (Rl t).ready = [] := h
  rw [this]; rfl

omit hnd hmem hext hexec in
theorem readyAtC_of_nonempty {t : ℕ} (h : (St t).ready ≠ []) :
    readyAtC cbs ex ch sigma rels t = (St t).ready := by
  unfold readyAtC
  have : (Rl t).ready.isEmpty = false := List.isEmpty_eq_false_iff.2 h
  rw [this]; rfl

end slotShape

section jobs

theorem jobCX_facts (hnd : ch.Nodup) (hfin : ∀ t, H ≤ t → rels t = []) {i m k : ℕ}
    (hj : jobC ch rels H i m = some k) :
    k < (Sy).n ∧ (Sy).task k = i ∧ ∀ t, (Sy).arr k ≤ t ↔ m < cnt rels (src ch i) (t + 1) :=
  jobC_facts (cbs := cbs) (sigma := sigma) hnd hfin hj

theorem jobCX_exists (hnd : ch.Nodup) (hmem : ∀ i ∈ ch, i < cbs.length)
    (hidx : ∀ t, ∀ i ∈ rels t, i < cbs.length)
    (hext : ∀ t, ∀ i ∈ rels t, i ∉ ch.tail) {k : ℕ} (hk : k < (Sy).n) :
    ∃ i m, i < cbs.length ∧ jobC ch rels H i m = some k :=
  jobC_exists (cbs := cbs) (sigma := sigma) hnd hmem hidx hext hk

theorem costCX_first {k t : ℕ} (h1 : schedCX cbs ex ch sigma rels H t = some k)
    (h2 : ∀ u, u < t → schedCX cbs ex ch sigma rels H u ≠ some k) :
    costCX cbs ex ch sigma rels H k = ex (taskCX ch rels H k) t := by
  unfold costCX
  have hE : ∃ t, schedCX cbs ex ch sigma rels H t = some k ∧
      ∀ u, u < t → schedCX cbs ex ch sigma rels H u ≠ some k := ⟨t, h1, h2⟩
  rw [dif_pos hE, choose_first hE h1 h2]

theorem costCX_bounds (hexec : ∀ k, k < cbs.length → ∀ t, 1 ≤ ex k t ∧ ex k t ≤ (cbs.getD k default).cost)
    {k : ℕ} (hk : taskCX ch rels H k < cbs.length) :
    1 ≤ costCX cbs ex ch sigma rels H k ∧
      costCX cbs ex ch sigma rels H k ≤ (cbs.getD (taskCX ch rels H k) default).cost := by
  unfold costCX
  split
  · exact hexec _ hk _
  · have := hexec _ hk 0; omega

end jobs

structure HypX (cbs : List Cb) (ex : ℕ → ℕ → ℕ) (ch : List ℕ) (rels : ℕ → List ℕ) (H : ℕ) : Prop where
  hnd : ch.Nodup
  hmem : ∀ i ∈ ch, i < cbs.length
  hidx : ∀ t, ∀ i ∈ rels t, i < cbs.length
  hext : ∀ t, ∀ i ∈ rels t, i ∉ ch.tail
  hfin : ∀ t, H ≤ t → rels t = []
  hexec : ∀ k, k < cbs.length → ∀ t, 1 ≤ ex k t ∧ ex k t ≤ (cbs.getD k default).cost

section slotShapes
variable (cbs ex ch sigma rels)

/-- slot `t` serves nothing -/
structure SlotIdle (t : ℕ) : Prop where
  served : servedCbC cbs ex ch sigma rels t = none
  starts : ∀ c, startsCbC cbs ex ch sigma rels t c = false
  running_succ : (St (t + 1)).running = (St t).running
  nothing : sigma t = true → (St t).running = none ∧ pendingTimers cbs (Rl t).queue = [] ∧
    readyAtC cbs ex ch sigma rels t = []

/-- slot `t` continues the running instance `(i, rem, r)` -/
structure SlotContinues (t i rem r : ℕ) : Prop where
  supplied : sigma t = true
  running : (St t).running = some (i, rem, r)
  served : servedCbC cbs ex ch sigma rels t = some i
  starts : ∀ c, startsCbC cbs ex ch sigma rels t c = false
  running_succ : (St (t + 1)).running = if rem ≤ 1 then none else some (i, rem - 1, r)

/-- slot `t` starts an instance of `i`, released at `r0` -/
structure SlotStarts (t i r0 : ℕ) : Prop where
  supplied : sigma t = true
  running : (St t).running = none
  served : servedCbC cbs ex ch sigma rels t = some i
  starts : ∀ c, startsCbC cbs ex ch sigma rels t c = true ↔ c = i
  lt : i < cbs.length
  queued : 0 < ((Rl t).queue.getD i []).length
  running_succ : (St (t + 1)).running = if ex i t ≤ 1 then none else some (i, ex i t - 1, r0)
  best : bestOf cbs (pendingTimers cbs (Rl t).queue) = some i ∨
    (pendingTimers cbs (Rl t).queue = [] ∧ bestOf cbs (readyAtC cbs ex ch sigma rels t) = some i)

end slotShapes

section service
variable (hy : HypX cbs ex ch rels H)

include hy

theorem inv1 (t : ℕ) : Good cbs ch (St t) (fun i => sb i t) (fun i => cnt rels i t) :=
  inv1C hy.hnd hy.hmem hy.hext hy.hexec t

theorem gRl (t : ℕ) : Good cbs ch (Rl t) (fun i => sb i t) (fun i => cnt rels i (t + 1)) :=
  goodRl hy.hnd hy.hmem hy.hext hy.hexec t

theorem slots (t : ℕ) : SlotIdle cbs ex ch sigma rels t ∨
    (∃ i rem r, SlotContinues cbs ex ch sigma rels t i rem r) ∨ ∃ i r0, SlotStarts cbs ex ch sigma rels t i r0 := by
  have g := gRl (sigma := sigma) hy t
  cases hs : sigma t with
  | false =>
    obtain ⟨hsv, hst, hnext⟩ := slotA (cbs := cbs) (ex := ex) (ch := ch) (rels := rels) hs
    exact Or.inl ⟨hsv, hst, by rw [hnext]; rfl, fun h => by rw [hs] at h; cases h⟩
  | true =>
    have hnext : St (t + 1) = fin ch t (pickedAtC cbs ex ch sigma rels t) := by rw [stateAtC_succ, if_pos hs]
    rcases hr : (Rl t).running with _ | ⟨i, rem, r⟩
    · cases hb : bestOf cbs (pendingTimers cbs (Rl t).queue) with
      | some i =>
        obtain ⟨hsv, hst, hp⟩ := slotC hs hr hb
        have hm := (mem_pendingTimers _ _ _).1 (bestOf_mem _ _ _ hb)
        refine Or.inr (Or.inr ⟨i, ((Rl t).queue.getD i []).headD 0, hs, hr, hsv, hst, hm.1, hm.2.2, ?_,
          Or.inl hb⟩)
        rw [hnext, fin_running, hp]
      | none =>
        have hb' := (bestOf_eq_none _ _).1 hb
        cases hb2 : bestOf cbs (readyAtC cbs ex ch sigma rels t) with
        | some i =>
          obtain ⟨hsv, hst, hp⟩ := slotD hs hr hb hb2
          have hm := good_rdy_mem g i (bestOf_mem _ _ _ hb2)
          refine Or.inr (Or.inr ⟨i, ((Rl t).queue.getD i []).headD 0, hs, hr, hsv, hst, hm.1, hm.2.2, ?_,
            Or.inr ⟨hb', hb2⟩⟩)
          rw [hnext, fin_running, hp]
        | none =>
          obtain ⟨hsv, hst, hp⟩ := slotE hs hr hb hb2
          refine Or.inl ⟨hsv, hst, ?_, fun _ => ⟨hr, hb', (bestOf_eq_none _ _).1 hb2⟩⟩
          rw [hnext, fin_running, hp]
          have : (St t).running = none := hr
          simp only [hr, this]
    · obtain ⟨hsv, hst, hp⟩ := slotB hs hr
      refine Or.inr (Or.inl ⟨i, rem, r, hs, hr, hsv, hst, ?_⟩)
      rw [hnext, fin_running, hp, hr]

theorem served_lt {t i : ℕ} (h : servedCbC cbs ex ch sigma rels t = some i) :
    i < cbs.length ∧
      (if startsCbC cbs ex ch sigma rels t i = true then sb i t else sb i t - 1) < cnt rels (src ch i) (t + 1) := by
  have g := gRl (sigma := sigma) hy t
  rcases slots (sigma := sigma) hy t with s | ⟨i', rem, r, s⟩ | ⟨i', r0, s⟩
  · rw [s.served] at h; cases h
  · rw [s.served] at h; cases h
    obtain ⟨hi, h1, _⟩ := g.runOk i rem r s.running
    have := sb_le_src hy.hnd hy.hmem g hi
    rw [s.starts]
    simp only [Bool.false_eq_true, if_false]
    exact ⟨hi, by omega⟩
  · rw [s.served] at h; cases h
    rw [if_pos ((s.starts i).2 rfl)]
    exact ⟨s.lt, sb_lt_src hy.hnd hy.hmem g s.lt s.queued⟩

theorem sched_eqC (t : ℕ) : (Sy).sched t =
    match servedCbC cbs ex ch sigma rels t with
    | none => none
    | some i => jobC ch rels H i (if startsCbC cbs ex ch sigma rels t i = true then sb i t else sb i t - 1) := by
  have h0 : (Sy).sched t = match servedCbC cbs ex ch sigma rels t with
    | none => none
    | some i =>
      (match ch.findIdx? (· = i) with
        | some (x + 1) => some ((events rels H).length + x * nSrc ch rels H +
            (if startsCbC cbs ex ch sigma rels t i = true then sb i t else sb i t - 1))
        | _ => nthEventOf rels H i (if startsCbC cbs ex ch sigma rels t i = true then sb i t else sb i t - 1)) := rfl
  rw [h0]
  cases hsv : servedCbC cbs ex ch sigma rels t with
  | none => rfl
  | some i =>
    simp only
    obtain ⟨_, hlt⟩ := served_lt hy hsv
    generalize (if startsCbC cbs ex ch sigma rels t i = true then sb i t else sb i t - 1) = m at hlt ⊢
    unfold jobC
    split
    · rename_i x hx
      have hit : i ∈ ch.tail := mem_tail.2 ⟨x, (idx_some ch hx).1, (idx_some ch hx).2.symm⟩
      rw [src_of_tail hit] at hlt
      have := cnt_le_H (rels := rels) hy.hfin (cAt ch 0) (t + 1)
      rw [← nSrc_eq (H := H) (by have := (idx_some ch hx).1; omega)] at this
      simp only [hx]
      rw [if_pos (show m < nSrc ch rels H by omega)]
    · rename_i hne
      split
      · rename_i x hx; exact absurd hx (hne x)
      · rfl

theorem sched_iffC {i m k : ℕ} (hj : jobC ch rels H i m = some k) (t : ℕ) :
    (Sy).sched t = some k ↔ (servedCbC cbs ex ch sigma rels t = some i ∧
      m = if startsCbC cbs ex ch sigma rels t i = true then sb i t else sb i t - 1) := by
  rw [sched_eqC hy]
  cases hsv : servedCbC cbs ex ch sigma rels t with
  | none => simp
  | some i' =>
    simp only
    constructor
    · intro h
      obtain ⟨e1, e2⟩ := jobC_inj hy.hnd hy.hfin h hj
      subst e1
      exact ⟨rfl, e2.symm⟩
    · rintro ⟨e1, e2⟩
      cases e1
      rw [← e2]; exact hj

theorem sched_iff_served {t i0 m0 : ℕ} (hsv : servedCbC cbs ex ch sigma rels t = some i0)
    (hm0 : (if startsCbC cbs ex ch sigma rels t i0 = true then sb i0 t else sb i0 t - 1) = m0) {i m k : ℕ}
    (hj : jobC ch rels H i m = some k) : (Sy).sched t = some k ↔ (i = i0 ∧ m = m0) := by
  rw [sched_iffC hy hj, hsv]
  constructor
  · rintro ⟨e1, e2⟩
    cases e1
    exact ⟨rfl, e2.trans hm0⟩
  · rintro ⟨e1, e2⟩
    subst e1 e2
    exact ⟨rfl, hm0.symm⟩

omit hy in
theorem svc_succC (k t : ℕ) :
    svc (Sy) k (t + 1) = svc (Sy) k t + if (Sy).sched t = some k then 1 else 0 := rfl

variable (cbs ex ch sigma rels H) in
/-- service received by the jobs at the beginning of slot `t`: complete, unstarted, or running with
`rem` units left -/
structure ServiceInv (t : ℕ) : Prop where
  done : ∀ i m k, jobC ch rels H i m = some k → m + 1 ≤ sb i t →
    (m + 1 = sb i t → ∀ rem r, (St t).running ≠ some (i, rem, r)) → svc (Sy) k t = (Sy).cost k
  unst : ∀ i m k, jobC ch rels H i m = some k → sb i t ≤ m → svc (Sy) k t = 0
  run : ∀ i rem r m k, (St t).running = some (i, rem, r) → jobC ch rels H i m = some k → m + 1 = sb i t →
    svc (Sy) k t + rem = (Sy).cost k ∧ 1 ≤ svc (Sy) k t

omit hy in
theorem serviceInv_zero : ServiceInv cbs ex ch sigma rels H 0 where
  done := fun i m k _ h => by simp [startedBeforeC] at h
  unst := fun i m k _ _ => rfl
  run := fun i rem r m k h => by simp [stateAtC, State.init] at h

variable {t : ℕ}

theorem serviceInv_keep (s : SlotIdle cbs ex ch sigma rels t) (h : ServiceInv cbs ex ch sigma rels H t) :
    ServiceInv cbs ex ch sigma rels H (t + 1) := by
  have hsb := sbC_keep s.starts
  have hsvc : ∀ k, svc (Sy) k (t + 1) = svc (Sy) k t := fun k => by
    rw [svc_succC, sched_eqC hy, s.served]; simp
  refine ⟨?_, ?_, ?_⟩
  · intro i m k hj; rw [hsb, hsvc, s.running_succ]; exact h.done i m k hj
  · intro i m k hj; rw [hsb, hsvc]; exact h.unst i m k hj
  · intro i rem r m k; rw [hsb, hsvc, s.running_succ]; exact h.run i rem r m k

theorem serviceInv_cont {i0 rem0 r0 : ℕ} (s : SlotContinues cbs ex ch sigma rels t i0 rem0 r0)
    (h : ServiceInv cbs ex ch sigma rels H t) : ServiceInv cbs ex ch sigma rels H (t + 1) := by
  have hsb := sbC_keep s.starts
  obtain ⟨_, hsb0, hrem0⟩ := (inv1 (sigma := sigma) hy t).runOk i0 rem0 r0 s.running
  have hsb0 : 1 ≤ sb i0 t := hsb0
  have hsched : ∀ i m k, jobC ch rels H i m = some k →
      ((Sy).sched t = some k ↔ (i = i0 ∧ m + 1 = sb i0 t)) := by
    intro i m k hj
    rw [sched_iff_served hy s.served (m0 := sb i0 t - 1) (by rw [s.starts]; rfl) hj]
    omega
  refine ⟨?_, ?_, ?_⟩
  · intro i m k hj hm hnr
    rw [hsb] at hm hnr
    rw [svc_succC]
    by_cases hk : (Sy).sched t = some k
    · obtain ⟨e1, e2⟩ := (hsched i m k hj).1 hk
      subst e1
      have := h.run i rem0 r0 m k s.running hj e2
      have hh := hnr e2
      rw [s.running_succ] at hh
      have : rem0 ≤ 1 := by
        by_contra h'
        exact hh _ _ (if_neg h')
      rw [if_pos hk]; omega
    · rw [if_neg hk, Nat.add_zero]
      apply h.done i m k hj hm
      intro e rem r hrr
      rw [s.running] at hrr
      cases hrr
      exact hk ((hsched _ m k hj).2 ⟨rfl, e⟩)
  · intro i m k hj hm
    rw [hsb] at hm
    rw [svc_succC]
    have : ¬ (Sy).sched t = some k := by
      intro hk
      obtain ⟨e1, e2⟩ := (hsched i m k hj).1 hk
      subst e1; omega
    rw [if_neg this]; exact h.unst i m k hj hm
  · intro i rem r m k hrr hj hm
    rw [hsb] at hm
    rw [s.running_succ] at hrr
    split at hrr
    · cases hrr
    · cases hrr
      have hk := (hsched _ m k hj).2 ⟨rfl, hm⟩
      have := h.run _ rem0 _ m k s.running hj hm
      rw [svc_succC, if_pos hk]; omega

theorem serviceInv_start {i0 r0 : ℕ} (s : SlotStarts cbs ex ch sigma rels t i0 r0)
    (h : ServiceInv cbs ex ch sigma rels H t) : ServiceInv cbs ex ch sigma rels H (t + 1) := by
  have hc := (hy.hexec i0 s.lt t).1
  have hsb := sbC_start s.starts
  have hsched : ∀ i m k, jobC ch rels H i m = some k →
      ((Sy).sched t = some k ↔ (i = i0 ∧ m = sb i0 t)) := fun i m k hj =>
    sched_iff_served hy s.served (if_pos ((s.starts i0).2 rfl)) hj
  -- the job started in this slot gets the execution time drawn in this slot
  have hcostk : ∀ m k, jobC ch rels H i0 m = some k → m = sb i0 t → (Sy).cost k = ex i0 t := by
    intro m k hj hm
    have hk := (hsched i0 m k hj).2 ⟨rfl, hm⟩
    have h0 := h.unst i0 m k hj (by omega)
    have hc := costCX_first (cbs := cbs) (ex := ex) (ch := ch) (sigma := sigma) (rels := rels) (H := H) hk
      (RefineXLemmas.svc_zero_not_sched (Sy) k t h0)
    have ht : taskCX ch rels H k = i0 :=
      (jobCX_facts (cbs := cbs) (ex := ex) (sigma := sigma) hy.hnd hy.hfin hj).2.1
    rw [ht] at hc
    exact hc
  refine ⟨?_, ?_, ?_⟩
  · intro i m k hj hm hnr
    rw [hsb] at hm hnr
    rw [svc_succC]
    by_cases hk : (Sy).sched t = some k
    · obtain ⟨e1, e2⟩ := (hsched i m k hj).1 hk
      subst e1
      have h0 := h.unst i m k hj (by omega)
      have hck := hcostk m k hj e2
      have hh := hnr (by simp [e2])
      rw [s.running_succ] at hh
      have : ex i t ≤ 1 := by
        by_contra h'
        exact hh _ _ (if_neg h')
      rw [if_pos hk]; omega
    · rw [if_neg hk, Nat.add_zero]
      apply h.done i m k hj
      · by_cases e : i = i0
        · subst e
          have : m ≠ sb i t := fun e' => hk ((hsched i m k hj).2 ⟨rfl, e'⟩)
          simp only [if_true] at hm; omega
        · simpa [e] using hm
      · intro _ rem r hrr; rw [s.running] at hrr; cases hrr
  · intro i m k hj hm
    rw [hsb] at hm
    rw [svc_succC]
    have : ¬ (Sy).sched t = some k := by
      intro hk
      obtain ⟨e1, e2⟩ := (hsched i m k hj).1 hk
      subst e1; simp at hm; omega
    rw [if_neg this]; exact h.unst i m k hj (by omega)
  · intro i rem r m k hrr hj hm
    rw [hsb] at hm
    rw [s.running_succ] at hrr
    split at hrr
    · cases hrr
    · cases hrr
      simp only [if_true] at hm
      have hk := (hsched _ m k hj).2 ⟨rfl, by omega⟩
      have h0 := h.unst _ m k hj (by omega)
      have hck := hcostk m k hj (by omega)
      rw [svc_succC, if_pos hk]; omega

theorem serviceInv_succ (h : ServiceInv cbs ex ch sigma rels H t) : ServiceInv cbs ex ch sigma rels H (t + 1) := by
  rcases slots (sigma := sigma) hy t with s | ⟨i, rem, r, s⟩ | ⟨i, r0, s⟩
  · exact serviceInv_keep hy s h
  · exact serviceInv_cont hy s h
  · exact serviceInv_start hy s h

theorem serviceInv : ∀ t, ServiceInv cbs ex ch sigma rels H t
  | 0 => serviceInv_zero
  | t + 1 => serviceInv_succ hy (serviceInv t)

end service

section schedShapes
variable (cbs ex ch sigma rels H)

structure SchedIdle (t : ℕ) : Prop extends SlotIdle cbs ex ch sigma rels t where
  sched : (Sy).sched t = none

/-- the slot continues the `sb i t - 1`-th instance of `i`, which is job `j` -/
structure SchedContinues (t i rem r j : ℕ) : Prop extends SlotContinues cbs ex ch sigma rels t i rem r where
  lt : i < cbs.length
  started : 1 ≤ sb i t
  le_src : sb i t ≤ cnt rels (src ch i) (t + 1)
  job : jobC ch rels H i (sb i t - 1) = some j
  sched : (Sy).sched t = some j

/-- the slot starts the `sb i t`-th instance of `i`, which is job `j` -/
structure SchedStarts (t i r0 j : ℕ) : Prop extends SlotStarts cbs ex ch sigma rels t i r0 where
  lt_src : sb i t < cnt rels (src ch i) (t + 1)
  job : jobC ch rels H i (sb i t) = some j
  sched : (Sy).sched t = some j

end schedShapes

section clauses
variable (hy : HypX cbs ex ch rels H)

include hy

theorem job_cost_boundsC {i m k : ℕ} (hi : i < cbs.length) (hj : jobC ch rels H i m = some k) :
    1 ≤ (Sy).cost k ∧ (Sy).cost k ≤ (cbs.getD i default).cost := by
  have ht : taskCX ch rels H k = i :=
    (jobCX_facts (cbs := cbs) (ex := ex) (sigma := sigma) hy.hnd hy.hfin hj).2.1
  have := costCX_bounds (cbs := cbs) (ex := ex) (ch := ch) (sigma := sigma) (rels := rels) (H := H)
    hy.hexec (k := k) (by rw [ht]; exact hi)
  rw [ht] at this
  exact this

/-- unstarted / complete / running -/
theorem statusC {i m k : ℕ} (hi : i < cbs.length) (hj : jobC ch rels H i m = some k) (t : ℕ) :
    (sb i t ≤ m ∧ svc (Sy) k t = 0) ∨
    (m + 1 ≤ sb i t ∧ svc (Sy) k t = (Sy).cost k ∧ 1 ≤ svc (Sy) k t ∧
      (m + 1 = sb i t → ∀ rem r, (St t).running ≠ some (i, rem, r))) ∨
    (m + 1 = sb i t ∧ ∃ rem r, (St t).running = some (i, rem, r) ∧
      svc (Sy) k t + rem = (Sy).cost k ∧ 1 ≤ svc (Sy) k t ∧ 1 ≤ rem) := by
  have h2 := serviceInv (sigma := sigma) hy t
  have h1 := inv1 (sigma := sigma) hy t
  have hc := (job_cost_boundsC (sigma := sigma) hy hi hj).1
  rcases Nat.lt_or_ge m (sb i t) with hm | hm
  · by_cases hrun : m + 1 = sb i t ∧ ∃ rem r, (St t).running = some (i, rem, r)
    · obtain ⟨e, rem, r, hr⟩ := hrun
      have := h2.run i rem r m k hr hj e
      exact Or.inr (Or.inr ⟨e, rem, r, hr, this.1, this.2, (h1.runOk i rem r hr).2.2⟩)
    · have hnr : m + 1 = sb i t → ∀ rem r, (St t).running ≠ some (i, rem, r) := by
        intro e rem r hr
        exact hrun ⟨e, rem, r, hr⟩
      have := h2.done i m k hj hm hnr
      exact Or.inr (Or.inl ⟨hm, this, by omega, hnr⟩)
  · exact Or.inl ⟨hm, h2.unst i m k hj hm⟩

theorem sched_shapeC (t : ℕ) : SchedIdle cbs ex ch sigma rels H t ∨
    (∃ i rem r j, SchedContinues cbs ex ch sigma rels H t i rem r j) ∨
    ∃ i r0 j, SchedStarts cbs ex ch sigma rels H t i r0 j := by
  have g := gRl (sigma := sigma) hy t
  rcases slots (sigma := sigma) hy t with s | ⟨i, rem, r, s⟩ | ⟨i, r0, s⟩
  · refine Or.inl ⟨s, ?_⟩
    rw [sched_eqC hy, s.served]
  · obtain ⟨hi, hsb, _⟩ := g.runOk i rem r s.running
    have hsb : 1 ≤ sb i t := hsb
    have hle : sb i t ≤ cnt rels (src ch i) (t + 1) := sb_le_src hy.hnd hy.hmem g hi
    obtain ⟨j, hj⟩ := jobC_some (rels := rels) (H := H) hy.hnd (i := i) (m := sb i t - 1)
      (by have := cnt_le_H (rels := rels) hy.hfin (src ch i) (t + 1); omega)
    refine Or.inr (Or.inl ⟨i, rem, r, j, s, hi, hsb, hle, hj, ?_⟩)
    rw [sched_eqC hy, s.served]
    simp only [s.starts i, Bool.false_eq_true, if_false]
    exact hj
  · have hlt : sb i t < cnt rels (src ch i) (t + 1) := sb_lt_src hy.hnd hy.hmem g s.lt s.queued
    obtain ⟨j, hj⟩ := jobC_some (rels := rels) (H := H) hy.hnd (i := i) (m := sb i t)
      (by have := cnt_le_H (rels := rels) hy.hfin (src ch i) (t + 1); omega)
    refine Or.inr (Or.inr ⟨i, r0, j, s, hlt, hj, ?_⟩)
    rw [sched_eqC hy, s.served]
    simp only [(s.starts i).2 rfl, if_true]
    exact hj

theorem c_validC (t j : ℕ) (hs : (Sy).sched t = some j) :
    j < (Sy).n ∧ Pending (Sy) j t ∧ sigma t = true := by
  rcases sched_shapeC (sigma := sigma) hy t with s | ⟨i, rem, r, j', s⟩ | ⟨i, r0, j', s⟩
  · rw [s.sched] at hs; cases hs
  · rw [s.sched] at hs; cases hs
    obtain ⟨hn, _, harr⟩ := jobCX_facts (cbs := cbs) (ex := ex) (sigma := sigma) hy.hnd hy.hfin s.job
    have hsb := s.started
    have hle := s.le_src
    refine ⟨hn, ⟨(harr t).2 (by omega), ?_⟩, s.supplied⟩
    rcases statusC (sigma := sigma) hy s.lt s.job t with h | h | h
    · omega
    · exact absurd s.running (h.2.2.2 (by omega) rem r)
    · obtain ⟨_, rem', r', _, h1, h2, h3⟩ := h
      omega
  · rw [s.sched] at hs; cases hs
    obtain ⟨hn, _, harr⟩ := jobCX_facts (cbs := cbs) (ex := ex) (sigma := sigma) hy.hnd hy.hfin s.job
    refine ⟨hn, ⟨(harr t).2 s.lt_src, ?_⟩, s.supplied⟩
    rcases statusC (sigma := sigma) hy s.lt s.job t with h | h | h
    · rw [h.2]
      exact (job_cost_boundsC (sigma := sigma) hy s.lt s.job).1
    · omega
    · omega

theorem c_nonpreC (t j : ℕ) (hs : (Sy).sched t = some j) (k : ℕ) (hk : k < (Sy).n) (hkj : k ≠ j) :
    svc (Sy) k t = 0 ∨ svc (Sy) k t = (Sy).cost k := by
  obtain ⟨i, m, hi, hj⟩ := jobCX_exists (cbs := cbs) (ex := ex) (sigma := sigma) hy.hnd hy.hmem hy.hidx hy.hext hk
  rcases statusC (sigma := sigma) hy hi hj t with h | h | h
  · exact Or.inl h.2
  · exact Or.inr h.2.1
  · exfalso
    obtain ⟨hm, rem', r', h1, _⟩ := h
    rcases sched_shapeC (sigma := sigma) hy t with s | ⟨i', rem, r, j', s⟩ | ⟨i', r0, j', s⟩
    · rw [s.sched] at hs; cases hs
    · rw [s.sched] at hs; cases hs
      rw [s.running] at h1; cases h1
      have hj' := s.job
      have e : sb i t - 1 = m := by omega
      rw [e, hj] at hj'
      cases hj'; exact hkj rfl
    · rw [s.running] at h1; cases h1

theorem c_wcC (t : ℕ) (hsg : sigma t = true) (hp : ∃ k < (Sy).n, Pending (Sy) k t) :
    ∃ j, (Sy).sched t = some j := by
  obtain ⟨k, hk, hp⟩ := hp
  rcases sched_shapeC (sigma := sigma) hy t with s | ⟨i, rem, r, j', s⟩ | ⟨i, r0, j', s⟩
  · exfalso
    obtain ⟨hr, hpt, hra⟩ := s.nothing hsg
    have g := gRl (sigma := sigma) hy t
    have hq : ∀ c, c < cbs.length → ((Rl t).queue.getD c []).length = 0 := by
      intro c hc
      rcases Nat.eq_zero_or_pos ((Rl t).queue.getD c []).length with h0 | hpos
      · exact h0
      · exfalso
        cases htm : (cbs.getD c default).isTimer with
        | true =>
          have : c ∈ pendingTimers cbs (Rl t).queue := (mem_pendingTimers _ _ _).2 ⟨hc, htm, hpos⟩
          rw [hpt] at this; cases this
        | false =>
          have hm : c ∈ pendingPolled cbs (Rl t).queue := (mem_pendingPolled _ _ _).2 ⟨hc, htm, hpos⟩
          by_cases he : (St t).ready = []
          · rw [readyAtC_of_empty he] at hra
            rw [hra] at hm; cases hm
          · rw [readyAtC_of_nonempty he] at hra
            exact he hra
    obtain ⟨i, m, hi, hj⟩ := jobCX_exists (cbs := cbs) (ex := ex) (sigma := sigma) hy.hnd hy.hmem hy.hidx hy.hext hk
    have heq : sb i t = cnt rels (src ch i) (t + 1) := sb_eq_src hy.hnd hy.hmem g hr hq hi
    obtain ⟨_, _, harr⟩ := jobCX_facts (cbs := cbs) (ex := ex) (sigma := sigma) hy.hnd hy.hfin hj
    have hm := (harr t).1 hp.1
    rcases statusC (sigma := sigma) hy hi hj t with h | h | h
    · omega
    · have := hp.2; omega
    · obtain ⟨_, rem', r', h1, _⟩ := h
      rw [hr] at h1; cases h1
  · exact ⟨j', s.sched⟩
  · exact ⟨j', s.sched⟩

theorem c_prioOwnC (t j : ℕ) (hs : (Sy).sched t = some j) (h0 : svc (Sy) j t = 0) (k : ℕ)
    (hk : k < (Sy).n) (hkt : (Sy).task k = (Sy).task j) (hp : Pending (Sy) k t) :
    (Sy).arr j ≤ (Sy).arr k := by
  rcases sched_shapeC (sigma := sigma) hy t with s | ⟨i, rem, r, j', s⟩ | ⟨i, r0, j', s⟩
  · rw [s.sched] at hs; cases hs
  · rw [s.sched] at hs; cases hs
    exfalso
    have hsb := s.started
    rcases statusC (sigma := sigma) hy s.lt s.job t with h | h | h
    · omega
    · omega
    · obtain ⟨_, rem', r', _, h1, h2, h3⟩ := h
      omega
  · rw [s.sched] at hs; cases hs
    have hr := s.running
    obtain ⟨_, htj, harrj⟩ := jobCX_facts (cbs := cbs) (ex := ex) (sigma := sigma) hy.hnd hy.hfin s.job
    obtain ⟨i', m', hi', hk'⟩ :=
      jobCX_exists (cbs := cbs) (ex := ex) (sigma := sigma) hy.hnd hy.hmem hy.hidx hy.hext hk
    obtain ⟨_, htk, harrk⟩ := jobCX_facts (cbs := cbs) (ex := ex) (sigma := sigma) hy.hnd hy.hfin hk'
    have e : i' = i := by rw [← htk, hkt, htj]
    subst e
    have hm : sb i' t ≤ m' := by
      rcases statusC (sigma := sigma) hy hi' hk' t with h | h | h
      · exact h.1
      · have := hp.2; omega
      · obtain ⟨_, rem', r', h1, _⟩ := h
        rw [hr] at h1; cases h1
    have h1 := (harrk ((Sy).arr k)).1 (Nat.le_refl _)
    exact (harrj ((Sy).arr k)).2 (by omega)

theorem chain_legal_x (l : ℕ) : SupplyTimerLegal (Sy) sigma l (fun k => k ≠ l) where
  valid := c_validC hy
  nonpre := c_nonpreC hy
  wc := fun t h ⟨k, hk, _, hp⟩ => c_wcC hy t h ⟨k, hk, hp⟩
  prioOther := by
    intro t j _ _ hnr
    exact absurd (show Rel (Sy) l (fun k => k ≠ l) j from Classical.em _) hnr
  prioOwn := by
    intro t j hs h0 hji k hk hki hp
    exact c_prioOwnC hy t j hs h0 k hk (by rw [hki, hji]) hp

end clauses

section visitedStates
variable (cbs ex ch sigma rels)

/-- the completion reported by slot `u` of the infinite run -/
def outAtC (u : ℕ) : Option (ℕ × ℕ × ℕ) :=
  (step cbs ex (chainFn ch) u (sigma u) (rels u) (St u)).2

theorem go_eq : ∀ m t,
    run.go cbs ex (chainFn ch) rels ((List.range' t m).map sigma) t (St t) =
      (List.range' t m).filterMap (outAtC cbs ex ch sigma rels) := by
  intro m
  induction m with
  | zero => intro t; simp [run.go]
  | succ m ih =>
    intro t
    rw [List.range'_succ, List.map_cons, List.filterMap_cons]
    simp only [run.go]
    have e1 : (step cbs ex (chainFn ch) t (sigma t) (rels t) (St t)).1 = St (t + 1) := rfl
    have e2 : outAtC cbs ex ch sigma rels t = (step cbs ex (chainFn ch) t (sigma t) (rels t) (St t)).2 := rfl
    rw [e2]
    cases hout : (step cbs ex (chainFn ch) t (sigma t) (rels t) (St t)).2 with
    | none =>
      rw [e1]
      exact ih (t + 1)
    | some o' =>
      rw [e1]
      simp only
      rw [ih (t + 1)]

theorem outAtC_eq (u : ℕ) : outAtC cbs ex ch sigma rels u =
    if sigma u = true then
      (match (pickedAtC cbs ex ch sigma rels u).running with
        | none => none
        | some (i, rem, r) => if rem ≤ 1 then some (i, r, u + 1) else none)
    else none := by
  cases hs : sigma u with
  | false => simp [outAtC, step, hs]
  | true =>
    simp only [outAtC, step, pickedAtC, hs]
    simp only [Bool.not_true, Bool.false_eq_true, if_false, if_true]
    exact fin_out ch u _

/-- an instance of `l` completes in slot `u` -/
def complAt (l u : ℕ) : Bool := (servedCbC cbs ex ch sigma rels u == some l) && (St (u + 1)).running.isNone

theorem outAtC_spec (l u : ℕ) :
    (outAtC cbs ex ch sigma rels u = none ∧ complAt cbs ex ch sigma rels l u = false) ∨
    ∃ i r, outAtC cbs ex ch sigma rels u = some (i, r, u + 1) ∧
      (complAt cbs ex ch sigma rels l u = true ↔ i = l) := by
  rw [outAtC_eq]
  unfold complAt
  rw [servedCbC_eq, stateAtC_succ]
  cases hs : sigma u with
  | false => left; simp
  | true =>
    simp only [if_true]
    rw [fin_running]
    rcases hr : (pickedAtC cbs ex ch sigma rels u).running with _ | ⟨i, rem, r⟩
    · left; simp
    · by_cases h : rem ≤ 1
      · right
        refine ⟨i, r, by simp [h], ?_⟩
        simp [h]
      · left
        simp [h]

theorem compl_list (l : ℕ) : ∀ xs : List ℕ,
    completionsOf (xs.filterMap (outAtC cbs ex ch sigma rels)) l =
      (xs.filter (complAt cbs ex ch sigma rels l)).map (· + 1) := by
  intro xs
  induction xs with
  | nil => rfl
  | cons x xs ih =>
    rw [List.filterMap_cons, List.filter_cons]
    rcases outAtC_spec cbs ex ch sigma rels l x with ⟨h1, h2⟩ | ⟨i, r, h1, h2⟩
    · rw [h1, h2]
      simpa using ih
    · rw [h1]
      simp only
      unfold completionsOf at ih ⊢
      rw [List.filter_cons]
      by_cases e : i = l
      · rw [if_pos (h2.2 e)]
        simp only [e, decide_true, if_true, List.map_cons]
        rw [ih]
      · have : ¬ complAt cbs ex ch sigma rels l x = true := fun hh => e (h2.1 hh)
        rw [if_neg this]
        simp only [e, decide_false, Bool.false_eq_true, if_false]
        exact ih

theorem run_eq (l n : ℕ) :
    completionsOf (ExecX.run cbs ex (chainFn ch) ((List.range n).map sigma) rels) l =
      ((List.range n).filter (complAt cbs ex ch sigma rels l)).map (· + 1) := by
  have h := go_eq cbs ex ch sigma rels n 0
  rw [← List.range_eq_range'] at h
  have : ExecX.run cbs ex (chainFn ch) ((List.range n).map sigma) rels =
      (List.range n).filterMap (outAtC cbs ex ch sigma rels) := h
  rw [this]
  exact compl_list cbs ex ch sigma rels l _

end visitedStates

section completionCount
variable (hy : HypX cbs ex ch rels H)

variable (cbs ex ch sigma rels) in
def runsL (l t : ℕ) : ℕ := if (St t).running.map (·.1) = some l then 1 else 0

theorem done_succ (l t : ℕ) :
    ((List.range (t + 1)).filter (complAt cbs ex ch sigma rels l)).length =
      ((List.range t).filter (complAt cbs ex ch sigma rels l)).length + if complAt cbs ex ch sigma rels l t = true then 1 else 0 := by
  rw [List.range_succ, List.filter_append, List.length_append]
  cases h : complAt cbs ex ch sigma rels l t <;> simp [h]

/-- an instance of `i` with `c` units left is served: either it completes, or it is the running
instance afterwards -/
theorem done_or_running (i l c r : ℕ) :
    (if ((some i == some l) && (if c ≤ 1 then none else some (i, c - 1, r)).isNone) = true then 1 else 0) +
      (if (if c ≤ 1 then none else some (i, c - 1, r)).map (·.1) = some l then 1 else 0) =
    if i = l then 1 else 0 := by
  by_cases h : c ≤ 1 <;> simp [h]

include hy

theorem count_inv (l : ℕ) : ∀ t,
    ((List.range t).filter (complAt cbs ex ch sigma rels l)).length + runsL cbs ex ch sigma rels l t = sb l t := by
  intro t
  induction t with
  | zero => simp [runsL, stateAtC, State.init, startedBeforeC]
  | succ t ih =>
    rw [done_succ, sbC_succ]
    unfold runsL at ih ⊢
    generalize ((List.range t).filter (complAt cbs ex ch sigma rels l)).length = c at ih ⊢
    unfold complAt
    rcases slots (sigma := sigma) hy t with s | ⟨i, rem, r, s⟩ | ⟨i, r0, s⟩
    · rw [s.served, s.starts, s.running_succ]
      simp only [show ((none : Option ℕ) == some l) = false from rfl, Bool.false_and,
        Bool.false_eq_true, if_false]
      omega
    · rw [s.served, s.starts, s.running_succ, Nat.add_assoc, done_or_running]
      rw [s.running] at ih
      simpa using ih
    · have hs : startsCbC cbs ex ch sigma rels t l = true ↔ i = l := (s.starts l).trans eq_comm
      rw [s.served, s.running_succ, Nat.add_assoc, done_or_running]
      rw [s.running] at ih
      simpa [hs] using ih

/-- the instance of `l` that completes in slot `u` is the `c`-th one, `c` the number of completions of
`l` in the slots before `u` -/
theorem compl_job (l u : ℕ) (hc : complAt cbs ex ch sigma rels l u = true) :
    ∃ k, jobC ch rels H l ((List.range u).filter (complAt cbs ex ch sigma rels l)).length = some k ∧ (Sy).sched u = some k ∧
      ((List.range u).filter (complAt cbs ex ch sigma rels l)).length < cnt rels (src ch l) (u + 1) := by
  have hsv : servedCbC cbs ex ch sigma rels u = some l := by
    unfold complAt at hc
    simp only [Bool.and_eq_true, beq_iff_eq] at hc
    exact hc.1
  have hcnt := count_inv (sigma := sigma) hy l u
  obtain ⟨_, hlt⟩ := served_lt hy hsv
  have hsch := sched_eqC (sigma := sigma) hy u
  rw [hsv] at hsch
  simp only at hsch
  have hm : (if startsCbC cbs ex ch sigma rels u l = true then sb l u else sb l u - 1) =
      ((List.range u).filter (complAt cbs ex ch sigma rels l)).length := by
    unfold runsL at hcnt
    have g := inv1 (sigma := sigma) hy u
    rcases slots (sigma := sigma) hy u with s | ⟨i, rem, r, s⟩ | ⟨i, r0, s⟩
    · rw [s.served] at hsv; cases hsv
    · rw [s.served] at hsv; cases hsv
      rw [s.starts, if_neg Bool.false_ne_true]
      rw [s.running, Option.map_some, if_pos rfl] at hcnt
      omega
    · rw [s.served] at hsv; cases hsv
      rw [(s.starts l).2 rfl, if_pos rfl]
      rw [s.running, if_neg (by simp)] at hcnt
      omega
  rw [hm] at hlt hsch
  obtain ⟨k, hk⟩ := jobC_some (rels := rels) (H := H) hy.hnd (i := l)
    (m := ((List.range u).filter (complAt cbs ex ch sigma rels l)).length)
    (by have := cnt_le_H (rels := rels) hy.hfin (src ch l) (u + 1); omega)
  exact ⟨k, hk, by rw [hsch, hk], hlt⟩

end completionCount

end run

end ChainRefineXLemmas

theorem toSysCX_cost_le (H : ℕ) (hch : ch.Nodup) (hmem : ∀ i ∈ ch, i < cbs.length)
    (hidx : ∀ t, ∀ i ∈ rels t, i < cbs.length) (hext : ∀ t, ∀ i ∈ rels t, i ∉ ch.tail)
    (hfin : ∀ t, H ≤ t → rels t = [])
    (hexec : ∀ k, k < cbs.length → ∀ t, 1 ≤ ex k t ∧ ex k t ≤ (cbs.getD k default).cost)
    (k : ℕ) (hk : k < (toSysCX cbs ex ch sigma rels H).n) :
    (toSysCX cbs ex ch sigma rels H).cost k ≤
      (cbs.getD ((toSysCX cbs ex ch sigma rels H).task k) default).cost := by
  obtain ⟨i, m, hi, hj⟩ := ChainRefineXLemmas.jobCX_exists (cbs := cbs) (ex := ex) (sigma := sigma)
    hch hmem hidx hext hk
  have ht := (ChainRefineXLemmas.jobCX_facts (cbs := cbs) (ex := ex) (sigma := sigma) hch hfin hj).2.1
  rw [ht]
  exact (ChainRefineXLemmas.job_cost_boundsC (sigma := sigma) ⟨hch, hmem, hidx, hext, hfin, hexec⟩ hi hj).2

theorem toSysCX_cost_pos (H : ℕ) (hch : ch.Nodup) (hmem : ∀ i ∈ ch, i < cbs.length)
    (hidx : ∀ t, ∀ i ∈ rels t, i < cbs.length) (hext : ∀ t, ∀ i ∈ rels t, i ∉ ch.tail)
    (hfin : ∀ t, H ≤ t → rels t = [])
    (hexec : ∀ k, k < cbs.length → ∀ t, 1 ≤ ex k t ∧ ex k t ≤ (cbs.getD k default).cost)
    (k : ℕ) (hk : k < (toSysCX cbs ex ch sigma rels H).n) :
    1 ≤ (toSysCX cbs ex ch sigma rels H).cost k := by
  obtain ⟨i, m, hi, hj⟩ := ChainRefineXLemmas.jobCX_exists (cbs := cbs) (ex := ex) (sigma := sigma)
    hch hmem hidx hext hk
  exact (ChainRefineXLemmas.job_cost_boundsC (sigma := sigma) ⟨hch, hmem, hidx, hext, hfin, hexec⟩ hi hj).1

theorem toSysCX_cost_eq (H k t : ℕ) (h1 : (toSysCX cbs ex ch sigma rels H).sched t = some k)
    (h2 : ∀ u, u < t → (toSysCX cbs ex ch sigma rels H).sched u ≠ some k) :
    (toSysCX cbs ex ch sigma rels H).cost k = ex ((toSysCX cbs ex ch sigma rels H).task k) t :=
  ChainRefineXLemmas.costCX_first h1 h2

theorem toSysCX_n (sigma' : ℕ → Bool) (H : ℕ) :
    (toSysCX cbs ex ch sigma rels H).n = (toSysC cbs ch sigma' rels H).n := rfl

theorem toSysCX_task (sigma' : ℕ → Bool) (H k : ℕ) :
    (toSysCX cbs ex ch sigma rels H).task k = (toSysC cbs ch sigma' rels H).task k := rfl

theorem toSysCX_arr (sigma' : ℕ → Bool) (H k : ℕ) :
    (toSysCX cbs ex ch sigma rels H).arr k = (toSysC cbs ch sigma' rels H).arr k := rfl

/-- every run with a duplicate-free linear chain (possibly empty) and arbitrary execution times
satisfies, for every callback `l`, the Spec that `chain_sound` asks for the last callback of the
chain: `l` against all other callbacks -/
theorem run_chain_legal_x (H : ℕ) (l : ℕ)
    (hch : ch.Nodup) (hmem : ∀ i ∈ ch, i < cbs.length)
    (hidx : ∀ t, ∀ i ∈ rels t, i < cbs.length)
    (hext : ∀ t, ∀ i ∈ rels t, i ∉ ch.tail)
    (hfin : ∀ t, H ≤ t → rels t = [])
    (hexec : ∀ k, k < cbs.length → ∀ t, 1 ≤ ex k t ∧ ex k t ≤ (cbs.getD k default).cost) :
    SupplyTimerLegal (toSysCX cbs ex ch sigma rels H) sigma l (fun k => k ≠ l) :=
  ChainRefineXLemmas.chain_legal_x ⟨hch, hmem, hidx, hext, hfin, hexec⟩ l

open RTA.Exec.RefineLemmas RTA.Exec.ChainRefineLemmas ChainRefineXLemmas in
/-- link between the job system `toSysCX` (every callback instance of the chain carries the arrival
time of its source event) and the completions reported by `ExecX.run`: if every job of the last
callback meets `R`, then the `m`-th reported completion of the last callback is within `R` of
the `m`-th release of the chain's source -/
theorem run_chain_meets_of_sysCX (cbs : List Cb) (ex : ℕ → ℕ → ℕ) (ch : List ℕ) (sigma : ℕ → Bool) (rels : ℕ → List ℕ)
    (H l : ℕ)
    (hch : ch.Nodup) (hlast : ch.getLast? = some l) (hmem : ∀ i ∈ ch, i < cbs.length)
    (hidx : ∀ t, ∀ i ∈ rels t, i < cbs.length)
    (hext : ∀ t, ∀ i ∈ rels t, i ∉ ch.tail)
    (hfin : ∀ t, H ≤ t → rels t = [])
    (hexec : ∀ k, k < cbs.length → ∀ t, 1 ≤ ex k t ∧ ex k t ≤ (cbs.getD k default).cost)
    (R : ℕ)
    (hmeets : ∀ j, j < (toSysCX cbs ex ch sigma rels H).n → (toSysCX cbs ex ch sigma rels H).task j = l →
      MeetsBound (toSysCX cbs ex ch sigma rels H) j R)
    (n m : ℕ)
    (hm : m < (completionsOf (ExecX.run cbs ex (chainFn ch) ((List.range n).map sigma) rels) l).length) :
    m < (relTimes rels H (ch.headD 0)).length ∧
    (completionsOf (ExecX.run cbs ex (chainFn ch) ((List.range n).map sigma) rels) l).getD m 0 ≤
      (relTimes rels H (ch.headD 0)).getD m 0 + R := by
  have hy : HypX cbs ex ch rels H := ⟨hch, hmem, hidx, hext, hfin, hexec⟩
  have hl : l ∈ ch := List.mem_of_getLast? hlast
  have hsrc : src ch l = ch.headD 0 := by unfold src; rw [if_pos hl]
  rw [run_eq] at hm ⊢
  rw [List.length_map] at hm
  -- the slot of the `m`-th completion
  obtain ⟨u, hu⟩ : ∃ u, ((List.range n).filter (complAt cbs ex ch sigma rels l))[m]? = some u :=
    ⟨_, List.getElem?_eq_getElem hm⟩
  obtain ⟨_, hcu, hcount⟩ := (filt_range_idx _ n m u).1 hu
  have hget : (((List.range n).filter (complAt cbs ex ch sigma rels l)).map (· + 1)).getD m 0 = u + 1 := by
    rw [List.getD_eq_getElem?_getD, List.getElem?_map, hu]; rfl
  rw [hget]
  -- the job that completes there
  obtain ⟨k, hk, hsch, hlt⟩ := compl_job (sigma := sigma) hy l u hcu
  rw [hcount] at hk hlt
  rw [hsrc] at hlt
  obtain ⟨hkn, hpend, _⟩ := c_validC (sigma := sigma) hy u k hsch
  obtain ⟨_, hkt, harr⟩ := jobCX_facts (cbs := cbs) (ex := ex) (sigma := sigma) hch hfin hk
  rw [hsrc] at harr
  have hmH : m < cnt rels (ch.headD 0) H := by
    have := cnt_le_H (rels := rels) hfin (ch.headD 0) (u + 1); omega
  obtain ⟨e, he⟩ := job_some rels H (ch.headD 0) m hmH
  have hrt := relTimes_get rels H (ch.headD 0) m e he
  have hgetr : (relTimes rels H (ch.headD 0)).getD m 0 = ((events rels H).getD e (0, 0)).1 := by
    rw [List.getD_eq_getElem?_getD, hrt]; rfl
  have hearr := job_arr rels H hfin he
  have harr_eq : (toSysCX cbs ex ch sigma rels H).arr k = ((events rels H).getD e (0, 0)).1 :=
    Nat.le_antisymm ((harr _).2 ((hearr _).1 (Nat.lt_succ_self _)))
      (Nat.lt_succ_iff.1 ((hearr _).2 ((harr _).1 (Nat.le_refl _))))
  refine ⟨by rw [relTimes_length]; exact hmH, ?_⟩
  rw [hgetr, ← harr_eq]
  have hmt : svc (toSysCX cbs ex ch sigma rels H) k ((toSysCX cbs ex ch sigma rels H).arr k + R) =
      (toSysCX cbs ex ch sigma rels H).cost k := hmeets k hkn hkt
  rcases Nat.lt_or_ge u ((toSysCX cbs ex ch sigma rels H).arr k + R) with hlt' | hge
  · omega
  · have := svc_mono (s := toSysCX cbs ex ch sigma rels H) k hge
    have := hpend.2
    omega

end RTA.ExecX
