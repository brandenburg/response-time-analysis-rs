import RTA.Lemmas.PruneCore
import RTA.Lemmas.RBSteps
/-! C07: event source, rr and bw equal naive evaluation of their defining inequalities over all
offsets (`eventSource_eq_naive`, `rr_eq_naive`, `bw_eq_naive`); timer and polling point equal the
evaluation over the own step offsets only (`*_eq_naive_on_steps`; `timer_pruning_lossy`: K2).
Also here: the workload order `Callback.Le` / `WorkloadLe` (C17), the bw step lists and the debug
cross-check (`bwAllSteps_eq_brute`, `debug_check_eq`), `naiveRr_eq_bind` / `naiveBw_eq_bind`
(for RosTotal), `Sched.rosChain_eq_pollingPoint`. -/

namespace RTA
open RTA.Spec PruneCoreLemmas RosNaiveLemmas
namespace RosNaiveLemmas

theorem cSt_le_horizon (Q D P : Nat) (hQ : 1 ≤ Q) (hQD : Q ≤ D) (hDP : D ≤ P) (d : Nat) :
    cSt Q D P d ≤ (d + 2) * P := by
  rcases Nat.eq_zero_or_pos d with rfl | hd
  · rw [cSt_zero]; exact Nat.zero_le _
  obtain ⟨q, r, hr0, hr, rfl⟩ := exists_qr Q d hQ hd
  rw [cSt_nf Q D P hQD hDP q r hr0 hr]
  have h1 : P * q ≤ P * (Q * q + r) :=
    Nat.mul_le_mul_left P (Nat.le_trans (Nat.le_mul_of_pos_left q hQ) (Nat.le_add_right _ _))
  rw [Nat.add_mul, Nat.mul_comm (Q * q + r) P]
  generalize P * (Q * q + r) = X at *
  generalize P * q = Y at *
  omega

theorem stClosed_le_horizon (s : Supply) (hs : s.WF) (d : Nat) :
    s.stClosed d ≤ supplyHorizon s d := by
  induction s with
  | dedicated => exact Nat.le_refl _
  | periodic Q P =>
    obtain ⟨h1, h2⟩ := hs
    show pSt Q P d ≤ (d + 2) * P
    rw [pSt_eq_cSt Q P h2]
    exact cSt_le_horizon Q P P h1 h2 (Nat.le_refl _) d
  | constrained Q D P =>
    obtain ⟨h1, h2, h3⟩ := hs
    exact cSt_le_horizon Q D P h1 h2 h3 d
  | viaDefault s ih => exact ih hs

theorem naiveSt_eq (s : Supply) (hs : s.WF) (d : Nat) : naiveSt s d = s.stClosed d := by
  have hg := Supply.galois s hs
  have hsp := (scanLeast_spec (fun t => decide (d ≤ s.sbf t)) (supplyHorizon s d)).1 (s.stClosed d)
  have : scanLeast (fun t => decide (d ≤ s.sbf t)) (supplyHorizon s d) = some (s.stClosed d) := by
    rw [hsp]
    refine ⟨stClosed_le_horizon s hs d, ?_, ?_⟩
    · exact decide_eq_true ((hg _ _).1 (Nat.le_refl _))
    · intro r' hr'
      apply decide_eq_false
      intro hc
      have := (hg _ _).2 hc
      omega
  unfold naiveSt
  rw [this]
  rfl

end RosNaiveLemmas

theorem st_eq_naive (s : Supply) (hs : s.WF) (d : Nat) : s.st? d = some (naiveSt s d) := by
  rw [naiveSt_eq s hs d]
  exact Supply.st?_eq s hs d
/-- the offsets examined by `bound_response_time`: step offsets `A ≤ max_bw` of the demand -/
def rosOffsets (demand : RB) (maxBw : Nat) : List Nat :=
  ((demand.stepsUpTo (maxBw + 1)).map (· - 1))

namespace RosNaiveLemmas

/-- `step_offsets` on an exact step list up to `H + 1`: nothing is filtered out -/
theorem stepOffsets_succ (N : Nat → Nat) (H : Nat) (steps : List Nat)
    (hs : StepsSpec N (H + 1) steps) :
    stepOffsetsBelow steps (H + 1) = some (steps.map (· - 1)) ∧
      (steps.map (· - 1)).Pairwise (· < ·) ∧
      ∀ A, A ∈ steps.map (· - 1) ↔ (A ≤ H ∧ N A < N (A + 1)) := by
  obtain ⟨as, he, hp, hm⟩ := RBStepsLemmas.stepOffsetsBelow_spec N (H + 1) steps hs
  have e : as = steps.map (· - 1) := by
    unfold stepOffsetsBelow at he
    split at he
    · cases he
    · rw [← Option.some.inj he, List.filter_eq_self]
      intro A hA
      obtain ⟨δ, hδ, rfl⟩ := List.mem_map.1 hA
      have := (hs.2 δ).1 hδ
      exact decide_eq_true (by omega)
  subst e
  exact ⟨he, hp, fun A => by rw [hm A, Nat.lt_succ_iff]⟩

theorem stepOffsets_eq (demand : RB) (hwf : demand.ArrWF) (hex : demand.Exact) (maxBw : Nat) :
    stepOffsetsBelow (demand.stepsUpTo (maxBw + 1)) (maxBw + 1) = some (rosOffsets demand maxBw) :=
  (stepOffsets_succ _ maxBw _ (RB.steps_spec demand hwf hex (maxBw + 1))).1

theorem mem_rosOffsets (demand : RB) (hwf : demand.ArrWF) (hex : demand.Exact) (maxBw A : Nat) :
    A ∈ rosOffsets demand maxBw ↔ (A ≤ maxBw ∧ demand.need A < demand.need (A + 1)) :=
  (stepOffsets_succ _ maxBw _ (RB.steps_spec demand hwf hex (maxBw + 1))).2.2 A

theorem rosOffsets_sorted (demand : RB) (hwf : demand.ArrWF) (hex : demand.Exact) (maxBw : Nat) :
    (rosOffsets demand maxBw).Pairwise (· < ·) :=
  (stepOffsets_succ _ maxBw _ (RB.steps_spec demand hwf hex (maxBw + 1))).2.1

theorem search_eq_nss (s : Supply) (hs : s.WF) (w : Nat → Nat) (hw : Mono w) (limit : Nat)
    (hl : 1 ≤ limit) : search s limit w = naiveSolveSup s.sbf 0 w limit :=
  searchWithOffset_eq_naive s hs w hw 0 limit hl (fun _ _ => Nat.zero_le _)

theorem naiveRosBoundOn_eq_bind (s : Supply) (bwRhs : Nat → Nat) (offRhs : Nat → Nat → Nat)
    (limit : Nat) (offsets : Nat → List Nat) :
    naiveRosBoundOn s bwRhs offRhs limit offsets =
      (naiveSolveSup s.sbf 0 bwRhs limit).bind fun m =>
        naiveMax ((offsets m).map fun A => naiveSolveSup s.sbf A (offRhs A) limit) := rfl

theorem naiveRosBound_eq_on (s : Supply) (bwRhs : Nat → Nat) (offRhs : Nat → Nat → Nat) (limit : Nat) :
    naiveRosBound s bwRhs offRhs limit =
      naiveRosBoundOn s bwRhs offRhs limit (fun m => List.range (m + 1)) := rfl

end RosNaiveLemmas

/-- generic: `bound_response_time` = linear-scan evaluation over the step offsets, when
the right-hand sides are monotone and every examined offset lies inside the busy window -/
theorem rosBound_eq_on_steps (s : Supply) (hs : s.WF) (demand : RB) (hwf : demand.ArrWF) (hex : demand.Exact)
    (bwRhs : Nat → Nat) (offRhs : Nat → Nat → Nat) (limit : Nat) (hl : 1 ≤ limit)
    (hbw : Mono bwRhs) (hoff : ∀ A, Mono (offRhs A))
    (hguard : ∀ maxBw, naiveSolveSup s.sbf 0 bwRhs limit = .ok maxBw →
      ∀ A ∈ rosOffsets demand maxBw, InBusyWindow s.stClosed (offRhs A) A) :
    rosBound s demand bwRhs offRhs limit =
      naiveRosBoundOn s bwRhs offRhs limit (rosOffsets demand) := by
  unfold rosBound naiveRosBoundOn
  rw [search_eq_nss s hs bwRhs hbw limit hl]
  rcases nss_cases s.sbf 0 bwRhs limit with ⟨maxBw, h⟩ | h
  · rw [h]
    simp only []
    rw [stepOffsets_eq demand hwf hex maxBw]
    simp only [overOffsets]
    have e : (rosOffsets demand maxBw).map (fun A => searchWithOffset s A limit (offRhs A)) =
        (rosOffsets demand maxBw).map (fun A => naiveSolveSup s.sbf A (offRhs A) limit) := by
      apply List.map_congr_left
      intro A hA
      exact searchWithOffset_eq_naive s hs (offRhs A) (hoff A) A limit hl (hguard maxBw h A hA)
    rw [e]
    apply maxResponseTime_eq_naiveMax
    intro x hx
    rw [List.mem_map] at hx
    obtain ⟨A, _, rfl⟩ := hx
    exact nss_ne_panic _ _ _ _
  · rw [h]


namespace RosNaiveLemmas

theorem exists_greatest_inc (N : Nat → Nat) (hm : MonoN N) (h0 : N 0 = 0) (A : Nat)
    (hpos : 0 < N (A + 1)) : ∃ A', A' ≤ A ∧ N A' < N (A' + 1) ∧ N (A + 1) = N (A' + 1) := by
  obtain ⟨A', hP, hle, hg⟩ := exists_greatest (fun B => B = 0 ∨ N B < N (B + 1)) (Or.inl rfl) A
  have e := succ_eq_of_greatest N hm (A + 1) (fun B h => Or.inr h.2) A A' (Nat.lt_succ_self A) hle hg
  refine ⟨A', hle, ?_, e⟩
  rcases hP with rfl | h
  · omega
  · exact h

theorem sbf_mono (s : Supply) (hs : s.WF) : Mono s.sbf := lipschitz_mono (Supply.sbf_lipschitz s hs)

/-- the `distance_to` guard holds at every offset up to the busy-window bound whose
right-hand side dominates the busy-window right-hand side just below the offset -/
theorem guard_of_bw (s : Supply) (hs : s.WF) (bwRhs w : Nat → Nat) (limit maxBw A : Nat)
    (hres : naiveSolveSup s.sbf 0 bwRhs limit = .ok maxBw) (hA : A ≤ maxBw)
    (hdom : ∀ x, 1 ≤ x → bwRhs (max (A - 1) 1) ≤ w x) : InBusyWindow s.stClosed w A := by
  intro x hx
  rcases Nat.eq_zero_or_pos A with h0 | hpos
  · omega
  · rw [nss_ok_iff] at hres
    have hnot := hres.2.2 (A - 1) (by omega)
    rw [Nat.zero_add] at hnot
    apply Classical.byContradiction
    intro hlt
    have h1 : s.stClosed (w x) ≤ A - 1 := by omega
    have h2 := (Supply.galois s hs _ _).1 h1
    exact hnot (Nat.le_trans (hdom x hx) h2)

end RosNaiveLemmas

/-- C07, event source: equal to naive evaluation over EVERY offset `A ≤ max_bw` -/
theorem eventSource_eq_naive (s : Supply) (hs : s.WF) (demand : RB) (hwf : demand.ArrWF)
    (hex : demand.Exact) (limit : Nat) (hl : 1 ≤ limit) :
    rosEventSource s demand limit = naiveEventSource s demand limit := by
  have hmono := RB.need_mono demand hwf hex
  unfold rosEventSource
  rw [rosBound_eq_on_steps s hs demand hwf hex _ _ limit hl (fun a b h => hmono a b h)
    (fun A a b _ => Nat.le_refl _)]
  · unfold naiveRosBoundOn naiveEventSource naiveRosBound
    rcases nss_cases s.sbf 0 (fun d => demand.need d) limit with ⟨maxBw, h⟩ | h
    · rw [h]
      simp only []
      apply naiveMax_pruned_first _ (maxBw + 1) _ (rosOffsets_sorted demand hwf hex maxBw)
      · intro A hA
        have := (mem_rosOffsets demand hwf hex maxBw A).1 hA
        omega
      · intro A _
        rcases nss_cases s.sbf A (fun _ => demand.need (A + 1)) limit with ⟨r, h⟩ | h
        · exact Or.inl ⟨r, h⟩
        · exact Or.inr ⟨_, _, h⟩
      · intro A hA
        rcases Nat.eq_zero_or_pos (demand.need (A + 1)) with hz | hpos
        · left
          rw [nss_ok_iff]
          refine ⟨Nat.zero_le _, ?_, fun r' hr' => absurd hr' (Nat.not_lt_zero _)⟩
          show demand.need (A + 1) ≤ _
          omega
        · right
          obtain ⟨A', h1, h2, h3⟩ := exists_greatest_inc demand.need hmono (RB.need_zero demand) A hpos
          refine ⟨A', (mem_rosOffsets demand hwf hex maxBw A').2 ⟨by omega, h2⟩, h1, ?_⟩
          apply nss_leD
          intro r hr
          refine ⟨r, Nat.le_refl r, ?_⟩
          show demand.need (A + 1) ≤ _
          have hr' : demand.need (A' + 1) ≤ s.sbf (A' + r) := hr
          rw [h3]
          exact Nat.le_trans hr' (sbf_mono s hs _ _ (by omega))
    · rw [h]
  · intro maxBw hbw A hA
    have hm := (mem_rosOffsets demand hwf hex maxBw A).1 hA
    apply guard_of_bw s hs (fun d => demand.need d) _ limit maxBw A hbw hm.1
    intro x _
    exact hmono _ _ (by omega)

namespace RosNaiveLemmas

theorem scalar_rb_side (a : Arr) (C : Nat) (hwf : a.WF) (hex : a.Exact) (hC : 1 ≤ C) :
    (RB.rbf a (.scalar C)).ArrWF ∧ (RB.rbf a (.scalar C)).Exact := by
  refine ⟨?_, ?_⟩
  · simp only [RB.ArrWF]; exact hwf
  · simp only [RB.Exact]; exact ⟨hex, Cost.scalar_strictPos C hC⟩

theorem scalar_leastWcet (a : Arr) (C : Nat) (hwf : a.WF) (hpos : 0 < a.N 1) (d : Nat)
    (hd : 1 ≤ d) : (RB.rbf a (.scalar C)).leastWcet d = C := by
  have := Arr.N_mono a hwf 1 d hd
  simp only [RB.leastWcet, Cost.least]
  rw [if_pos (by omega)]

theorem iv_ge (own : RB) (A r : Nat) : A + 1 ≤ interferenceInterval own A r := by
  unfold interferenceInterval
  simp only []
  split <;> omega

theorem iv_zero (own : RB) (A : Nat) : interferenceInterval own A 0 = A + 1 := by
  unfold interferenceInterval
  simp

theorem iv_scalar (a : Arr) (C : Nat) (hwf : a.WF) (hpos : 0 < a.N 1) (A r : Nat) (hr : 1 ≤ r) :
    interferenceInterval (.rbf a (.scalar C)) A r = if r > C then A + r - C + 1 else A + 1 := by
  unfold interferenceInterval
  simp only []
  rw [scalar_leastWcet a C hwf hpos (A + r) (by omega)]

theorem iv_mono (a : Arr) (C : Nat) (hwf : a.WF) (hpos : 0 < a.N 1) (A : Nat) :
    Mono (interferenceInterval (.rbf a (.scalar C)) A) := by
  intro r r' h
  rcases Nat.eq_zero_or_pos r with h0 | hp
  · subst h0; rw [iv_zero]; exact iv_ge _ _ _
  · rw [iv_scalar a C hwf hpos A r hp, iv_scalar a C hwf hpos A r' (by omega)]
    split <;> split <;> omega

end RosNaiveLemmas

/-- C07 (partial), timer / polling point: for a callback with scalar WCET, equal to naive
evaluation over the step offsets of the callback's own demand (all supplies, limits ≥ 1) -/
theorem timer_eq_naive_on_steps (s : Supply) (hs : s.WF) (a : Arr) (C : Nat) (interf : RB)
    (hwf : a.WF) (hex : a.Exact) (hC : 1 ≤ C) (hpos : 0 < a.N 1)
    (hwfi : interf.ArrWF) (hexi : interf.Exact) (B limit : Nat) (hl : 1 ≤ limit) :
    rosTimer s (.rbf a (.scalar C)) interf B limit =
      naiveRosBoundOn s (fun d => (RB.rbf a (.scalar C)).need d + B + interf.need d)
        (fun A r => (RB.rbf a (.scalar C)).need (A + 1) +
          interf.need (interferenceInterval (.rbf a (.scalar C)) A r) + B) limit
        (rosOffsets (.rbf a (.scalar C))) := by
  obtain ⟨h1, h2⟩ := scalar_rb_side a C hwf hex hC
  unfold rosTimer
  apply rosBound_eq_on_steps s hs _ h1 h2 _ _ limit hl
  · intro x y hxy
    have := RB.need_mono _ h1 h2 x y hxy
    have := RB.need_mono interf hwfi hexi x y hxy
    show _ + B + _ ≤ _ + B + _
    omega
  · intro A x y hxy
    have := RB.need_mono interf hwfi hexi _ _ (iv_mono a C hwf hpos A x y hxy)
    show _ + _ + B ≤ _ + _ + B
    omega
  · intro maxBw hbw A hA
    have hm := (mem_rosOffsets _ h1 h2 maxBw A).1 hA
    apply guard_of_bw s hs _ _ limit maxBw A hbw hm.1
    intro x _
    have := RB.need_mono _ h1 h2 (max (A - 1) 1) (A + 1) (by omega)
    have := RB.need_mono interf hwfi hexi (max (A - 1) 1)
      (interferenceInterval (RB.rbf a (.scalar C)) A x)
      (by have := iv_ge (RB.rbf a (.scalar C)) A x; omega)
    show _ + B + _ ≤ _ + _ + B
    omega

theorem pollingPoint_eq_naive_on_steps (s : Supply) (hs : s.WF) (a : Arr) (C : Nat) (interf : RB)
    (hwf : a.WF) (hex : a.Exact) (hC : 1 ≤ C) (hpos : 0 < a.N 1)
    (hwfi : interf.ArrWF) (hexi : interf.Exact) (limit : Nat) (hl : 1 ≤ limit) :
    rosPollingPoint s (.rbf a (.scalar C)) interf limit =
      naiveRosBoundOn s (fun d => (RB.rbf a (.scalar C)).need d + interf.need d)
        (fun A r => (RB.rbf a (.scalar C)).need (A + 1) +
          interf.need (interferenceInterval (.rbf a (.scalar C)) A r)) limit
        (rosOffsets (.rbf a (.scalar C))) :=
  timer_eq_naive_on_steps s hs a C interf hwf hex hC hpos hwfi hexi 0 limit hl

/-- finding K2: for non-concave interference the pruning of the timer analysis to the
steps of the own demand is lossy against all-offset evaluation -/
theorem timer_pruning_lossy :
    rosTimer .dedicated (.rbf (.sporadic 35 10) (.scalar 3)) (.rbf (.curve [8, 9, 11, 17]) (.scalar 3)) 3 200 = .ok 9 ∧
    naiveTimer .dedicated (.rbf (.sporadic 35 10) (.scalar 3)) (.rbf (.curve [8, 9, 11, 17]) (.scalar 3)) 3 200 = .ok 10 := by
  decide

namespace RosNaiveLemmas

theorem cappedJobs_mono (k k' : CbKind) (a b c d : Nat) (h : a ≤ b) (h' : c ≤ d) :
    cappedJobs k k' a c ≤ cappedJobs k k' b d := by
  have hmin : ∀ x, min a (c + x) ≤ min b (d + x) := fun x => by omega
  cases k with
  | timer => exact h
  | eventSource => exact h
  | polledUnknown => exact hmin 1
  | polled p => cases k' <;> exact hmin _

end RosNaiveLemmas

/-- callback `c'` is at least as hard as `c`: same kind, no smaller assumed response-time
bound, no fewer arrivals in any window, no smaller cost of any number of jobs -/
structure Callback.Le (c c' : Callback) : Prop where
  kind : c.kind = c'.kind
  rtb : c.rtb ≤ c'.rtb
  arr : ∀ d, c.arr.N d ≤ c'.arr.N d
  cost : ∀ n, c.cost.ofJobs n ≤ c'.cost.ofJobs n

/-- pointwise order on workloads of the same shape -/
def WorkloadLe (wl wl' : List Callback) : Prop :=
  wl.length = wl'.length ∧ ∀ i, i < wl.length → (wl.getD i default).Le (wl'.getD i default)

namespace RosNaiveLemmas

/-! ### the workload order: the right-hand side of rr is monotone in every argument -/

theorem WorkloadLe.refl (wl : List Callback) : WorkloadLe wl wl :=
  ⟨rfl, fun _ _ => ⟨rfl, Nat.le_refl _, fun _ => Nat.le_refl _, fun _ => Nat.le_refl _⟩⟩

theorem cost_le (cb cb' : Callback) (h : cb.Le cb') (hm' : MonoN cb'.cost.ofJobs) (n n' : Nat)
    (hn : n ≤ n') : cb.cost.ofJobs n ≤ cb'.cost.ofJobs n' :=
  Nat.le_trans (h.cost n) (hm' _ _ hn)

/-- the cost of the capped number of jobs, the shape shared by `direct_rbf` of rr and `rbf`
of bw: more arrivals, a larger cap, a harder callback -/
theorem cappedCost_le (cb cb' : Callback) (h : cb.Le cb') (hm' : MonoN cb'.cost.ofJobs)
    (k : CbKind) (n n' c c' : Nat) (hn : n ≤ n') (hc : c ≤ c') :
    cb.cost.ofJobs (cappedJobs cb.kind k n c) ≤ cb'.cost.ofJobs (cappedJobs cb'.kind k n' c') := by
  rw [h.kind]
  exact cost_le cb cb' h hm' _ _ (cappedJobs_mono _ _ _ _ _ _ hn hc)

theorem arr_le (cb cb' : Callback) (h : cb.Le cb') (hwf' : cb'.arr.WF) (x y : Nat) (hxy : x ≤ y) :
    cb.arr.N x ≤ cb'.arr.N y :=
  Nat.le_trans (h.arr x) (Arr.N_mono _ hwf' x y hxy)

theorem sumPPBound_le (wl wl' : List Callback) (hle : WorkloadLe wl wl') (sub : List Nat)
    (hsub : ∀ i ∈ sub, i < wl.length) (hwf' : ∀ cb ∈ wl', cb.arr.WF) :
    sumPPBound wl sub ≤ sumPPBound wl' sub := by
  unfold sumPPBound
  apply sumList_map_le
  intro i hi
  have h1 := hsub i hi
  exact arr_le _ _ (hle.2 i h1) (hwf' _ (getD_mem wl' i (hle.1 ▸ h1))) _ _ (hle.2 i h1).rtb

theorem directRbf_le (cb cb' : Callback) (h : cb.Le cb') (hwf' : cb'.arr.WF)
    (hm' : MonoN cb'.cost.ofJobs) (k : CbKind) (x y npp npp' : Nat) (hxy : x ≤ y)
    (hnpp : npp ≤ npp') : cb.directRbf k x npp ≤ cb'.directRbf k y npp' :=
  cappedCost_le cb cb' h hm' k _ _ _ _
    (arr_le cb cb' h hwf' _ _ (by have := h.rtb; omega)) hnpp

theorem rrRhs_le (wl wl' : List Callback) (hle : WorkloadLe wl wl') (e npp npp' : Nat)
    (he : e < wl.length) (hwf' : ∀ cb ∈ wl', cb.arr.WF ∧ MonoN cb.cost.ofJobs)
    (hnpp : npp ≤ npp') (x y : Nat) (hxy : x ≤ y) : rrRhs wl e npp x ≤ rrRhs wl' e npp' y := by
  have hk := (hle.2 e he).kind
  have heoc' := hwf' _ (getD_mem wl' e (hle.1 ▸ he))
  unfold rrRhs
  simp only []
  rw [← hle.1, ← hk]
  refine Nat.add_le_add (Nat.add_le_add_left (sumList_map_le _ _ _ ?_) 1) ?_
  · intro i hi
    have hi' := List.mem_range.1 hi
    have hcb' := hwf' _ (getD_mem wl' i (hle.1 ▸ hi'))
    split
    · exact Nat.le_refl _
    · exact directRbf_le _ _ (hle.2 i hi') hcb'.1 hcb'.2 _ _ _ _ _ hxy hnpp
  · refine cost_le _ _ (hle.2 e he) heoc'.2 _ _ (Nat.sub_le_sub_right ?_ 1)
    exact arr_le _ _ (hle.2 e he) heoc'.1 _ _ (by have := (hle.2 e he).rtb; omega)

theorem rrRhs_mono (wl : List Callback) (e npp : Nat)
    (hwf : ∀ cb ∈ wl, cb.arr.WF ∧ MonoN cb.cost.ofJobs) (he : e < wl.length) :
    Mono (rrRhs wl e npp) :=
  fun x y hxy => rrRhs_le wl wl (WorkloadLe.refl wl) e npp npp he hwf (Nat.le_refl _) x y hxy

/-- the tail shared by the rr and bw analyses: fixed point, marginal cost, `service_time` -/
theorem tail_eq (s : Supply) (hs : s.WF) (cost : Nat → Nat) (hm : MonoN cost) (rhs : Nat → Nat)
    (hrhs : Mono rhs) (limit : Nat) (hl : 1 ≤ limit) (n : Nat → Nat) (post : Nat → Nat) :
    (match search s limit rhs with
      | .ok sStar =>
        if cost (n sStar + 1) < cost (n sStar) then Res.panic else
        match s.st? ((s.sbf sStar - 1) + (cost (n sStar + 1) - cost (n sStar))) with
        | some r => .ok (post r)
        | none => .panic
      | e => e) =
    (match naiveSolveSup s.sbf 0 rhs limit with
      | .ok sStar =>
        .ok (post (naiveSt s ((s.sbf sStar - 1) + (cost (n sStar + 1) - cost (n sStar)))))
      | e => e) := by
  rw [search_eq_nss s hs rhs hrhs limit hl]
  rcases nss_cases s.sbf 0 rhs limit with ⟨r, h⟩ | h
  · rw [h]
    simp only []
    have := hm (n r) (n r + 1) (by omega)
    rw [if_neg (by omega), st_eq_naive s hs]
  · rw [h]

end RosNaiveLemmas

/-- C07, rr subchain analysis = linear-scan evaluation (all callback kinds, singleton and
multi-callback subchains) -/
theorem rr_eq_naive (s : Supply) (hs : s.WF) (wl : List Callback) (sub : List Nat) (limit : Nat)
    (hl : 1 ≤ limit) (hsub : ∀ i ∈ sub, i < wl.length) (hwf : ∀ cb ∈ wl, cb.arr.WF ∧ MonoN cb.cost.ofJobs) :
    rrSubchain s wl sub limit = naiveRr s wl sub limit := by
  unfold rrSubchain naiveRr
  cases hlast : sub.getLast? with
  | none => rfl
  | some e =>
    have he := hsub e (List.mem_of_getLast? hlast)
    have hall : sub.all (fun x => decide (x < wl.length)) = true := by
      rw [List.all_eq_true]
      intro i hi
      exact decide_eq_true (hsub i hi)
    simp only []
    rw [if_neg (not_not_intro hall)]
    exact tail_eq s hs (wl.getD e default).cost.ofJobs (hwf _ (getD_mem wl e he)).2
      (rrRhs wl e (sumPPBound wl sub)) (rrRhs_mono wl e _ hwf he) limit hl
      (fun sStar => (wl.getD e default).rrSelfInstances sStar) (fun r => r)

namespace RosNaiveLemmas

theorem sorted_ext (l1 l2 : List Nat) (h1 : l1.Pairwise (· < ·)) (h2 : l2.Pairwise (· < ·))
    (h : ∀ x, x ∈ l1 ↔ x ∈ l2) : l1 = l2 := by
  induction l1 generalizing l2 with
  | nil =>
    cases l2 with
    | nil => rfl
    | cons b bs => exact absurd ((h b).2 (by simp)) (by simp)
  | cons a as ih =>
    cases l2 with
    | nil => exact absurd ((h a).1 (by simp)) (by simp)
    | cons b bs =>
      rw [List.pairwise_cons] at h1 h2
      have hab : a = b := by
        have ha := (h a).1 (by simp)
        have hb := (h b).2 (by simp)
        rw [List.mem_cons] at ha hb
        rcases ha with ha | ha
        · exact ha
        · rcases hb with hb | hb
          · exact hb.symm
          · have := h1.1 b hb
            have := h2.1 a ha
            omega
      subst hab
      congr 1
      apply ih _ h1.2 h2.2
      intro x
      constructor
      · intro hx
        have := (h x).1 (by simp [hx])
        rw [List.mem_cons] at this
        rcases this with e | hm
        · have := h1.1 x hx; omega
        · exact hm
      · intro hx
        have := (h x).2 (by simp [hx])
        rw [List.mem_cons] at this
        rcases this with e | hm
        · have := h2.1 x hx; omega
        · exact hm

theorem exists_lt_cons {α : Type} (a : α) (l : List α) (Q : Nat → Prop) :
    (∃ j, j < (a :: l).length ∧ Q j) ↔ (Q 0 ∨ ∃ j, j < l.length ∧ Q (j + 1)) := by
  constructor
  · rintro ⟨j, hj, hq⟩
    cases j with
    | zero => exact Or.inl hq
    | succ j => exact Or.inr ⟨j, by simpa using hj, hq⟩
  · rintro (hq | ⟨j, hj, hq⟩)
    · exact ⟨0, by simp, hq⟩
    · exact ⟨j + 1, by simpa using hj, hq⟩

/-- what callback number `idx` contributes to the relevant steps of the bw analysis -/
def StepP (e H idx : Nat) (cb : Callback) (x : Nat) : Prop :=
  if idx = e then x ∈ (cb.arr.stepsUpTo (H + 1)).map (· - 1)
  else cb.kind.isPP = true ∧ x ∈ cb.arr.stepsUpTo H

theorem mem_go (e H : Nat) (l : List Callback) (i x : Nat) :
    x ∈ bwAllSteps.go e H l i ↔ ∃ j, j < l.length ∧ StepP e H (i + j) (l.getD j default) x := by
  induction l generalizing i with
  | nil => simp [bwAllSteps.go]
  | cons cb rest ih =>
    rw [exists_lt_cons]
    have e1 : ∀ j, i + 1 + j = i + (j + 1) := by intro j; omega
    have ih' : x ∈ bwAllSteps.go e H rest (i + 1) ↔
        ∃ j, j < rest.length ∧ StepP e H (i + (j + 1)) (rest.getD j default) x := by
      rw [ih (i + 1)]
      constructor
      · rintro ⟨j, hj, hp⟩
        exact ⟨j, hj, by rw [e1 j] at hp; exact hp⟩
      · rintro ⟨j, hj, hp⟩
        exact ⟨j, hj, by rw [e1 j]; exact hp⟩
    simp only [List.getD_cons_zero, List.getD_cons_succ, Nat.add_zero]
    rw [← ih']
    have hgo : bwAllSteps.go e H (cb :: rest) i =
        if i = e then merge ((cb.arr.stepsUpTo (H + 1)).map (· - 1)) (bwAllSteps.go e H rest (i + 1))
        else if cb.kind.isPP then merge (cb.arr.stepsUpTo H) (bwAllSteps.go e H rest (i + 1))
        else bwAllSteps.go e H rest (i + 1) := rfl
    rw [hgo]
    unfold StepP
    by_cases hie : i = e
    · rw [if_pos hie, if_pos hie, mem_merge]
    · rw [if_neg hie, if_neg hie]
      by_cases hpp : cb.kind.isPP = true
      · rw [if_pos hpp, mem_merge]
        simp only [hpp, true_and]
      · rw [if_neg hpp]
        simp only [hpp, Bool.false_eq_true, false_and, false_or]

theorem go_sorted (e H : Nat) (l : List Callback) (hwf : ∀ cb ∈ l, cb.arr.WF ∧ cb.arr.Exact)
    (i : Nat) : (bwAllSteps.go e H l i).Pairwise (· ≤ ·) := by
  induction l generalizing i with
  | nil => simp [bwAllSteps.go]
  | cons cb rest ih =>
    have hcb := hwf cb (by simp)
    have hrest := ih (fun c hc => hwf c (by simp [hc])) (i + 1)
    unfold bwAllSteps.go
    split
    · apply merge_sorted _ _ _ hrest
      rw [List.pairwise_map]
      exact (Arr.steps_spec cb.arr hcb.1 hcb.2 (H + 1)).1.imp (fun h => by omega)
    · split
      · exact merge_sorted _ _ (strict_imp_sorted _ (Arr.steps_spec cb.arr hcb.1 hcb.2 H).1) hrest
      · exact hrest

theorem stepP_iff (e H j : Nat) (cb : Callback) (hwf : cb.arr.WF) (hex : cb.arr.Exact) (x : Nat) :
    StepP e H j cb x ↔
      (x ≤ H ∧ (if j = e then cb.arr.N x < cb.arr.N (x + 1)
        else cb.kind.isPP = true ∧ 1 ≤ x ∧ cb.arr.N (x - 1) < cb.arr.N x)) := by
  unfold StepP
  by_cases hje : j = e
  · rw [if_pos hje, if_pos hje]
    exact (stepOffsets_succ _ H _ (Arr.steps_spec cb.arr hwf hex (H + 1))).2.2 x
  · rw [if_neg hje, if_neg hje]
    have hs := Arr.steps_spec cb.arr hwf hex H
    rw [hs.2 x]
    constructor
    · rintro ⟨h1, h2, h3, h4⟩
      exact ⟨h3, h1, h2, h4⟩
    · rintro ⟨h1, h2, h3, h4⟩
      exact ⟨h2, h3, h1, h4⟩

/-- `x` is a relevant activation offset: the end of the chain releases something right
after `x`, or a polled callback releases something at `x` -/
def Rel (wl : List Callback) (e x : Nat) : Prop :=
  ∃ j, j < wl.length ∧
    (if j = e then (wl.getD j default).arr.N x < (wl.getD j default).arr.N (x + 1)
     else (wl.getD j default).kind.isPP = true ∧ 1 ≤ x ∧
       (wl.getD j default).arr.N (x - 1) < (wl.getD j default).arr.N x)

theorem mem_bwAllSteps (wl : List Callback) (e H : Nat)
    (hwf : ∀ cb ∈ wl, cb.arr.WF ∧ cb.arr.Exact) (x : Nat) :
    x ∈ bwAllSteps wl e H ↔ (x ≤ H ∧ Rel wl e x) := by
  unfold bwAllSteps Rel
  rw [mem_dedup, mem_go]
  simp only [Nat.zero_add]
  constructor
  · rintro ⟨j, hj, hp⟩
    have hcb := hwf _ (getD_mem wl j hj)
    have := (stepP_iff e H j _ hcb.1 hcb.2 x).1 hp
    exact ⟨this.1, j, hj, this.2⟩
  · rintro ⟨hx, j, hj, hc⟩
    have hcb := hwf _ (getD_mem wl j hj)
    exact ⟨j, hj, (stepP_iff e H j _ hcb.1 hcb.2 x).2 ⟨hx, hc⟩⟩

theorem bwAllSteps_sorted (wl : List Callback) (e H : Nat)
    (hwf : ∀ cb ∈ wl, cb.arr.WF ∧ cb.arr.Exact) : (bwAllSteps wl e H).Pairwise (· < ·) :=
  dedup_strict _ (go_sorted e H wl hwf 0)

theorem inc_iff_bne (cb : Callback) (hwf : cb.arr.WF) (j e x : Nat) :
    (if j = e then cb.arr.N x < cb.arr.N (x + 1)
      else cb.kind.isPP = true ∧ 1 ≤ x ∧ cb.arr.N (x - 1) < cb.arr.N x) ↔
    (if j = e then cb.arr.N x != cb.arr.N (x + 1)
      else cb.kind.isPP && decide (x > 0) && (cb.arr.N (x - 1) != cb.arr.N x)) = true := by
  have hm := Arr.N_mono cb.arr hwf
  by_cases hje : j = e
  · rw [if_pos hje, if_pos hje, bne_iff_ne]
    have := hm x (x + 1) (by omega)
    omega
  · rw [if_neg hje, if_neg hje]
    simp only [Bool.and_eq_true, decide_eq_true_eq, bne_iff_ne]
    have := hm (x - 1) x (by omega)
    constructor
    · rintro ⟨h1, h2, h3⟩; exact ⟨⟨h1, h2⟩, by omega⟩
    · rintro ⟨⟨h1, h2⟩, h3⟩; exact ⟨h1, h2, by omega⟩

end RosNaiveLemmas

/-- the relevant steps of the bw analysis are exactly the brute-force ones (so the
debug-only cross-check cannot fire) -/
theorem bwAllSteps_eq_brute (wl : List Callback) (e H : Nat) (he : e < wl.length)
    (hwf : ∀ cb ∈ wl, cb.arr.WF ∧ cb.arr.Exact) :
    bwAllSteps wl e H = bwBruteSteps wl e H := by
  have _ := he
  apply sorted_ext
  · exact bwAllSteps_sorted wl e H hwf
  · exact List.Pairwise.filter _ List.pairwise_lt_range
  · intro x
    rw [mem_bwAllSteps wl e H hwf x]
    unfold bwBruteSteps Rel
    rw [List.mem_filter, List.mem_range, List.any_eq_true, Nat.lt_succ_iff]
    refine and_congr_right fun _ => ?_
    constructor
    · rintro ⟨j, hj, hc⟩
      exact ⟨j, List.mem_range.2 hj, (inc_iff_bne _ (hwf _ (getD_mem wl j hj)).1 j e x).1 hc⟩
    · rintro ⟨j, hj, hc⟩
      have hj' := List.mem_range.1 hj
      exact ⟨j, hj', (inc_iff_bne _ (hwf _ (getD_mem wl j hj')).1 j e x).2 hc⟩

namespace RosNaiveLemmas

theorem bwRbf_le (cb cb' : Callback) (h : cb.Le cb') (hwf' : cb'.arr.WF)
    (hm' : MonoN cb'.cost.ofJobs) (k : CbKind) (x y a b npp npp' : Nat) (hxy : x ≤ y)
    (hab : a ≤ b) (hnpp : npp ≤ npp') : cb.bwRbf k x a npp ≤ cb'.bwRbf k y b npp' :=
  cappedCost_le cb cb' h hm' k _ _ _ _ (arr_le cb cb' h hwf' x y hxy)
    (Nat.add_le_add (arr_le cb cb' h hwf' a b hab) hnpp)

theorem bwInterference_le (wl wl' : List Callback) (hle : WorkloadLe wl wl') (e : Nat) (k : CbKind)
    (npp npp' : Nat) (hwf' : ∀ cb ∈ wl', cb.arr.WF ∧ MonoN cb.cost.ofJobs)
    (hnpp : npp ≤ npp') (x y a b : Nat) (hxy : x ≤ y) (hab : a ≤ b) :
    bwInterference wl e k npp x a ≤ bwInterference wl' e k npp' y b := by
  unfold bwInterference
  rw [← hle.1]
  apply sumList_map_le
  intro i hi
  have hi' := List.mem_range.1 hi
  have hcb' := hwf' _ (getD_mem wl' i (hle.1 ▸ hi'))
  split
  · exact Nat.le_refl _
  · exact bwRbf_le _ _ (hle.2 i hi') hcb'.1 hcb'.2 _ _ _ _ _ _ _ hxy hab hnpp

theorem bwInterference_mono (wl : List Callback) (e : Nat) (k : CbKind) (npp : Nat)
    (hwf : ∀ cb ∈ wl, cb.arr.WF ∧ MonoN cb.cost.ofJobs) (x y a b : Nat) (h : x ≤ y) (h' : a ≤ b) :
    bwInterference wl e k npp x a ≤ bwInterference wl e k npp y b :=
  bwInterference_le wl wl (WorkloadLe.refl wl) e k npp npp hwf (Nat.le_refl _) x y a b h h'

theorem bwRbf_nonpp (cb : Callback) (h : ¬ cb.kind.isPP = true) (k : CbKind) (x a npp : Nat) :
    cb.bwRbf k x a npp = cb.cost.ofJobs (cb.arr.N x) := by
  unfold Callback.bwRbf
  cases hk : cb.kind with
  | timer => rfl
  | eventSource => rfl
  | polledUnknown => rw [hk] at h; exact absurd rfl h
  | polled p => rw [hk] at h; exact absurd rfl h

theorem bwInterference_congr (wl : List Callback) (e : Nat) (k : CbKind) (npp x a a' : Nat)
    (h : ∀ j, j < wl.length → j ≠ e → (wl.getD j default).kind.isPP = true →
      (wl.getD j default).arr.N a = (wl.getD j default).arr.N a') :
    bwInterference wl e k npp x a = bwInterference wl e k npp x a' := by
  unfold bwInterference
  congr 1
  apply List.map_congr_left
  intro j hj
  by_cases hje : j = e
  · rw [if_pos hje, if_pos hje]
  · rw [if_neg hje, if_neg hje]
    by_cases hpp : (wl.getD j default).kind.isPP = true
    · unfold Callback.bwRbf
      rw [h j (List.mem_range.1 hj) hje hpp]
    · rw [bwRbf_nonpp _ hpp, bwRbf_nonpp _ hpp]

theorem bwCoverHorizon_ge (wl : List Callback) (e maxOff fuel H : Nat) :
    H ≤ bwCoverHorizon wl e maxOff fuel H := by
  induction fuel generalizing H with
  | zero => exact Nat.le_refl _
  | succ fuel ih =>
    unfold bwCoverHorizon
    split
    · exact Nat.le_refl _
    · exact Nat.le_trans (by omega) (ih (2 * H + 1))

theorem span_loop_eq (p : Nat → Bool) (l acc : List Nat) :
    List.span.loop p l acc = (acc.reverse ++ l.takeWhile p, l.dropWhile p) := by
  induction l generalizing acc with
  | nil => simp [List.span.loop]
  | cons a as ih =>
    unfold List.span.loop
    cases h : p a with
    | true =>
      simp only [ih, List.takeWhile_cons, List.dropWhile_cons, h, if_true, List.reverse_cons,
        List.append_assoc, List.singleton_append]
    | false => simp [h]

theorem pulled_cons (a : Nat) (l : List Nat) (b : Nat) :
    pulled (a :: l) b = if a < b then a :: pulled l b else [a] := by
  unfold pulled List.span
  rw [span_loop_eq, span_loop_eq]
  simp only [List.reverse_nil, List.nil_append, List.takeWhile_cons, List.dropWhile_cons,
    decide_eq_true_eq]
  split
  · rfl
  · simp

theorem pulled_sublist (l : List Nat) (b : Nat) : (pulled l b).Sublist l := by
  induction l with
  | nil => exact List.Sublist.slnil
  | cons a as ih =>
    rw [pulled_cons]
    split
    · exact List.Sublist.cons_cons a ih
    · exact List.Sublist.cons_cons a (List.nil_sublist as)

theorem mem_pulled (l : List Nat) (hl : l.Pairwise (· < ·)) (b x : Nat) :
    x ∈ pulled l b ↔ (x ∈ l ∧ ∀ z, z ∈ l → z < x → z < b) := by
  induction l with
  | nil =>
    have : pulled [] b = [] := rfl
    rw [this]
    simp
  | cons a as ih =>
    rw [List.pairwise_cons] at hl
    rw [pulled_cons]
    by_cases hab : a < b
    · rw [if_pos hab, List.mem_cons, ih hl.2]
      constructor
      · rintro (rfl | ⟨h1, h2⟩)
        · refine ⟨by simp, ?_⟩
          intro z hz hzx
          rcases List.mem_cons.1 hz with rfl | hz
          · exact hab
          · have := hl.1 z hz; omega
        · refine ⟨by simp [h1], ?_⟩
          intro z hz hzx
          rcases List.mem_cons.1 hz with rfl | hz
          · exact hab
          · exact h2 z hz hzx
      · rintro ⟨h1, h2⟩
        rcases List.mem_cons.1 h1 with rfl | h1
        · exact Or.inl rfl
        · exact Or.inr ⟨h1, fun z hz hzx => h2 z (by simp [hz]) hzx⟩
    · rw [if_neg hab, List.mem_singleton]
      constructor
      · rintro rfl
        refine ⟨by simp, ?_⟩
        intro z hz hzx
        rcases List.mem_cons.1 hz with rfl | hz
        · omega
        · have := hl.1 z hz; omega
      · rintro ⟨h1, h2⟩
        rcases List.mem_cons.1 h1 with rfl | h1
        · rfl
        · have := hl.1 x h1
          have := h2 a (by simp) this
          omega

theorem le_getLastD (l : List Nat) (hl : l.Pairwise (· < ·)) (d x : Nat) (hx : x ∈ l) :
    x ≤ l.getLastD d := by
  rw [List.getLastD_eq_getLast?]
  cases h : l.getLast? with
  | none =>
    rw [List.getLast?_eq_none_iff] at h
    subst h
    cases hx
  | some y =>
    obtain ⟨ys, rfl⟩ := List.getLast?_eq_some_iff.1 h
    rw [List.pairwise_append] at hl
    show x ≤ y
    rcases List.mem_append.1 hx with hx | hx
    · have := hl.2.2 x hx y (by simp); omega
    · rw [List.mem_singleton] at hx; omega

theorem getLastD_mem_or (l : List Nat) (d : Nat) : l.getLastD d = d ∨ l.getLastD d ∈ l := by
  rw [List.getLastD_eq_getLast?]
  cases h : l.getLast? with
  | none => exact Or.inl rfl
  | some y => exact Or.inr (List.mem_of_getLast? h)

/-- the debug-only cross-check of the pulled steps against the brute-force enumeration
cannot fire -/
theorem debug_check_eq (wl : List Callback) (e H b : Nat) (he : e < wl.length)
    (hwf : ∀ cb ∈ wl, cb.arr.WF ∧ cb.arr.Exact) (hb : b ≤ H) :
    pulled (bwAllSteps wl e H) b =
      (pulled (bwBruteSteps wl e (max ((pulled (bwAllSteps wl e H) b).getLastD b) b)) b).take
        (pulled (bwAllSteps wl e H) b).length := by
  have hsH := bwAllSteps_sorted wl e H hwf
  have hpH : (pulled (bwAllSteps wl e H) b).Pairwise (· < ·) :=
    List.Pairwise.sublist (pulled_sublist _ _) hsH
  generalize hu : (pulled (bwAllSteps wl e H) b).getLastD b = upTo
  rw [← bwAllSteps_eq_brute wl e _ he hwf]
  have hs' := bwAllSteps_sorted wl e (max upTo b) hwf
  have huH : max upTo b ≤ H := by
    rcases getLastD_mem_or (pulled (bwAllSteps wl e H) b) b with h | h
    · rw [hu] at h; omega
    · rw [hu] at h
      have := ((mem_bwAllSteps wl e H hwf upTo).1 ((pulled_sublist _ _).subset h)).1
      omega
  have heq : pulled (bwAllSteps wl e H) b = pulled (bwAllSteps wl e (max upTo b)) b := by
    apply sorted_ext _ _ hpH (List.Pairwise.sublist (pulled_sublist _ _) hs')
    intro x
    rw [mem_pulled _ hsH, mem_pulled _ hs']
    constructor
    · rintro ⟨h1, h2⟩
      have hx : x ∈ pulled (bwAllSteps wl e H) b := (mem_pulled _ hsH b x).2 ⟨h1, h2⟩
      have hxu := le_getLastD _ hpH b x hx
      rw [hu] at hxu
      have h1' := (mem_bwAllSteps wl e H hwf x).1 h1
      refine ⟨(mem_bwAllSteps wl e _ hwf x).2 ⟨by omega, h1'.2⟩, ?_⟩
      intro z hz hzx
      have hz' := (mem_bwAllSteps wl e _ hwf z).1 hz
      exact h2 z ((mem_bwAllSteps wl e H hwf z).2 ⟨by omega, hz'.2⟩) hzx
    · rintro ⟨h1, h2⟩
      have h1' := (mem_bwAllSteps wl e _ hwf x).1 h1
      refine ⟨(mem_bwAllSteps wl e H hwf x).2 ⟨by omega, h1'.2⟩, ?_⟩
      intro z hz hzx
      have hz' := (mem_bwAllSteps wl e H hwf z).1 hz
      exact h2 z ((mem_bwAllSteps wl e _ hwf z).2 ⟨by omega, hz'.2⟩) hzx
  rw [← heq, List.take_length]

/-- the per-activation-offset computation of `bw::rta_subchain` -/
def bwSubchainPer (s : Supply) (wl : List Callback) (e npp : Nat) (singleton : Prop)
    [Decidable singleton] (limit act : Nat) : Res :=
  let eoc := wl.getD e default
  let n := eoc.bwSelfInstances act
  let si := eoc.cost.ofJobs n
  match search s limit (fun sStar => 1 + bwInterference wl e eoc.kind npp sStar act + si) with
  | .ok sStar =>
    if eoc.cost.ofJobs (n + 1) < eoc.cost.ofJobs n then .panic else
    let omega := eoc.cost.ofJobs (n + 1) - eoc.cost.ofJobs n
    match s.st? ((s.sbf sStar - 1) + omega) with
    | some f => .ok (if singleton then f - act else f)
    | none => .panic
  | e => e

theorem bwPer_eq (s : Supply) (hs : s.WF) (wl : List Callback) (e npp : Nat) (singleton : Prop)
    [Decidable singleton] (limit : Nat) (hl : 1 ≤ limit)
    (hwf : ∀ cb ∈ wl, cb.arr.WF ∧ MonoN cb.cost.ofJobs) (he : e < wl.length) (act : Nat) :
    bwSubchainPer s wl e npp singleton limit act =
      naiveBwPer s wl e npp (decide singleton) limit act := by
  have heoc := hwf _ (getD_mem wl e he)
  have hrhs : Mono (fun sStar => 1 + bwInterference wl e (wl.getD e default).kind npp sStar act +
      (wl.getD e default).cost.ofJobs ((wl.getD e default).bwSelfInstances act)) := by
    intro x y hxy
    have := bwInterference_mono wl e (wl.getD e default).kind npp hwf x y act act hxy (Nat.le_refl _)
    show 1 + _ + _ ≤ 1 + _ + _
    omega
  unfold bwSubchainPer naiveBwPer
  refine (tail_eq s hs (wl.getD e default).cost.ofJobs heoc.2 _ hrhs limit hl
    (fun _ => (wl.getD e default).bwSelfInstances act)
    (fun f => if singleton then f - act else f)).trans ?_
  rcases nss_cases s.sbf 0 (fun sStar => 1 + bwInterference wl e (wl.getD e default).kind npp sStar act +
      (wl.getD e default).cost.ofJobs ((wl.getD e default).bwSelfInstances act)) limit with ⟨r, h⟩ | h
  · simp only []
    rw [h]
    by_cases hsg : singleton <;> simp [hsg]
  · simp only []
    rw [h]

theorem naiveBwPer_eq_bind (s : Supply) (wl : List Callback) (e npp : Nat) (sg : Bool)
    (limit act : Nat) :
    naiveBwPer s wl e npp sg limit act =
      (naiveSolveSup s.sbf 0 (fun sStar => 1 +
        bwInterference wl e (wl.getD e default).kind npp sStar act +
        (wl.getD e default).cost.ofJobs ((wl.getD e default).bwSelfInstances act)) limit).bind
      fun sStar => .ok (if sg = true
        then naiveSt s (s.sbf sStar - 1 +
          ((wl.getD e default).cost.ofJobs ((wl.getD e default).bwSelfInstances act + 1) -
            (wl.getD e default).cost.ofJobs ((wl.getD e default).bwSelfInstances act))) - act
        else naiveSt s (s.sbf sStar - 1 +
          ((wl.getD e default).cost.ofJobs ((wl.getD e default).bwSelfInstances act + 1) -
            (wl.getD e default).cost.ofJobs ((wl.getD e default).bwSelfInstances act)))) := rfl

theorem naiveBwPer_cases (s : Supply) (wl : List Callback) (e npp : Nat) (sg : Bool)
    (limit act : Nat) :
    (∃ v, naiveBwPer s wl e npp sg limit act = .ok v) ∨
      naiveBwPer s wl e npp sg limit act = .div 0 limit :=
  bind_cases _ _ 0 limit (nss_cases _ 0 _ limit) (fun _ => Or.inl ⟨_, rfl⟩)

/-- between two activation offsets with the same arrivals of the end of chain (one step
later) and of the polled callbacks, the smaller offset dominates -/
theorem bwPer_dom (s : Supply) (wl : List Callback) (e npp : Nat) (sg : Bool) (limit A A' : Nat)
    (hle : A' ≤ A)
    (hself : (wl.getD e default).arr.N (A + 1) = (wl.getD e default).arr.N (A' + 1))
    (hpp : ∀ j, j < wl.length → j ≠ e → (wl.getD j default).kind.isPP = true →
      (wl.getD j default).arr.N A = (wl.getD j default).arr.N A') :
    Res.leD (naiveBwPer s wl e npp sg limit A) (naiveBwPer s wl e npp sg limit A') := by
  have hn : (wl.getD e default).bwSelfInstances A = (wl.getD e default).bwSelfInstances A' := by
    unfold Callback.bwSelfInstances
    rw [hself]
  have hf : (fun sStar => 1 + bwInterference wl e (wl.getD e default).kind npp sStar A +
        (wl.getD e default).cost.ofJobs ((wl.getD e default).bwSelfInstances A')) =
      (fun sStar => 1 + bwInterference wl e (wl.getD e default).kind npp sStar A' +
        (wl.getD e default).cost.ofJobs ((wl.getD e default).bwSelfInstances A')) := by
    funext x
    rw [bwInterference_congr wl e _ npp x A A' hpp]
  rw [naiveBwPer_eq_bind, naiveBwPer_eq_bind, hn, hf]
  refine leD_bind _ _ _ _ (nss_leD_same _ _ 0 _ _ limit (fun _ => Nat.le_refl _)
    (fun _ => Nat.le_refl _)) (fun _ => Res.noConfusion) ?_
  intro v v' hv hv' _
  cases Res.ok.inj (hv.symm.trans hv')
  show (if sg = true then _ - A else _) ≤ (if sg = true then _ - A' else _)
  split <;> omega

theorem bwRhsMax_mono (wl : List Callback) (e npp : Nat)
    (hwf : ∀ cb ∈ wl, cb.arr.WF ∧ MonoN cb.cost.ofJobs) (he : e < wl.length) :
    Mono (fun ta => 1 + bwInterference wl e (wl.getD e default).kind npp ta ta +
      (wl.getD e default).cost.ofJobs ((wl.getD e default).arr.N ta)) := by
  have heoc := hwf _ (getD_mem wl e he)
  intro x y hxy
  have h1 := bwInterference_mono wl e (wl.getD e default).kind npp hwf x y x y hxy hxy
  have h2 := heoc.2 _ _ (Arr.N_mono _ heoc.1 x y hxy)
  show 1 + _ + _ ≤ 1 + _ + _
  omega

/-- the relevant steps below the maximum offset dominate every activation offset below it -/
theorem bw_pruned (s : Supply) (wl : List Callback) (e npp : Nat) (sg : Bool) (limit maxOff H : Nat)
    (he : e < wl.length) (hwf : ∀ cb ∈ wl, cb.arr.WF ∧ cb.arr.Exact) (hH : maxOff ≤ H)
    (hp : 0 < (wl.getD e default).arr.N 1) :
    maxResponseTime (((bwAllSteps wl e H).filter (· < maxOff)).map (naiveBwPer s wl e npp sg limit)) =
      naiveMax ((List.range maxOff).map (naiveBwPer s wl e npp sg limit)) := by
  have hmemS : ∀ x, x ∈ (bwAllSteps wl e H).filter (· < maxOff) ↔ (x < maxOff ∧ Rel wl e x) := by
    intro x
    rw [List.mem_filter, mem_bwAllSteps wl e H hwf x, decide_eq_true_eq]
    constructor
    · rintro ⟨⟨_, h2⟩, h3⟩; exact ⟨h3, h2⟩
    · rintro ⟨h1, h2⟩; exact ⟨⟨by omega, h2⟩, h1⟩
  apply maxResponseTime_pruned (naiveBwPer s wl e npp sg limit) maxOff _
    ((bwAllSteps_sorted wl e H hwf).filter _)
  · intro A hA; exact ((hmemS A).1 hA).1
  · intro A _; exact (naiveBwPer_cases s wl e npp sg limit A).imp id fun h => ⟨_, _, h⟩
  · intro A hA
    have h0 : 0 ∈ (bwAllSteps wl e H).filter (· < maxOff) := by
      rw [hmemS]
      refine ⟨by omega, e, he, ?_⟩
      rw [if_pos rfl, Arr.N_zero]
      exact hp
    obtain ⟨A', hA'S, hA'le, hg⟩ := exists_greatest _ h0 A
    refine Or.inr ⟨A', hA'S, hA'le, ?_⟩
    apply bwPer_dom s wl e npp sg limit A A' hA'le
    · exact succ_eq_of_greatest _ (Arr.N_mono _ (hwf _ (getD_mem wl e he)).1) maxOff
        (fun B h => (hmemS B).2 ⟨h.1, e, he, by rw [if_pos rfl]; exact h.2⟩) A A' hA hA'le hg
    · intro j hj hje hpp
      apply const_of_no_increase _ (Arr.N_mono _ (hwf _ (getD_mem wl j hj)).1) A' A hA'le
      intro δ h1 h2 hinc
      have hmem : δ ∈ (bwAllSteps wl e H).filter (· < maxOff) := by
        rw [hmemS]
        refine ⟨by omega, j, hj, ?_⟩
        rw [if_neg hje]
        exact ⟨hpp, by omega, hinc⟩
      have := hg δ hmem h2
      omega

end RosNaiveLemmas

/-- C07, bw subchain analysis = linear-scan evaluation over EVERY activation offset below
the maximum offset, when the end of the chain releases something -/
theorem bw_eq_naive (s : Supply) (hs : s.WF) (wl : List Callback) (sub : List Nat) (limit : Nat)
    (hl : 1 ≤ limit) (hne : sub ≠ []) (hsub : ∀ i ∈ sub, i < wl.length)
    (hwf : ∀ cb ∈ wl, cb.arr.WF ∧ cb.arr.Exact ∧ MonoN cb.cost.ofJobs)
    (hpos : ∀ e, sub.getLast? = some e → 0 < (wl.getD e default).arr.N 1) (dbg : Bool) :
    bwSubchain s wl sub limit dbg = naiveBw s wl sub limit := by
  have _ := hne
  unfold bwSubchain naiveBw
  cases hlast : sub.getLast? with
  | none => rfl
  | some e =>
    have he := hsub e (List.mem_of_getLast? hlast)
    have hp := hpos e hlast
    have hall : sub.all (fun x => decide (x < wl.length)) = true := by
      rw [List.all_eq_true]
      intro i hi
      exact decide_eq_true (hsub i hi)
    have hwf1 : ∀ cb ∈ wl, cb.arr.WF ∧ cb.arr.Exact := fun cb h => ⟨(hwf cb h).1, (hwf cb h).2.1⟩
    have hwf2 : ∀ cb ∈ wl, cb.arr.WF ∧ MonoN cb.cost.ofJobs := fun cb h => ⟨(hwf cb h).1, (hwf cb h).2.2⟩
    simp only []
    rw [if_neg (not_not_intro hall),
      search_eq_nss s hs _ (bwRhsMax_mono wl e (sumPPBound wl sub) hwf2 he) limit hl]
    split
    · next maxOff h =>
      have hH := bwCoverHorizon_ge wl e maxOff 24 maxOff
      rw [h, if_neg (fun hc => hc.2 (debug_check_eq wl e _ maxOff he hwf1 hH))]
      simp only [overOffsets]
      exact (congrArg maxResponseTime (List.map_congr_left fun act _ =>
        bwPer_eq s hs wl e _ (sub.length = 1) limit hl hwf2 he act)).trans
        (bw_pruned s wl e _ (decide (sub.length = 1)) limit maxOff _ he hwf1 hH hp)
    · next hno =>
      split
      · next maxOff h => exact absurd h (hno maxOff)
      · rfl

namespace RosNaiveLemmas

theorem naiveBwPer_ne_panic (s : Supply) (wl : List Callback) (e npp : Nat) (sg : Bool)
    (limit act : Nat) : naiveBwPer s wl e npp sg limit act ≠ .panic :=
  bind_ne_panic _ _ (nss_ne_panic _ _ _ _) (fun _ => Res.noConfusion)

theorem naiveRr_eq_bind (s : Supply) (wl : List Callback) (sub : List Nat) (limit e : Nat)
    (hlast : sub.getLast? = some e) :
    naiveRr s wl sub limit =
      (naiveSolveSup s.sbf 0 (rrRhs wl e (sumPPBound wl sub)) limit).bind fun sStar =>
        .ok (naiveSt s (s.sbf sStar - 1 +
          ((wl.getD e default).cost.ofJobs ((wl.getD e default).rrSelfInstances sStar + 1) -
            (wl.getD e default).cost.ofJobs ((wl.getD e default).rrSelfInstances sStar)))) := by
  unfold naiveRr
  rw [hlast]
  rfl

theorem naiveBw_eq_bind (s : Supply) (wl : List Callback) (sub : List Nat) (limit e : Nat)
    (hlast : sub.getLast? = some e) :
    naiveBw s wl sub limit =
      (naiveSolveSup s.sbf 0 (fun ta => 1 + bwInterference wl e (wl.getD e default).kind
        (sumPPBound wl sub) ta ta + (wl.getD e default).cost.ofJobs ((wl.getD e default).arr.N ta))
        limit).bind fun maxOff => naiveMax ((List.range maxOff).map
          (naiveBwPer s wl e (sumPPBound wl sub) (decide (sub.length = 1)) limit)) := by
  unfold naiveBw
  rw [hlast]
  rfl

end RosNaiveLemmas

namespace Sched

namespace ChainSoundLemmas

theorem need_scalar (a : Arr) (c d : Nat) : (RB.rbf a (.scalar c)).need d = c * a.N d := by
  simp [RB.need, Cost.ofJobs]

theorem need_agg2 (x y : RB) (d : Nat) : (RB.agg [x, y]).need d = x.need d + y.need d := by
  simp [RB.need, RB.needList]

theorem steps_rbf (a : Arr) (c : Cost) (H : Nat) : (RB.rbf a c).stepsUpTo H = a.stepsUpTo H := by
  simp [RB.stepsUpTo]

end ChainSoundLemmas

/-- the chain analysis is the polling-point analysis of the last callback, interference =
chain prefix + other chains (scalar WCETs `C` of the last callback and `P` of the prefix, one
arrival curve `a` for the chain; the steps of an `rbf` do not depend on its cost) -/
theorem rosChain_eq_pollingPoint (sup : Supply) (a : Arr) (C P : Nat) (others : RB) (limit : Nat) :
    rosChain sup (.rbf a (.scalar C)) (.rbf a (.scalar P)) (.rbf a (.scalar (C + P))) others limit =
      rosPollingPoint sup (.rbf a (.scalar C)) (.agg [.rbf a (.scalar P), others]) limit := by
  have hb : (fun d => (RB.rbf a (.scalar (C + P))).need d + others.need d) =
      (fun d => (RB.rbf a (.scalar C)).need d + (RB.agg [.rbf a (.scalar P), others]).need d) := by
    funext d
    rw [ChainSoundLemmas.need_agg2, ChainSoundLemmas.need_scalar, ChainSoundLemmas.need_scalar,
      ChainSoundLemmas.need_scalar, Nat.add_mul]
    omega
  have ho : (fun A r =>
      let iv := interferenceInterval (RB.rbf a (.scalar C)) A r
      (RB.rbf a (.scalar C)).need (A + 1) + (RB.rbf a (.scalar P)).need iv + others.need iv) =
      (fun A r => (RB.rbf a (.scalar C)).need (A + 1) +
        (RB.agg [.rbf a (.scalar P), others]).need (interferenceInterval (RB.rbf a (.scalar C)) A r)) := by
    funext A r
    simp only [ChainSoundLemmas.need_agg2]
    omega
  unfold rosChain rosPollingPoint rosBound
  rw [hb, ho]
  simp only [ChainSoundLemmas.steps_rbf]

end Sched

end RTA
