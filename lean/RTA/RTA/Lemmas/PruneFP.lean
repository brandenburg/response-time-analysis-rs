import RTA.Lemmas.PruneCore
import RTA.Lemmas.RBSteps
/-! C06 for FIFO and the common core of the four fixed-priority analyses (`fpCore`): the pruned,
iterative algorithms return exactly the naive all-offset linear-scan evaluation; and no guard
fails (C20). -/

namespace RTA
open RTA.Spec PruneCoreLemmas RosNaiveLemmas

/-- the interfering request bounds are well-formed and exact (so their demand is monotone) -/
def OthersOK (others : List RB) : Prop := ∀ o ∈ others, o.ArrWF ∧ o.Exact

theorem sumNeed_mono (others : List RB) (h : OthersOK others) : MonoN (sumNeed others) := by
  induction others with
  | nil => intro a b _; simp [sumNeed, sumList]
  | cons o os ih =>
    intro a b hab
    have h1 := RB.need_mono o (h o (by simp)).1 (h o (by simp)).2 a b hab
    have h2 := ih (fun o' ho' => h o' (by simp [ho'])) a b hab
    simp only [sumNeed, List.map_cons, sumList] at h2 ⊢
    omega

namespace PruneFPLemmas

theorem search_ne_panic (w : Nat → Nat) (hw : Mono w) (limit : Nat) :
    search .dedicated limit w ≠ .panic :=
  Supply.search_ne_panic .dedicated trivial w hw 0 limit (fun _ _ => Nat.zero_le _)

theorem search_limit_zero (w : Nat → Nat) : search .dedicated 0 w = .div 0 0 :=
  searchWithOffset_limit_zero .dedicated w 0

theorem naiveFifo_eq_bind (t : RB) (limit : Nat) :
    naiveFifo t limit = (naiveSolve (fun L => t.need L) limit).bind fun L =>
      .ok (maxList ((List.range L).map fun A => t.need (A + 1) - A)) := rfl

/-- the per-offset function of `naiveFp` -/
def fpPer (tua : RB) (others : List RB) (B rem limit : Nat) (A : Nat) : Res :=
  match naiveSolve (fun AF => B + (tua.need (A + 1) - rem) + sumNeed others AF) limit with
  | .ok AF => .ok (AF - A + rem)
  | e => e

theorem naiveFp_eq (tua : RB) (others : List RB) (B rem limit : Nat) :
    naiveFp tua others B rem limit =
      match naiveSolve (fun L => B + sumNeed others L + tua.need L) limit with
      | .ok L => naiveMax ((List.range L).map (fpPer tua others B rem limit))
      | e => e := rfl

theorem fpPer_eq_bind (tua : RB) (others : List RB) (B rem limit A : Nat) :
    fpPer tua others B rem limit A =
      (naiveSolve (fun AF => B + (tua.need (A + 1) - rem) + sumNeed others AF) limit).bind
        fun AF => .ok (AF - A + rem) := rfl

theorem fpPer_cases (tua : RB) (others : List RB) (B rem limit : Nat) (A : Nat) :
    (∃ v, fpPer tua others B rem limit A = .ok v) ∨ fpPer tua others B rem limit A = .div 0 limit :=
  bind_cases _ _ 0 limit (naiveSolve_cases _ limit) (fun _ => Or.inl ⟨_, rfl⟩)


/-- the per-offset computation of the model -/
def fpCorePer (tua : RB) (others : List RB) (B rem limit : Nat) (A : Nat) : Res :=
  if tua.need (A + 1) < rem then .panic
  else
    finishFP A rem
      (search .dedicated limit (fun AF => B + (tua.need (A + 1) - rem) + sumNeed others AF))

theorem fpCore_eq (tua : RB) (others : List RB) (B rem limit : Nat) :
    fpCore tua others B rem limit =
      match search .dedicated limit (fun L => B + sumNeed others L + tua.need L) with
      | .ok L => overOffsets (tua.offsetsBelow L) (fpCorePer tua others B rem limit)
      | e => e := rfl

theorem inner_mono (others : List RB) (ho : OthersOK others) (c : Nat) :
    Mono (fun AF => c + sumNeed others AF) := by
  intro a b hab
  have := sumNeed_mono others ho a b hab
  show c + _ ≤ c + _
  omega

theorem outer_mono (tua : RB) (others : List RB) (B : Nat) (hwf : tua.ArrWF) (hex : tua.Exact)
    (ho : OthersOK others) : Mono (fun L => B + sumNeed others L + tua.need L) := by
  intro a b hab
  have := sumNeed_mono others ho a b hab
  have := RB.need_mono tua hwf hex a b hab
  show B + _ + _ ≤ B + _ + _
  omega

/-- at an increase point below the busy-window length, the model's per-offset
computation is the naive one (no guard fails) -/
theorem fpCorePer_eq_fpPer (tua : RB) (others : List RB) (B rem limit : Nat)
    (hwf : tua.ArrWF) (hex : tua.Exact) (ho : OthersOK others) (hl : 1 ≤ limit)
    (hstep : ∀ A, tua.need A < tua.need (A + 1) → tua.need A + rem < tua.need (A + 1))
    (L : Nat) (hL : naiveSolve (fun L => B + sumNeed others L + tua.need L) limit = .ok L)
    (A : Nat) (hA : A < L) (hinc : tua.need A < tua.need (A + 1)) :
    fpCorePer tua others B rem limit A = fpPer tua others B rem limit A := by
  have hs := hstep A hinc
  unfold fpCorePer fpPer
  rw [if_neg (by omega)]
  rw [search_dedicated_eq_naive _ (inner_mono others ho _) limit hl]
  rcases naiveSolve_cases (fun AF => B + (tua.need (A + 1) - rem) + sumNeed others AF) limit with
    ⟨AF, h⟩ | h
  · rw [h]
    have hle : ¬ AF < A := by
      intro hlt
      have hsol := ((naiveSolve_ok_iff _ _ _).1 h).2.1
      rcases Nat.eq_zero_or_pos AF with h0 | hpos
      · subst h0
        omega
      · have e : max AF 1 = AF := by omega
        rw [e] at hsol
        have hb := naiveSolve_below _ limit L hL AF hpos (by omega)
        have hm := RB.need_mono tua hwf hex AF A (by omega)
        omega
    simp only [finishFP, if_neg hle]
  · rw [h]; rfl


/-- with a busy window of length `L` the model returns `max_response_time` of
the naive per-offset results over the increase points below `L` -/
theorem fpCore_form (tua : RB) (others : List RB) (B rem limit : Nat)
    (hwf : tua.ArrWF) (hex : tua.Exact) (ho : OthersOK others) (hl : 1 ≤ limit)
    (hstep : ∀ A, tua.need A < tua.need (A + 1) → tua.need A + rem < tua.need (A + 1))
    (L : Nat) (hL : naiveSolve (fun L => B + sumNeed others L + tua.need L) limit = .ok L) :
    ∃ S : List Nat, S.Pairwise (· < ·) ∧
      (∀ A, A ∈ S ↔ (A < L ∧ tua.need A < tua.need (A + 1))) ∧
      fpCore tua others B rem limit = maxResponseTime (S.map (fpPer tua others B rem limit)) := by
  obtain ⟨S, hS, hp, hm⟩ := RB.offsetsBelow_spec tua hwf hex L
  refine ⟨S, hp, hm, ?_⟩
  rw [fpCore_eq, search_dedicated_eq_naive _ (outer_mono tua others B hwf hex ho) limit hl, hL]
  simp only [hS, overOffsets]
  congr 1
  apply List.map_congr_left
  intro A hA
  have := (hm A).1 hA
  exact fpCorePer_eq_fpPer tua others B rem limit hwf hex ho hl hstep L hL A this.1 this.2

theorem scalar_side (a : Arr) (C : Nat) (hwf : a.WF) (hex : a.Exact) (hC : 1 ≤ C)
    (hpos : 0 < a.N 1) :
    (RB.rbf a (.scalar C)).ArrWF ∧ (RB.rbf a (.scalar C)).Exact ∧
      0 < (RB.rbf a (.scalar C)).need 1 := by
  refine ⟨?_, ?_, ?_⟩
  · simp only [RB.ArrWF]; exact hwf
  · simp only [RB.Exact]; exact ⟨hex, Cost.scalar_strictPos C hC⟩
  · simp only [RB.need, Cost.ofJobs]; exact Nat.mul_pos hC hpos

theorem need_Mono (r : RB) (hwf : r.ArrWF) (hex : r.Exact) : Mono (fun L => r.need L) :=
  fun a b hab => RB.need_mono r hwf hex a b hab

/-- FIFO: with a busy window of length `L`, no guard fails and the model returns the
maximum over the increase points -/
theorem fifo_form (tasks : RB) (hwf : tasks.ArrWF) (hex : tasks.Exact) (limit : Nat)
    (hl : 1 ≤ limit) (L : Nat) (hL : naiveSolve (fun L => tasks.need L) limit = .ok L) :
    ∃ S : List Nat, (∀ A, A ∈ S ↔ (A < L ∧ tasks.need A < tasks.need (A + 1))) ∧
      fifoRta tasks limit = .ok (maxList (S.map fun A => tasks.need (A + 1) - A)) := by
  obtain ⟨S, hS, hp, hm⟩ := RB.offsetsBelow_spec tasks hwf hex L
  refine ⟨S, hm, ?_⟩
  unfold fifoRta
  rw [search_dedicated_eq_naive _ (need_Mono tasks hwf hex) limit hl, hL]
  simp only [hS]
  have hg : S.any (fun A => decide (tasks.need (A + 1) < A)) = false := by
    rw [List.any_eq_false]
    intro A hA
    have hAL := ((hm A).1 hA).1
    simp only [decide_eq_true_eq]
    rcases Nat.eq_zero_or_pos A with h0 | hpos
    · omega
    · have hb := naiveSolve_below _ limit L hL A hpos hAL
      have := RB.need_mono tasks hwf hex A (A + 1) (by omega)
      omega
  rw [hg]
  rfl

end PruneFPLemmas
open PruneFPLemmas

theorem fifo_eq_naive (tasks : RB) (hwf : tasks.ArrWF) (hex : tasks.Exact) (limit : Nat)
    (hl : 1 ≤ limit) : fifoRta tasks limit = naiveFifo tasks limit := by
  unfold naiveFifo
  rcases naiveSolve_cases (fun L => tasks.need L) limit with ⟨L, hL⟩ | hd
  · obtain ⟨S, hm, he⟩ := fifo_form tasks hwf hex limit hl L hL
    rw [he, hL]
    simp only []
    congr 1
    apply maxList_pruned (fun A => tasks.need (A + 1) - A) L S
    · intro A hA; exact ((hm A).1 hA).1
    · intro A hA
      have hn0 : ¬ tasks.need 1 ≤ 0 := ((naiveSolve_ok_iff _ _ _).1 hL).2.2 0 (by omega)
      have h0 : 0 ∈ S := (hm 0).2 ⟨by omega, by
        rw [RB.need_zero]
        show 0 < tasks.need 1
        omega⟩
      obtain ⟨A', hA'S, hA'le, hg⟩ := exists_greatest (· ∈ S) h0 A
      refine Or.inr ⟨A', hA'S, ?_⟩
      have := succ_eq_of_greatest tasks.need (RB.need_mono tasks hwf hex) L (fun B => (hm B).2) A A' hA hA'le hg
      show tasks.need (A + 1) - A ≤ tasks.need (A' + 1) - A'
      omega
  · unfold fifoRta
    rw [search_dedicated_eq_naive _ (need_Mono tasks hwf hex) limit hl, hd]

/-- C06, the common core of the four fixed-priority analyses.  `hstep`: at every increase
point the demand of the task under analysis grows by more than `rem` (for scalar WCET `C`
and `rem < C` this always holds); `hpos`: the task releases something. -/
theorem fpCore_eq_naive (tua : RB) (others : List RB) (B rem limit : Nat)
    (hwf : tua.ArrWF) (hex : tua.Exact) (ho : OthersOK others) (hl : 1 ≤ limit)
    (hpos : 0 < tua.need 1)
    (hstep : ∀ A, tua.need A < tua.need (A + 1) → tua.need A + rem < tua.need (A + 1)) :
    fpCore tua others B rem limit = naiveFp tua others B rem limit := by
  rw [naiveFp_eq]
  rcases naiveSolve_cases (fun L => B + sumNeed others L + tua.need L) limit with ⟨L, hL⟩ | hd
  · obtain ⟨S, hp, hm, he⟩ := fpCore_form tua others B rem limit hwf hex ho hl hstep L hL
    rw [he, hL]
    apply maxResponseTime_pruned (fpPer tua others B rem limit) L S hp
    · intro A hA; exact ((hm A).1 hA).1
    · intro A _; exact (fpPer_cases tua others B rem limit A).imp id fun h => ⟨_, _, h⟩
    · intro A hA
      have h0 : 0 ∈ S := (hm 0).2 ⟨by omega, by rw [RB.need_zero]; exact hpos⟩
      obtain ⟨A', hA'S, hA'le, hg⟩ := exists_greatest (· ∈ S) h0 A
      refine Or.inr ⟨A', hA'S, hA'le, ?_⟩
      rw [fpPer_eq_bind, fpPer_eq_bind, succ_eq_of_greatest tua.need (RB.need_mono tua hwf hex) L (fun B => (hm B).2) A A' hA hA'le hg]
      exact perOffset_leD _ _ limit A A' rem rem (fun _ => Nat.le_refl _) hA'le (Nat.le_refl _)
  · rw [fpCore_eq, search_dedicated_eq_naive _ (outer_mono tua others B hwf hex ho) limit hl, hd]

theorem scalar_hstep (a : Arr) (C rem : Nat) (hrem : rem < C) :
    ∀ A, (RB.rbf a (.scalar C)).need A < (RB.rbf a (.scalar C)).need (A + 1) →
      (RB.rbf a (.scalar C)).need A + rem < (RB.rbf a (.scalar C)).need (A + 1) := by
  intro A h
  simp only [RB.need, Cost.ofJobs] at h ⊢
  have hlt : a.N A < a.N (A + 1) := Nat.lt_of_mul_lt_mul_left h
  have h2 : C * (a.N A + 1) ≤ C * a.N (A + 1) := Nat.mul_le_mul_left C hlt
  rw [Nat.mul_succ] at h2
  omega

/-- the core for a scalar WCET `C` and a remainder below it (non-preemptive: `C - 1`, limited:
`last - 1`): the step hypothesis holds by itself -/
theorem fpCore_scalar_eq_naive (a : Arr) (C B rem : Nat) (others : List RB) (limit : Nat)
    (hwf : a.WF) (hex : a.Exact) (hrem : rem < C) (ho : OthersOK others) (hl : 1 ≤ limit)
    (hpos : 0 < a.N 1) :
    fpCore (.rbf a (.scalar C)) others B rem limit = naiveFp (.rbf a (.scalar C)) others B rem limit := by
  obtain ⟨h1, h2, h3⟩ := scalar_side a C hwf hex (by omega) hpos
  exact fpCore_eq_naive _ others B rem limit h1 h2 ho hl h3 (scalar_hstep a C rem hrem)

/-- with `limit = 0` the busy-window search diverges at once (finding K4): an `ok` result
means `1 ≤ limit` -/
theorem fpCore_limit_zero (tua : RB) (others : List RB) (B rem : Nat) :
    fpCore tua others B rem 0 = .div 0 0 := by
  rw [fpCore_eq, search_limit_zero]

theorem fifoRta_limit_zero (tasks : RB) : fifoRta tasks 0 = .div 0 0 := by
  unfold fifoRta
  rw [search_limit_zero]

/-- no guard fails on well-formed input (used by C20): the analyses never panic -/
theorem fpCore_no_panic (tua : RB) (others : List RB) (B rem limit : Nat)
    (hwf : tua.ArrWF) (hex : tua.Exact) (ho : OthersOK others)
    (hstep : ∀ A, tua.need A < tua.need (A + 1) → tua.need A + rem < tua.need (A + 1)) :
    fpCore tua others B rem limit ≠ .panic := by
  rcases Nat.eq_zero_or_pos limit with h0 | hl
  · rw [h0, fpCore_limit_zero]
    exact Res.noConfusion
  · rcases naiveSolve_cases (fun L => B + sumNeed others L + tua.need L) limit with ⟨L, hL⟩ | hd
    · obtain ⟨S, hp, hm, he⟩ := fpCore_form tua others B rem limit hwf hex ho hl hstep L hL
      rw [he]
      apply maxResponseTime_ne_panic
      intro x hx
      rw [List.mem_map] at hx
      obtain ⟨A, _, rfl⟩ := hx
      rcases fpPer_cases tua others B rem limit A with ⟨v, h⟩ | h <;> rw [h] <;> intro h' <;> cases h'
    · rw [fpCore_eq, search_dedicated_eq_naive _ (outer_mono tua others B hwf hex ho) limit hl, hd]
      intro h; cases h


theorem fifo_no_panic (tasks : RB) (hwf : tasks.ArrWF) (hex : tasks.Exact) (limit : Nat) :
    fifoRta tasks limit ≠ .panic := by
  rcases Nat.eq_zero_or_pos limit with h0 | hl
  · rw [h0, fifoRta_limit_zero]
    exact Res.noConfusion
  · rw [fifo_eq_naive tasks hwf hex limit hl]
    unfold naiveFifo
    rcases naiveSolve_cases (fun L => tasks.need L) limit with ⟨L, hL⟩ | hd
    · rw [hL]; intro h; cases h
    · rw [hd]; intro h; cases h

end RTA
