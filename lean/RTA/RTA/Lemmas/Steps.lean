import RTA.Lemmas.ListBasics
/-! Generic facts about step lists (C11): what it means for a list to be "exactly the
increase points of `N` up to `H`", and how merge / dedup / shift preserve it. -/

namespace RTA

/-- `l` is strictly increasing and contains exactly the `δ ∈ [1, H]` at which `N` increases -/
def StepsSpec (N : Nat → Nat) (H : Nat) (l : List Nat) : Prop :=
  l.Pairwise (· < ·) ∧ ∀ δ, δ ∈ l ↔ (1 ≤ δ ∧ δ ≤ H ∧ N (δ - 1) < N δ)

/-- same, but `l` may additionally contain `0` (the `ArrivalCurvePrefix` iterator yields it) -/
def StepsSpec0 (N : Nat → Nat) (H : Nat) (l : List Nat) : Prop :=
  l.Pairwise (· < ·) ∧ ∀ δ, 1 ≤ δ → (δ ∈ l ↔ (δ ≤ H ∧ N (δ - 1) < N δ))

def MonoN (N : Nat → Nat) : Prop := ∀ a b, a ≤ b → N a ≤ N b

theorem monoN_of_step (f : Nat → Nat) (h : ∀ n, f n ≤ f (n + 1)) : MonoN f := by
  intro a b hab
  induction hab with
  | refl => exact Nat.le_refl _
  | step _ ih => exact Nat.le_trans ih (h _)

theorem StepsSpec.toSpec0 {N : Nat → Nat} {H : Nat} {l : List Nat} (h : StepsSpec N H l) :
    StepsSpec0 N H l := by
  refine ⟨h.1, fun δ hδ => ?_⟩
  rw [h.2 δ]
  exact ⟨fun h => h.2, fun h => ⟨hδ, h⟩⟩

theorem mem_merge (xs ys : List Nat) (x : Nat) : x ∈ merge xs ys ↔ x ∈ xs ∨ x ∈ ys := by
  fun_induction merge xs ys with
  | case1 ys => simp
  | case2 xs h => simp
  | case3 a xs b ys hab ih =>
    rw [List.mem_cons, ih]
    simp only [List.mem_cons]
    constructor
    · rintro (h | h | h | h) <;> simp [h]
    · rintro ((h | h) | h | h) <;> simp [h]
  | case4 a xs b ys hab ih =>
    rw [List.mem_cons, ih]
    simp only [List.mem_cons]
    constructor
    · rintro (h | (h | h) | h) <;> simp [h]
    · rintro ((h | h) | h | h) <;> simp [h]

theorem merge_sorted (xs ys : List Nat) (hx : xs.Pairwise (· ≤ ·)) (hy : ys.Pairwise (· ≤ ·)) :
    (merge xs ys).Pairwise (· ≤ ·) := by
  fun_induction merge xs ys with
  | case1 ys => exact hy
  | case2 xs h => exact hx
  | case3 a xs b ys hab ih =>
    rw [List.pairwise_cons] at hx
    rw [List.pairwise_cons]
    refine ⟨fun z hz => ?_, ih hx.2 hy⟩
    rw [mem_merge] at hz
    rcases hz with hz | hz
    · exact hx.1 z hz
    · rw [List.mem_cons] at hz
      rcases hz with hz | hz
      · omega
      · have := (List.pairwise_cons.1 hy).1 z hz
        omega
  | case4 a xs b ys hab ih =>
    rw [List.pairwise_cons] at hy
    rw [List.pairwise_cons]
    refine ⟨fun z hz => ?_, ih hx hy.2⟩
    rw [mem_merge] at hz
    rcases hz with hz | hz
    · rw [List.mem_cons] at hz
      rcases hz with hz | hz
      · omega
      · have := (List.pairwise_cons.1 hx).1 z hz
        omega
    · exact hy.1 z hz

theorem mem_dedup (l : List Nat) (x : Nat) : x ∈ dedup l ↔ x ∈ l := by
  fun_induction dedup l with
  | case1 => simp
  | case2 a => simp
  | case3 a rest ih =>
    rw [ih]; simp
  | case4 a b rest hab ih =>
    rw [List.mem_cons, ih]; simp

theorem dedup_strict (l : List Nat) (h : l.Pairwise (· ≤ ·)) : (dedup l).Pairwise (· < ·) := by
  fun_induction dedup l with
  | case1 => simp
  | case2 a => simp
  | case3 a rest ih =>
    exact ih (List.pairwise_cons.1 h).2
  | case4 a b rest hab ih =>
    rw [List.pairwise_cons] at h
    rw [List.pairwise_cons]
    refine ⟨fun z hz => ?_, ih h.2⟩
    rw [mem_dedup] at hz
    have h1 := h.1 b (by simp)
    rw [List.mem_cons] at hz
    rcases hz with hz | hz
    · omega
    · have := (List.pairwise_cons.1 h.2).1 z hz
      omega

theorem sum_step_iff (N1 N2 : Nat → Nat) (m1 : MonoN N1) (m2 : MonoN N2) (δ : Nat) :
    N1 (δ - 1) + N2 (δ - 1) < N1 δ + N2 δ ↔ (N1 (δ - 1) < N1 δ ∨ N2 (δ - 1) < N2 δ) := by
  have a := m1 (δ - 1) δ (Nat.sub_le _ _)
  have b := m2 (δ - 1) δ (Nat.sub_le _ _)
  omega

/-- like `StepsSpec0`, but `l` is only sorted and may contain duplicates: what the k-way merge
produces before `dedup` -/
def WSpec0 (N : Nat → Nat) (H : Nat) (l : List Nat) : Prop :=
  l.Pairwise (· ≤ ·) ∧ ∀ δ, 1 ≤ δ → (δ ∈ l ↔ (δ ≤ H ∧ N (δ - 1) < N δ))

theorem StepsSpec0.toW {N : Nat → Nat} {H : Nat} {l : List Nat} (h : StepsSpec0 N H l) :
    WSpec0 N H l := ⟨strict_imp_sorted _ h.1, h.2⟩

theorem WSpec0.dedup {N : Nat → Nat} {H : Nat} {l : List Nat} (h : WSpec0 N H l) :
    StepsSpec0 N H (dedup l) := by
  refine ⟨dedup_strict _ h.1, fun δ hδ => ?_⟩
  rw [mem_dedup]; exact h.2 δ hδ

theorem WSpec0.nil (H : Nat) : WSpec0 (fun _ => 0) H [] := by
  refine ⟨List.Pairwise.nil, fun δ _ => ?_⟩
  simp

theorem WSpec0.merge (N1 N2 : Nat → Nat) (H : Nat) (l1 l2 : List Nat)
    (m1 : MonoN N1) (m2 : MonoN N2) (h1 : WSpec0 N1 H l1) (h2 : WSpec0 N2 H l2) :
    WSpec0 (fun d => N1 d + N2 d) H (merge l1 l2) := by
  refine ⟨merge_sorted _ _ h1.1 h2.1, fun δ hδ => ?_⟩
  rw [mem_merge, h1.2 δ hδ, h2.2 δ hδ]
  show _ ↔ (δ ≤ H ∧ N1 (δ - 1) + N2 (δ - 1) < N1 δ + N2 δ)
  rw [sum_step_iff N1 N2 m1 m2]
  constructor
  · rintro (h | h)
    · exact ⟨h.1, Or.inl h.2⟩
    · exact ⟨h.1, Or.inr h.2⟩
  · rintro ⟨h, h' | h'⟩
    · exact Or.inl ⟨h, h'⟩
    · exact Or.inr ⟨h, h'⟩

theorem StepsSpec.zero_not_mem {N : Nat → Nat} {H : Nat} {l : List Nat} (h : StepsSpec N H l) :
    0 ∉ l := by
  intro h0
  have := (h.2 0).1 h0
  omega

theorem StepsSpec.of_spec0 {N : Nat → Nat} {H : Nat} {l : List Nat} (h : StepsSpec0 N H l)
    (h0 : 0 ∉ l) : StepsSpec N H l := by
  refine ⟨h.1, fun δ => ?_⟩
  by_cases hδ : 1 ≤ δ
  · rw [h.2 δ hδ]
    exact ⟨fun h => ⟨hδ, h⟩, fun h => h.2⟩
  · have : δ = 0 := by omega
    subst this
    constructor
    · intro h; exact absurd h h0
    · intro h; omega

/-- the steps of a sum of monotone functions are the union of the steps (`sum_of`) -/
theorem stepsSpec0_sum (N1 N2 : Nat → Nat) (H : Nat) (l1 l2 : List Nat)
    (m1 : MonoN N1) (m2 : MonoN N2)
    (h1 : StepsSpec0 N1 H l1) (h2 : StepsSpec0 N2 H l2) :
    StepsSpec0 (fun d => N1 d + N2 d) H (dedup (merge l1 l2)) :=
  (WSpec0.merge N1 N2 H l1 l2 m1 m2 h1.toW h2.toW).dedup

theorem stepsSpec_sum (N1 N2 : Nat → Nat) (H : Nat) (l1 l2 : List Nat)
    (m1 : MonoN N1) (m2 : MonoN N2)
    (h1 : StepsSpec N1 H l1) (h2 : StepsSpec N2 H l2) :
    StepsSpec (fun d => N1 d + N2 d) H (dedup (merge l1 l2)) := by
  refine StepsSpec.of_spec0 (stepsSpec0_sum N1 N2 H l1 l2 m1 m2 h1.toSpec0 h2.toSpec0) ?_
  rw [mem_dedup, mem_merge]
  exact fun h => h.elim h1.zero_not_mem h2.zero_not_mem

theorem stepsSpec_const (c H : Nat) : StepsSpec (fun _ => c) H [] := by
  refine ⟨List.Pairwise.nil, fun δ => ?_⟩
  simp

theorem mem_filter_gt_sub (l : List Nat) (J δ : Nat) :
    δ ∈ (l.filter (fun x => decide (x > J + 1))).map (· - J) ↔ 2 ≤ δ ∧ δ + J ∈ l := by
  rw [List.mem_map]
  constructor
  · rintro ⟨x, hx, rfl⟩
    rw [List.mem_filter, decide_eq_true_eq] at hx
    rw [Nat.sub_add_cancel (by omega)]
    exact ⟨by omega, hx.1⟩
  · rintro ⟨h2, hm⟩
    exact ⟨δ + J, List.mem_filter.2 ⟨hm, decide_eq_true (by omega)⟩, Nat.add_sub_cancel δ J⟩

/-- `Propagated::steps_iter`: if `l` are the steps of `N` up to `H + J` (possibly with a
leading 0), then `(if 0 < N (1 + J) then [1] else []) ++ (l.filter (· > J + 1)).map (· - J)`
are the steps of `δ ↦ if δ = 0 then 0 else N (δ + J)` up to `H` (for `1 ≤ H`): the step at
`δ = 1` is emitted iff something can arrive in a window of length `1 + J`. -/
theorem stepsSpec_prop (N : Nat → Nat) (H J : Nat) (l : List Nat) (hH : 1 ≤ H)
    (hm : MonoN N) (hl : StepsSpec0 N (H + J) l) :
    StepsSpec (fun d => if d = 0 then 0 else N (d + J)) H
      ((if 0 < N (1 + J) then [1] else []) ++
        ((l.filter (fun x => decide (x > J + 1))).map (· - J))) := by
  have _ := hm
  have htail_gt : ∀ z ∈ (l.filter (fun x => decide (x > J + 1))).map (· - J), 1 < z :=
    fun z hz => ((mem_filter_gt_sub l J z).1 hz).1
  have htail_pw : ((l.filter (fun x => decide (x > J + 1))).map (· - J)).Pairwise (· < ·) := by
    rw [List.pairwise_map]
    refine List.Pairwise.imp_of_mem ?_ (hl.1.filter _)
    intro a b ha hb hab
    have := of_decide_eq_true (List.mem_filter.1 ha).2
    omega
  -- for `δ ≥ 2` both sides of the comparison are values of `N`, shifted by `J`
  have hstep : ∀ δ, 2 ≤ δ → ((if δ - 1 = 0 then 0 else N (δ - 1 + J)) <
      (if δ = 0 then 0 else N (δ + J)) ↔ N (δ + J - 1) < N (δ + J)) := by
    intro δ h
    rw [if_neg (by omega), if_neg (by omega), show δ + J - 1 = δ - 1 + J by omega]
  have htail_mem : ∀ δ, δ ∈ (l.filter (fun x => decide (x > J + 1))).map (· - J) ↔
      (2 ≤ δ ∧ δ ≤ H ∧
        (if δ - 1 = 0 then 0 else N (δ - 1 + J)) < (if δ = 0 then 0 else N (δ + J))) := by
    intro δ
    rw [mem_filter_gt_sub]
    constructor
    · rintro ⟨h2, hm⟩
      have := (hl.2 (δ + J) (by omega)).1 hm
      exact ⟨h2, by omega, (hstep δ h2).2 this.2⟩
    · rintro ⟨h2, hH, hs⟩
      exact ⟨h2, (hl.2 (δ + J) (by omega)).2 ⟨by omega, (hstep δ h2).1 hs⟩⟩
  have hone : (if (1 - 1 : Nat) = 0 then 0 else N (1 - 1 + J)) <
      (if (1 : Nat) = 0 then 0 else N (1 + J)) ↔ 0 < N (1 + J) := by
    rw [if_pos (by omega), if_neg (by omega)]
  by_cases hpos : 0 < N (1 + J)
  · rw [if_pos hpos, List.cons_append, List.nil_append]
    constructor
    · rw [List.pairwise_cons]
      exact ⟨htail_gt, htail_pw⟩
    · intro δ
      rw [List.mem_cons, htail_mem]
      constructor
      · rintro (rfl | ⟨h1, h2, h3⟩)
        · exact ⟨Nat.le_refl _, hH, hone.2 hpos⟩
        · exact ⟨by omega, h2, h3⟩
      · rintro ⟨h1, h2, h3⟩
        by_cases hδ : δ = 1
        · exact Or.inl hδ
        · exact Or.inr ⟨by omega, h2, h3⟩
  · rw [if_neg hpos, List.nil_append]
    refine ⟨htail_pw, fun δ => ?_⟩
    rw [htail_mem]
    constructor
    · rintro ⟨h1, h2, h3⟩
      exact ⟨by omega, h2, h3⟩
    · rintro ⟨h1, h2, h3⟩
      by_cases hδ : δ = 1
      · subst hδ
        exact absurd (hone.1 h3) hpos
      · exact ⟨by omega, h2, h3⟩

theorem stepsSpec_zero (N : Nat → Nat) : StepsSpec N 0 [] := by
  refine ⟨List.Pairwise.nil, fun δ => ?_⟩
  simp only [List.not_mem_nil, false_iff]
  omega

theorem StepsSpec.head?_eq_one {N : Nat → Nat} {H : Nat} {l : List Nat} (hs : StepsSpec N H l)
    (hH : 1 ≤ H) (h1 : N 0 < N 1) : l.head? = some 1 := by
  have hmem : 1 ∈ l := (hs.2 1).2 ⟨Nat.le_refl _, hH, h1⟩
  cases l with
  | nil => cases hmem
  | cons x xs =>
    rcases List.mem_cons.1 hmem with h | h
    · rw [← h]; rfl
    · have hx := ((hs.2 x).1 List.mem_cons_self).1
      have := (List.pairwise_cons.1 hs.1).1 1 h
      omega

theorem const_of_no_increase (N : Nat → Nat) (hm : MonoN N) (lo hi : Nat) (h : lo ≤ hi)
    (hno : ∀ δ, lo < δ → δ ≤ hi → ¬ N (δ - 1) < N δ) : N hi = N lo := by
  obtain ⟨k, rfl⟩ : ∃ k, hi = lo + k := ⟨hi - lo, by omega⟩
  clear h
  induction k with
  | zero => rfl
  | succ k ih =>
    have h1 := ih (fun δ a b => hno δ a (by omega))
    have h2 := hno (lo + (k + 1)) (by omega) (Nat.le_refl _)
    have e : lo + (k + 1) - 1 = lo + k := by omega
    rw [e] at h2
    have h3 := hm (lo + k) (lo + (k + 1)) (by omega)
    omega

end RTA
