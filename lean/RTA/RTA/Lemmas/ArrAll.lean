import RTA.Lemmas.Sporadic
import RTA.Lemmas.CurveSteps
import RTA.Lemmas.Extrapolate
import RTA.Lemmas.Prefix
/-! Structural induction over arrival models: C10 (`N 0 = 0`, monotone, never
undercounts, jitter composition) and C11 (`steps_iter` exact) for every composition. -/

namespace RTA
open RTA.Spec

mutual
/-- side condition on the model under a `Propagated` (and, with `Exact0List`, under a vector):
no model of the crate needs one, every model satisfies it (`Arr.Exact0_trivial`) -/
def Arr.Exact0 : Arr → Prop
  | .never => True
  | .periodic _ => True
  | .sporadic _ _ => True
  | .curve _ => True
  | .xcurve _ => True
  | .pfx _ _ => True
  | .prop _ a => a.Exact0
  | .agg as => Arr.Exact0List as
  | .sum a b => a.Exact0 ∧ b.Exact0
def Arr.Exact0List : List Arr → Prop
  | [] => True
  | a :: as => a.Exact0 ∧ Arr.Exact0List as
end

mutual
/-- models whose `steps_iter` is exact: additionally excludes finding K1
(`ArrivalCurvePrefix` yields 0) unless the prefix sits under a `Propagated`, which filters
the 0 out -/
def Arr.Exact : Arr → Prop
  | .never => True
  | .periodic _ => True
  | .sporadic _ _ => True
  | .curve _ => True
  | .xcurve _ => True
  | .pfx _ _ => False
  | .prop _ a => a.Exact0
  | .agg as => Arr.ExactList as
  | .sum a b => a.Exact ∧ b.Exact
def Arr.ExactList : List Arr → Prop
  | [] => True
  | a :: as => a.Exact ∧ Arr.ExactList as
end

theorem Arr.induction {P : Arr → Prop} {Q : List Arr → Prop}
    (never : P .never) (periodic : ∀ T, P (.periodic T)) (sporadic : ∀ T J, P (.sporadic T J))
    (curve : ∀ d, P (.curve d)) (xcurve : ∀ d, P (.xcurve d)) (pfx : ∀ h st, P (.pfx h st))
    (prop : ∀ J a, P a → P (.prop J a)) (agg : ∀ as, Q as → P (.agg as))
    (sum : ∀ a b, P a → P b → P (.sum a b))
    (nil : Q []) (cons : ∀ a as, P a → Q as → Q (a :: as)) : (∀ a, P a) ∧ ∀ as, Q as :=
  ⟨Arr.rec never periodic sporadic curve xcurve pfx prop agg sum nil cons,
   Arr.rec_1 never periodic sporadic curve xcurve pfx prop agg sum nil cons⟩

theorem Arr.N_zero_joint : (∀ a : Arr, a.N 0 = 0) ∧ ∀ as, Arr.Nlist as 0 = 0 := by
  apply Arr.induction
  case never => rfl
  case periodic => intro T; exact ceilDiv_zero T
  case sporadic => intro T J; rfl
  case curve => intro d; exact curveN_zero d
  case xcurve => intro d; exact xcurveN_zero d
  case pfx => intro h st; exact prefixN_zero h st
  case prop => intro J a _; rfl
  case agg => intro as ih; exact ih
  case sum => intro a b iha ihb; simp only [Arr.N]; rw [iha, ihb]
  case nil => rfl
  case cons => intro a as iha ihas; simp only [Arr.Nlist]; rw [iha, ihas]

theorem Arr.N_zero (a : Arr) : a.N 0 = 0 := Arr.N_zero_joint.1 a

theorem Arr.Nlist_zero' : (as : List Arr) → Arr.Nlist as 0 = 0 := Arr.N_zero_joint.2

theorem Arr.N_mono_joint :
    (∀ a : Arr, a.WF → MonoN a.N) ∧ ∀ as, Arr.WFlist as → MonoN (Arr.Nlist as) := by
  apply Arr.induction
  case never => intro _ x y _; exact Nat.le_refl _
  case periodic => intro T hwf x y h; exact ceilDiv_le_of_le T hwf h
  case sporadic => intro T J hwf; exact sporadic_N_mono T J hwf
  case curve => intro d hwf x y h; exact curveN_mono d hwf x y h
  case xcurve => intro d hwf x y h; exact xcurveN_mono d hwf x y h
  case pfx => intro h st hwf x y hxy; exact prefixN_mono h st hwf x y hxy
  case prop =>
    intro J a ih hwf x y h
    simp only [Arr.N]
    by_cases hx : x = 0
    · rw [if_pos hx]; exact Nat.zero_le _
    · rw [if_neg hx, if_neg (by omega)]
      exact ih hwf _ _ (by omega)
  case agg => intro as ih hwf x y h; exact ih hwf x y h
  case sum =>
    intro a b iha ihb hwf x y h
    exact Nat.add_le_add (iha hwf.1 x y h) (ihb hwf.2 x y h)
  case nil => intro _ x y _; exact Nat.le_refl _
  case cons =>
    intro a as iha ihas hwf x y h
    exact Nat.add_le_add (iha hwf.1 x y h) (ihas hwf.2 x y h)

theorem Arr.N_mono (a : Arr) (hwf : a.WF) : MonoN a.N := Arr.N_mono_joint.1 a hwf

theorem Arr.Exact0_trivial_joint : (∀ a : Arr, a.Exact0) ∧ ∀ as, Arr.Exact0List as := by
  apply Arr.induction
  case never => trivial
  case periodic => intro _; trivial
  case sporadic => intro _ _; trivial
  case curve => intro _; trivial
  case xcurve => intro _; trivial
  case pfx => intro _ _; trivial
  case prop => intro J a ih; exact ih
  case agg => intro as ih; exact ih
  case sum => intro a b iha ihb; exact ⟨iha, ihb⟩
  case nil => trivial
  case cons => intro a as iha ihas; exact ⟨iha, ihas⟩

theorem Arr.Exact0_trivial (a : Arr) : a.Exact0 := Arr.Exact0_trivial_joint.1 a

theorem Arr.Exact0List_trivial' : (as : List Arr) → Arr.Exact0List as := Arr.Exact0_trivial_joint.2

theorem Arr.ExactList_imp_Exact0List' : (as : List Arr) → Arr.ExactList as → Arr.Exact0List as :=
  fun as _ => Arr.Exact0List_trivial' as

theorem Arr.steps_spec0_joint :
    (∀ a : Arr, a.WF → ∀ H, StepsSpec0 a.N H (a.stepsUpTo H)) ∧
    ∀ as, Arr.WFlist as → ∀ H, WSpec0 (Arr.Nlist as) H (Arr.stepsList as H) := by
  apply Arr.induction
  case never => intro _ H; exact (stepsSpec_const 0 H).toSpec0
  case periodic => intro T hwf H; exact (periodic_steps_spec T H hwf).toSpec0
  case sporadic => intro T J hwf H; exact (sporadic_steps_spec T J H hwf).toSpec0
  case curve => intro d hwf H; exact (curve_steps_spec d hwf H).toSpec0
  case xcurve => intro d hwf H; exact (xcurve_steps_spec d hwf H).toSpec0
  case pfx => intro h st hwf H; exact prefix_steps_spec0 h st hwf H
  case prop =>
    intro J a ih hwf H
    simp only [Arr.stepsUpTo]
    by_cases hH : 1 ≤ H
    · rw [if_pos hH]
      exact (stepsSpec_prop a.N H J _ hH (Arr.N_mono a hwf) (ih hwf (H + J))).toSpec0
    · rw [if_neg hH]
      obtain rfl : H = 0 := by omega
      exact (stepsSpec_zero _).toSpec0
  case agg => intro as ih hwf H; exact (ih hwf H).dedup
  case sum =>
    intro a b iha ihb hwf H
    exact stepsSpec0_sum a.N b.N H _ _ (Arr.N_mono a hwf.1) (Arr.N_mono b hwf.2)
      (iha hwf.1 H) (ihb hwf.2 H)
  case nil => intro _ H; exact WSpec0.nil H
  case cons =>
    intro a as iha ihas hwf H
    exact WSpec0.merge a.N (Arr.Nlist as) H _ _ (Arr.N_mono a hwf.1) (Arr.N_mono_joint.2 as hwf.2)
      (iha hwf.1 H).toW (ihas hwf.2 H)

theorem Arr.stepsList_spec0' : (as : List Arr) → Arr.WFlist as → Arr.Exact0List as → ∀ H,
    WSpec0 (Arr.Nlist as) H (Arr.stepsList as H) := fun as hwf _ => Arr.steps_spec0_joint.2 as hwf

/-- C11, allowing the leading 0 of `ArrivalCurvePrefix`; `hex` always holds -/
theorem Arr.steps_spec0 (a : Arr) (hwf : a.WF) (hex : a.Exact0) (H : Nat) :
    StepsSpec0 a.N H (a.stepsUpTo H) :=
  have _ := hex
  Arr.steps_spec0_joint.1 a hwf H

theorem Arr.zero_not_mem_steps_joint :
    (∀ a : Arr, a.WF → a.Exact → ∀ H, 0 ∉ a.stepsUpTo H) ∧
    ∀ as, Arr.WFlist as → Arr.ExactList as → ∀ H, 0 ∉ Arr.stepsList as H := by
  apply Arr.induction
  case never => intro _ _ H h; cases h
  case periodic => intro T hwf _ H; exact (periodic_steps_spec T H hwf).zero_not_mem
  case sporadic => intro T J hwf _ H; exact (sporadic_steps_spec T J H hwf).zero_not_mem
  case curve => intro d hwf _ H; exact (curve_steps_spec d hwf H).zero_not_mem
  case xcurve => intro d hwf _ H; exact (xcurve_steps_spec d hwf H).zero_not_mem
  case pfx => intro h st _ hex; exact hex.elim
  case prop =>
    intro J a _ hwf hex H
    simp only [Arr.stepsUpTo]
    by_cases hH : 1 ≤ H
    · rw [if_pos hH]
      exact (stepsSpec_prop a.N H J _ hH (Arr.N_mono a hwf)
        (Arr.steps_spec0_joint.1 a hwf (H + J))).zero_not_mem
    · rw [if_neg hH]; exact List.not_mem_nil
  case agg =>
    intro as ih hwf hex H
    simp only [Arr.stepsUpTo]
    rw [mem_dedup]
    exact ih hwf hex H
  case sum =>
    intro a b iha ihb hwf hex H
    simp only [Arr.stepsUpTo]
    rw [mem_dedup, mem_merge]
    exact fun h => h.elim (iha hwf.1 hex.1 H) (ihb hwf.2 hex.2 H)
  case nil => intro _ _ H h; cases h
  case cons =>
    intro a as iha ihas hwf hex H
    simp only [Arr.stepsList]
    rw [mem_merge]
    exact fun h => h.elim (iha hwf.1 hex.1 H) (ihas hwf.2 hex.2 H)

theorem Arr.zero_not_mem_stepsList' : (as : List Arr) → Arr.WFlist as → Arr.ExactList as → ∀ H,
    0 ∉ Arr.stepsList as H := Arr.zero_not_mem_steps_joint.2

/-- C11 for every model and every composition outside K1. -/
theorem Arr.steps_spec (a : Arr) (hwf : a.WF) (hex : a.Exact) (H : Nat) :
    StepsSpec a.N H (a.stepsUpTo H) :=
  StepsSpec.of_spec0 (Arr.steps_spec0_joint.1 a hwf H) (Arr.zero_not_mem_steps_joint.1 a hwf hex H)

/-- `Propagated` over a never-arriving model yields no step: `Propagated::steps_iter` yields 1
only if the curve steps there -/
theorem prop_never_steps : (Arr.prop 3 .never).stepsUpTo 10 = [] := by
  simp [Arr.stepsUpTo, Arr.N]

theorem prop_never_steps_spec :
    StepsSpec (Arr.prop 3 .never).N 10 ((Arr.prop 3 .never).stepsUpTo 10) :=
  Arr.steps_spec (Arr.prop 3 .never) (by simp only [Arr.WF]) (by simp only [Arr.Exact, Arr.Exact0]) 10

/-- Time starts at 0, so widening the window to the left by `J` gives `[t - J, t + x)` of length
`x + (t - (t - J))`, i.e. `x + min t J`. -/
theorem cnt_delayed (J : Nat) (base rels : List Nat) (h : DelayedBy J base rels) (t x : Nat) :
    cnt rels t x ≤ cnt base (t - J) (x + (t - (t - J))) := by
  induction base generalizing rels with
  | nil =>
    cases rels with
    | nil => exact Nat.le_refl _
    | cons _ _ => exact h.elim
  | cons b bs ih =>
    cases rels with
    | nil => exact h.elim
    | cons r rs =>
      have ih := ih rs h.2.2
      have h1 := h.1
      have h2 := h.2.1
      rw [cnt_cons, cnt_cons]
      by_cases hr : t ≤ r ∧ r < t + x
      · rw [if_pos hr, if_pos (by omega)]; omega
      · rw [if_neg hr]; omega

theorem cnt_delayed_le (N : Nat → Nat) (hm : MonoN N) (J : Nat) (base rels : List Nat)
    (hb : ∀ t x, cnt base t x ≤ N x) (hd : DelayedBy J base rels) (t x : Nat) :
    cnt rels t x ≤ if x = 0 then 0 else N (x + J) := by
  by_cases hx : x = 0
  · subst hx; rw [if_pos rfl, cnt_zero]; exact Nat.le_refl _
  · rw [if_neg hx]
    have h1 := cnt_delayed J base rels hd t x
    have h2 := hb (t - J) (x + (t - (t - J)))
    have h3 := hm (x + (t - (t - J))) (x + J) (by omega)
    omega

theorem Arr.bounds_joint :
    (∀ a : Arr, a.WF → ∀ rels, Admissible a rels → ∀ t x, cnt rels t x ≤ a.N x) ∧
    ∀ as, Arr.WFlist as → ∀ parts, AdmissibleList as parts →
      ∀ t x, cnt parts.flatten t x ≤ Arr.Nlist as x := by
  apply Arr.induction
  case never =>
    intro _ rels hadm t x
    simp only [Admissible] at hadm
    subst hadm
    exact Nat.zero_le _
  case periodic => intro T hwf rels hadm t x; exact periodic_bounds T hwf rels hadm t x
  case sporadic => intro T J hwf rels hadm t x; exact sporadic_bounds T J hwf rels hadm t x
  case curve =>
    intro d hwf rels hadm t x
    simp only [Admissible] at hadm
    exact curve_bounds d hwf rels hadm t x
  case xcurve =>
    intro d hwf rels hadm t x
    simp only [Admissible] at hadm
    exact xcurve_bounds d hwf rels hadm t x
  case pfx =>
    intro h st hwf rels hadm t x
    simp only [Admissible] at hadm
    exact prefix_bounds h st hwf rels hadm t x
  case prop =>
    intro J a ih hwf rels hadm t x
    simp only [Admissible] at hadm
    obtain ⟨base, hb, hd⟩ := hadm
    exact cnt_delayed_le a.N (Arr.N_mono a hwf) J base rels (ih hwf base hb) hd t x
  case agg =>
    intro as ih hwf rels hadm t x
    simp only [Admissible] at hadm
    obtain ⟨parts, hp, hperm⟩ := hadm
    rw [cnt_perm _ _ hperm]
    exact ih hwf parts hp t x
  case sum =>
    intro a b iha ihb hwf rels hadm t x
    simp only [Admissible] at hadm
    obtain ⟨ra, rb, ha, hb, hperm⟩ := hadm
    rw [cnt_perm _ _ hperm, cnt_append]
    exact Nat.add_le_add (iha hwf.1 ra ha t x) (ihb hwf.2 rb hb t x)
  case nil =>
    intro _ parts hadm t x
    cases parts with
    | nil => exact Nat.le_refl _
    | cons _ _ => simp [AdmissibleList] at hadm
  case cons =>
    intro a as iha ihas hwf parts hadm t x
    cases parts with
    | nil => simp [AdmissibleList] at hadm
    | cons p ps =>
      simp only [AdmissibleList] at hadm
      rw [List.flatten_cons, cnt_append]
      exact Nat.add_le_add (iha hwf.1 p hadm.1 t x) (ihas hwf.2 ps hadm.2 t x)

/-- C10 (`never_undercounts`) for every model and every composition. -/
theorem Arr.bounds (a : Arr) (hwf : a.WF) (rels : List Nat) (hadm : Admissible a rels)
    (t x : Nat) : cnt rels t x ≤ a.N x := Arr.bounds_joint.1 a hwf rels hadm t x

theorem Arr.boundsList' : (as : List Arr) → Arr.WFlist as → ∀ parts, AdmissibleList as parts →
    ∀ t x, cnt parts.flatten t x ≤ Arr.Nlist as x := Arr.bounds_joint.2

theorem Arr.withJitter_wf_joint :
    (∀ a : Arr, a.WF → ∀ j, (a.withJitter j).WF) ∧
    ∀ as, Arr.WFlist as → ∀ j, Arr.WFlist (Arr.withJitterList as j) := by
  apply Arr.induction
  case never => intro _ _; trivial
  case periodic => intro T hwf j; exact hwf
  case sporadic => intro T J hwf j; exact hwf
  case curve => intro d hwf j; exact hwf
  case xcurve => intro d hwf j; exact hwf
  case pfx => intro h st hwf j; exact hwf
  case prop => intro J a _ hwf j; exact hwf
  case agg => intro as ih hwf j; exact ih hwf j
  case sum => intro a b iha ihb hwf j; exact ⟨iha hwf.1 j, ihb hwf.2 j⟩
  case nil => intro _ _; trivial
  case cons => intro a as iha ihas hwf j; exact ⟨iha hwf.1 j, ihas hwf.2 j⟩

theorem Arr.withJitter_wf (a : Arr) (hwf : a.WF) (j : Nat) : (a.withJitter j).WF :=
  Arr.withJitter_wf_joint.1 a hwf j

theorem Arr.withJitterList_wf' : (as : List Arr) → Arr.WFlist as → ∀ j,
    Arr.WFlist (Arr.withJitterList as j) := Arr.withJitter_wf_joint.2

theorem Arr.withJitter_add_joint :
    (∀ a : Arr, ∀ x y d, ((a.withJitter x).withJitter y).N d = (a.withJitter (x + y)).N d) ∧
    ∀ as, ∀ x y d, Arr.Nlist (Arr.withJitterList (Arr.withJitterList as x) y) d
      = Arr.Nlist (Arr.withJitterList as (x + y)) d := by
  apply Arr.induction
  case never => intro x y d; rfl
  case periodic => intro T x y d; rfl
  case sporadic => intro T J x y d; simp only [Arr.withJitter, Nat.add_assoc]
  case curve => intro dm x y d; rfl
  case xcurve => intro dm x y d; rfl
  case pfx => intro h st x y d; rfl
  case prop => intro J a _ x y d; simp only [Arr.withJitter, Nat.add_assoc]
  case agg => intro as ih x y d; exact ih x y d
  case sum => intro a b iha ihb x y d; simp only [Arr.withJitter, Arr.N]; rw [iha, ihb]
  case nil => intro x y d; rfl
  case cons =>
    intro a as iha ihas x y d
    simp only [Arr.withJitterList, Arr.Nlist]; rw [iha, ihas]

theorem Arr.withJitter_add (a : Arr) (x y d : Nat) :
    ((a.withJitter x).withJitter y).N d = (a.withJitter (x + y)).N d :=
  Arr.withJitter_add_joint.1 a x y d

theorem Arr.withJitterList_add' : (as : List Arr) → ∀ x y d,
    Arr.Nlist (Arr.withJitterList (Arr.withJitterList as x) y) d
      = Arr.Nlist (Arr.withJitterList as (x + y)) d := Arr.withJitter_add_joint.2

theorem prop_zero_N (a : Arr) (d : Nat) : (Arr.prop 0 a).N d = a.N d := by
  simp only [Arr.N, Nat.add_zero]
  split
  next h => subst h; exact (Arr.N_zero a).symm
  next h => rfl

theorem Arr.withJitter_zero_joint :
    (∀ a : Arr, ∀ d, (a.withJitter 0).N d = a.N d) ∧
    ∀ as, ∀ d, Arr.Nlist (Arr.withJitterList as 0) d = Arr.Nlist as d := by
  apply Arr.induction
  case never => intro d; rfl
  case periodic =>
    intro T d
    simp only [Arr.withJitter, Arr.N, Nat.add_zero]
    split
    next h => subst h; exact (ceilDiv_zero T).symm
    next h => rfl
  case sporadic => intro T J d; rfl
  case curve => intro dm d; exact prop_zero_N _ d
  case xcurve => intro dm d; exact prop_zero_N _ d
  case pfx => intro h st d; exact prop_zero_N _ d
  case prop => intro J a _ d; rfl
  case agg => intro as ih d; exact ih d
  case sum => intro a b iha ihb d; simp only [Arr.withJitter, Arr.N]; rw [iha, ihb]
  case nil => intro d; rfl
  case cons =>
    intro a as iha ihas d
    simp only [Arr.withJitterList, Arr.Nlist]; rw [iha, ihas]

theorem Arr.withJitter_zero (a : Arr) (d : Nat) : (a.withJitter 0).N d = a.N d :=
  Arr.withJitter_zero_joint.1 a d

theorem Arr.withJitterList_zero' : (as : List Arr) → ∀ d,
    Arr.Nlist (Arr.withJitterList as 0) d = Arr.Nlist as d := Arr.withJitter_zero_joint.2

theorem DelayedBy_trans (J j : Nat) : ∀ (a b c : List Nat), DelayedBy J a b → DelayedBy j b c →
    DelayedBy (J + j) a c
  | [], [], [], _, _ => by simp [DelayedBy]
  | [], [], _ :: _, _, h => by simp [DelayedBy] at h
  | [], _ :: _, _, h, _ => by simp [DelayedBy] at h
  | _ :: _, [], _, h, _ => by simp [DelayedBy] at h
  | _ :: _, _ :: _, [], _, h => by simp [DelayedBy] at h
  | x :: a, y :: b, z :: c, h1, h2 => by
    rw [DelayedBy] at h1 h2 ⊢
    exact ⟨by omega, by omega, DelayedBy_trans J j a b c h1.2.2 h2.2.2⟩

theorem DelayedBy_nil_left (j : Nat) (rels : List Nat) (h : DelayedBy j [] rels) : rels = [] := by
  cases rels with
  | nil => rfl
  | cons r rs => simp [DelayedBy] at h

theorem DelayedBy_append (j : Nat) (l2 : List Nat) : ∀ (l1 rels : List Nat),
    DelayedBy j (l1 ++ l2) rels →
    ∃ r1 r2, rels = r1 ++ r2 ∧ DelayedBy j l1 r1 ∧ DelayedBy j l2 r2
  | [], rels, h => ⟨[], rels, rfl, by simp [DelayedBy], by simpa using h⟩
  | x :: l1, [], h => by simp [DelayedBy] at h
  | x :: l1, r :: rs, h => by
    rw [List.cons_append, DelayedBy] at h
    obtain ⟨r1, r2, e, h1, h2⟩ := DelayedBy_append j l2 l1 rs h.2.2
    refine ⟨r :: r1, r2, by rw [e]; rfl, ?_, h2⟩
    rw [DelayedBy]
    exact ⟨h.1, h.2.1, h1⟩

theorem DelayedBy_perm (j : Nat) (base base' : List Nat) (hp : base.Perm base') :
    ∀ rels, DelayedBy j base rels → ∃ rels', rels.Perm rels' ∧ DelayedBy j base' rels' := by
  induction hp with
  | nil => intro rels h; exact ⟨rels, List.Perm.refl _, h⟩
  | cons x _ ih =>
    intro rels h
    cases rels with
    | nil => simp [DelayedBy] at h
    | cons r rs =>
      rw [DelayedBy] at h
      obtain ⟨rs', hp', hd'⟩ := ih rs h.2.2
      refine ⟨r :: rs', hp'.cons r, ?_⟩
      rw [DelayedBy]
      exact ⟨h.1, h.2.1, hd'⟩
  | swap x y l =>
    intro rels h
    cases rels with
    | nil => simp [DelayedBy] at h
    | cons r1 rs =>
      cases rs with
      | nil => simp [DelayedBy] at h
      | cons r2 rs =>
        rw [DelayedBy, DelayedBy] at h
        refine ⟨r2 :: r1 :: rs, List.Perm.swap r2 r1 rs, ?_⟩
        rw [DelayedBy, DelayedBy]
        exact ⟨h.2.2.1, h.2.2.2.1, h.1, h.2.1, h.2.2.2.2⟩
  | trans _ _ ih1 ih2 =>
    intro rels h
    obtain ⟨r1, hp1, hd1⟩ := ih1 rels h
    obtain ⟨r2, hp2, hd2⟩ := ih2 r1 hd1
    exact ⟨r2, hp1.trans hp2, hd2⟩

theorem Arr.withJitter_admissible_joint :
    (∀ a : Arr, ∀ j base rels, Admissible a base → DelayedBy j base rels →
      Admissible (a.withJitter j) rels) ∧
    ∀ as, ∀ j parts rels, AdmissibleList as parts → DelayedBy j parts.flatten rels →
      ∃ parts', AdmissibleList (Arr.withJitterList as j) parts' ∧ rels = parts'.flatten := by
  apply Arr.induction
  case never =>
    intro j base rels hadm hd
    simp only [Admissible] at hadm
    subst hadm
    simp only [Arr.withJitter, Admissible]
    exact DelayedBy_nil_left j rels hd
  case periodic =>
    intro T j base rels hadm hd
    simp only [Admissible] at hadm
    simp only [Arr.withJitter, Admissible]
    exact ⟨base, GapsEq_imp_GapsGe T base hadm, hd⟩
  case sporadic =>
    intro T J j base rels hadm hd
    simp only [Admissible] at hadm
    obtain ⟨arr, hg, hd0⟩ := hadm
    simp only [Arr.withJitter, Admissible]
    exact ⟨arr, hg, DelayedBy_trans J j arr base rels hd0 hd⟩
  case curve =>
    intro d j base rels hadm hd
    simp only [Arr.withJitter]
    rw [Admissible]
    exact ⟨base, hadm, hd⟩
  case xcurve =>
    intro d j base rels hadm hd
    simp only [Arr.withJitter]
    rw [Admissible]
    exact ⟨base, hadm, hd⟩
  case pfx =>
    intro h st j base rels hadm hd
    simp only [Arr.withJitter]
    rw [Admissible]
    exact ⟨base, hadm, hd⟩
  case prop =>
    intro J a _ j base rels hadm hd
    rw [Admissible] at hadm
    obtain ⟨b0, hb0, hd0⟩ := hadm
    simp only [Arr.withJitter]
    rw [Admissible]
    exact ⟨b0, hb0, DelayedBy_trans J j b0 base rels hd0 hd⟩
  case agg =>
    intro as ih j base rels hadm hd
    rw [Admissible] at hadm
    obtain ⟨parts, hp, hperm⟩ := hadm
    obtain ⟨rels', hperm', hd'⟩ := DelayedBy_perm j base parts.flatten hperm rels hd
    obtain ⟨parts', hp', e⟩ := ih j parts rels' hp hd'
    simp only [Arr.withJitter]
    rw [Admissible]
    exact ⟨parts', hp', e ▸ hperm'⟩
  case sum =>
    intro a b iha ihb j base rels hadm hd
    rw [Admissible] at hadm
    obtain ⟨ra, rb, ha, hb, hperm⟩ := hadm
    obtain ⟨rels', hperm', hd'⟩ := DelayedBy_perm j base (ra ++ rb) hperm rels hd
    obtain ⟨r1, r2, e, h1, h2⟩ := DelayedBy_append j rb ra rels' hd'
    simp only [Arr.withJitter]
    rw [Admissible]
    exact ⟨r1, r2, iha j ra r1 ha h1, ihb j rb r2 hb h2, e ▸ hperm'⟩
  case nil =>
    intro j parts rels hadm hd
    cases parts with
    | nil => exact ⟨[], trivial, DelayedBy_nil_left j rels hd⟩
    | cons _ _ => simp [AdmissibleList] at hadm
  case cons =>
    intro a as iha ihas j parts rels hadm hd
    cases parts with
    | nil => simp [AdmissibleList] at hadm
    | cons p ps =>
      simp only [AdmissibleList] at hadm
      rw [List.flatten_cons] at hd
      obtain ⟨r1, r2, e, h1, h2⟩ := DelayedBy_append j ps.flatten p rels hd
      obtain ⟨ps', hps', e'⟩ := ihas j ps r2 hadm.2 h2
      refine ⟨r1 :: ps', ⟨iha j p r1 hadm.1 h1, hps'⟩, ?_⟩
      rw [List.flatten_cons, ← e', e]

theorem Arr.withJitter_admissible (a : Arr) (j : Nat) (base rels : List Nat)
    (hadm : Admissible a base) (hd : DelayedBy j base rels) : Admissible (a.withJitter j) rels :=
  Arr.withJitter_admissible_joint.1 a j base rels hadm hd

theorem Arr.withJitterList_admissible' : (as : List Arr) → ∀ j parts rels,
    AdmissibleList as parts → DelayedBy j parts.flatten rels →
    ∃ parts', AdmissibleList (Arr.withJitterList as j) parts' ∧ rels = parts'.flatten :=
  Arr.withJitter_admissible_joint.2

/-- C10 (`clone_with_jitter_bounds`): `clone_with_jitter(j)` bounds every sequence that delays each
event of an admissible one by at most `j`. -/
theorem Arr.withJitter_bounds (a : Arr) (hwf : a.WF) (j : Nat) (base rels : List Nat)
    (hadm : Admissible a base) (hd : DelayedBy j base rels) (t x : Nat) :
    cnt rels t x ≤ (a.withJitter j).N x :=
  Arr.bounds (a.withJitter j) (Arr.withJitter_wf a hwf j) rels
    (Arr.withJitter_admissible a j base rels hadm hd) t x

end RTA
