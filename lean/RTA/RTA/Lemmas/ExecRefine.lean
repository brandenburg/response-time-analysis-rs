import RTA.Lemmas.ExecRefineX
/-! Refinement: every run of the executor transition system (`RTA/Spec/Ros2Exec.lean`, no
chains) satisfies the schedule-level Specs over which the ROS 2 analyses are proved sound:
`PollingExecLegal` (`run_polling_legal`) and, for a timer against the higher-priority timers,
`SupplyTimerLegal` (`run_timer_legal`).

`Exec.step` is `ExecX.step` with every instance running for its WCET, so the run, its job system
and its executor facts are those of `ExecX` at `ex i _ = WCET of i`, and the Specs hold by
`Lemmas/ExecRefineX.lean`. -/

open Finset

namespace RTA.ExecX.EndToEndXLemmas
open RTA RTA.Exec

theorem pick_wcet (cbs : List Cb) (t : ℕ) (s : State) :
    ExecX.pick cbs (fun i _ => (cbs.getD i default).cost) t s = Exec.pick cbs s := rfl

theorem step_wcet (cbs : List Cb) (chain : ℕ → Option ℕ) (t : ℕ) (b : Bool) (rel : List ℕ) (s : State) :
    ExecX.step cbs (fun i _ => (cbs.getD i default).cost) chain t b rel s = Exec.step cbs chain t b rel s := rfl

theorem go_wcet (cbs : List Cb) (chain : ℕ → Option ℕ) (rels : ℕ → List ℕ) : ∀ (l : List Bool) (t : ℕ) (s : State),
    ExecX.run.go cbs (fun i _ => (cbs.getD i default).cost) chain rels l t s = Exec.run.go cbs chain rels l t s := by
  intro l
  induction l with
  | nil => intro t s; rfl
  | cons b bs ih =>
    intro t s
    simp only [ExecX.run.go, Exec.run.go, step_wcet, ih]
    rfl

end RTA.ExecX.EndToEndXLemmas

theorem RTA.ExecX.run_wcet (cbs : List RTA.Exec.Cb) (chain : ℕ → Option ℕ) (sigma : List Bool) (rels : ℕ → List ℕ) :
    ExecX.run cbs (fun i _ => (cbs.getD i default).cost) chain sigma rels = Exec.run cbs chain sigma rels :=
  EndToEndXLemmas.go_wcet cbs chain rels sigma 0 (Exec.State.init cbs.length)

namespace RTA.Exec
open RTA RTA.Sched

variable (cbs : List Cb) (sigma : ℕ → Bool) (rels : ℕ → List ℕ)

/-- the state at the beginning of slot `t` -/
def stateAt : ℕ → State
  | 0 => State.init cbs.length
  | t + 1 => (step cbs (fun _ => none) t (sigma t) (rels t) (stateAt t)).1

/-- the state in slot `t` after the releases of `t` have been recorded and, if the slot is
supplied and nothing is running, the executor has picked -/
def pickedAt (t : ℕ) : State :=
  let s1 := { stateAt cbs sigma rels t with queue := addReleases (stateAt cbs sigma rels t).queue (rels t) t }
  if !sigma t then s1 else
  match s1.running with
  | some _ => s1
  | none => pick cbs s1

def servedCb (t : ℕ) : Option ℕ :=
  if !sigma t then none else (pickedAt cbs sigma rels t).running.map (·.1)

def startsCb (t i : ℕ) : Bool :=
  sigma t && (({ stateAt cbs sigma rels t with
      queue := addReleases (stateAt cbs sigma rels t).queue (rels t) t } : State).running.isNone) &&
    (servedCb cbs sigma rels t == some i)

/-- number of instances of callback `i` started in slots `< t` -/
def startedBefore (i : ℕ) : ℕ → ℕ
  | 0 => 0
  | t + 1 => startedBefore i t + (if startsCb cbs sigma rels t i then 1 else 0)

/-- slot `t` is a polling point: supplied, nothing running, no timer pending, ready set empty -/
def isPP (t : ℕ) : Bool :=
  let s1 : State := { stateAt cbs sigma rels t with
    queue := addReleases (stateAt cbs sigma rels t).queue (rels t) t }
  sigma t && s1.running.isNone && (pendingTimers cbs s1.queue).isEmpty && s1.ready.isEmpty

/-- the job system of a run: jobs = release events; slot `t` serves the job that is the
`startedBefore`-th (if the slot starts an instance) resp. `startedBefore - 1`-th (if it
continues one) event of the served callback -/
def toSys (H : ℕ) : Sys where
  n := (events rels H).length
  task := fun k => ((events rels H).getD k (0, 0)).2
  arr := fun k => ((events rels H).getD k (0, 0)).1
  cost := fun k => (cbs.getD ((events rels H).getD k (0, 0)).2 default).cost
  np := fun _ _ => False
  sched := fun t =>
    match servedCb cbs sigma rels t with
    | none => none
    | some i =>
      let m := startedBefore cbs sigma rels i t
      nthEventOf rels H i (if startsCb cbs sigma rels t i then m else m - 1)

def toInfo : ExecInfo where
  isTimer := fun i => (cbs.getD i default).isTimer
  prio := fun i => (cbs.getD i default).prio
  pp := isPP cbs sigma rels

theorem wcet_bounds (hcost : ∀ c ∈ cbs, 1 ≤ c.cost) (k : ℕ) (hk : k < cbs.length) (_t : ℕ) :
    1 ≤ (cbs.getD k default).cost ∧ (cbs.getD k default).cost ≤ (cbs.getD k default).cost := by
  refine ⟨hcost _ ?_, Nat.le_refl _⟩
  rw [List.getD_eq_getElem?_getD, List.getElem?_eq_getElem hk]
  exact List.getElem_mem _

theorem stateAt_wcet :
    ExecX.stateAt cbs (fun i _ => (cbs.getD i default).cost) sigma rels = stateAt cbs sigma rels := by
  funext t
  induction t with
  | zero => rfl
  | succ t ih =>
    show (ExecX.step _ _ _ t _ _ (ExecX.stateAt _ _ _ _ t)).1 = (step _ _ t _ _ (stateAt _ _ _ t)).1
    rw [ih, ExecX.EndToEndXLemmas.step_wcet]

theorem startsCb_wcet :
    ExecX.startsCb cbs (fun i _ => (cbs.getD i default).cost) sigma rels = startsCb cbs sigma rels := by
  funext t i
  simp only [ExecX.startsCb, startsCb, ExecX.servedCb, servedCb, ExecX.pickedAt, pickedAt, stateAt_wcet]
  rfl

theorem startedBefore_wcet :
    ExecX.startedBefore cbs (fun i _ => (cbs.getD i default).cost) sigma rels =
      startedBefore cbs sigma rels := by
  funext i t
  induction t with
  | zero => rfl
  | succ t ih => simp only [ExecX.startedBefore, startedBefore, ih, startsCb_wcet]

theorem toInfoX_wcet :
    ExecX.toInfoX cbs (fun i _ => (cbs.getD i default).cost) sigma rels = toInfo cbs sigma rels := by
  unfold ExecX.toInfoX toInfo
  congr 1
  funext t
  unfold ExecX.isPP isPP
  rw [stateAt_wcet]

theorem toSysX_wcet (H : ℕ) :
    ExecX.toSysX cbs (fun i _ => (cbs.getD i default).cost) sigma rels H = toSys cbs sigma rels H := by
  unfold ExecX.toSysX toSys
  congr 1
  · funext k
    unfold ExecX.costX
    split <;> rfl
  · funext t
    simp only [ExecX.schedX, ExecX.servedCb, ExecX.pickedAt, stateAt_wcet, startedBefore_wcet,
      startsCb_wcet]
    rfl

/-- every run of the executor transition system satisfies the polling-point Spec -/
theorem run_polling_legal (H : ℕ)
    (hidx : ∀ t, ∀ i ∈ rels t, i < cbs.length)
    (hfin : ∀ t, H ≤ t → rels t = [])
    (hcost : ∀ c ∈ cbs, 1 ≤ c.cost) :
    PollingExecLegal (toSys cbs sigma rels H) sigma (toInfo cbs sigma rels) := by
  rw [← toSysX_wcet, ← toInfoX_wcet]
  exact ExecX.run_polling_legal_x cbs _ sigma rels H hidx hfin (wcet_bounds cbs hcost)

/-- for a timer `i` whose priority value is shared by no other timer, the timer Spec with
the timers of smaller priority value as higher-priority timers -/
theorem run_timer_legal (H i : ℕ) (hti : (cbs.getD i default).isTimer = true)
    (hidx : ∀ t, ∀ i ∈ rels t, i < cbs.length)
    (hfin : ∀ t, H ≤ t → rels t = [])
    (hcost : ∀ c ∈ cbs, 1 ≤ c.cost)
    (hdist : ∀ k, k < cbs.length → k ≠ i → (cbs.getD k default).isTimer = true →
      (cbs.getD k default).prio ≠ (cbs.getD i default).prio) :
    SupplyTimerLegal (toSys cbs sigma rels H) sigma i
      (fun k => (cbs.getD k default).isTimer = true ∧ (cbs.getD k default).prio < (cbs.getD i default).prio) := by
  rw [← toSysX_wcet]
  exact ExecX.run_timer_legal_x cbs _ sigma rels H i hti hidx hfin (wcet_bounds cbs hcost) hdist

end RTA.Exec
