import RTA.Lemmas.TimerSound
import RTA.Lemmas.RrSound
import RTA.Lemmas.BwSound
import RTA.Lemmas.ExecEndToEnd
import RTA.Lemmas.ExecRefineX
/-! End-to-end soundness of the ROS 2 analyses over the executor transition system with
ARBITRARY execution times (`RTA/Spec/Ros2ExecX.lean`): `ex i t` is the execution time of the
instance of callback `i` that starts in slot `t`, anywhere between 1 and the callback's WCET.
Every hypothesis is on the inputs of the run, the conclusion on the completions reported by the
executable `ExecX.run`. -/

namespace RTA.ExecX.EndToEndXLemmas
open RTA RTA.Sched RTA.Spec RTA.Exec

theorem countOf_toSysX_le (cbs : List Cb) (ex : ℕ → ℕ → ℕ) (sigma : ℕ → Bool) (rels : ℕ → List ℕ)
    (H k t d : ℕ) :
    countOf (toSysX cbs ex sigma rels H) k t (t + d) ≤ relCount rels k t d := by
  unfold countOf
  rw [Finset.card_filter]
  exact EndToEndLemmas.count_events_le rels H k t d

theorem workOf_toSysX_le (cbs : List Cb) (ex : ℕ → ℕ → ℕ) (sigma : ℕ → Bool) (rels : ℕ → List ℕ) (H : ℕ)
    (hidx : ∀ t, ∀ i ∈ rels t, i < cbs.length)
    (hex : ∀ k, k < cbs.length → ∀ t, 1 ≤ ex k t ∧ ex k t ≤ (cbs.getD k default).cost)
    (ts : ℕ → Prop) [DecidablePred ts] (t d : ℕ) :
    workOf (toSysX cbs ex sigma rels H) ts t (t + d) ≤
      (((List.range cbs.length).filter fun k => decide (ts k)).map fun k =>
        relCount rels k t d * (cbs.getD k default).cost).sum := by
  refine Nat.le_trans ?_ (EndToEndLemmas.work_events_le cbs rels H hidx ts t d)
  apply Finset.sum_le_sum
  intro k hk
  split
  · rw [if_pos (by assumption)]
    exact toSysX_cost_le cbs ex sigma rels H hidx hex k (Finset.mem_range.1 hk)
  · exact Nat.zero_le _

end RTA.ExecX.EndToEndXLemmas

namespace RTA.ExecX
open RTA RTA.Sched RTA.Spec RTA.Exec

theorem timer_exec_sound_x (cbs : List Cb) (ex : ℕ → ℕ → ℕ) (sigma : ℕ → Bool) (rels : ℕ → List ℕ) (H i : ℕ)
    (hi : i < cbs.length) (hti : (cbs.getD i default).isTimer = true)
    (hidx : ∀ t, ∀ i ∈ rels t, i < cbs.length) (hfin : ∀ t, H ≤ t → rels t = [])
    (hex : ∀ k, k < cbs.length → ∀ t, 1 ≤ ex k t ∧ ex k t ≤ (cbs.getD k default).cost)
    (hdist : ∀ k, k < cbs.length → k ≠ i → (cbs.getD k default).isTimer = true →
      (cbs.getD k default).prio ≠ (cbs.getD i default).prio)
    (sup : Supply) (hs : sup.WF) (hsbf : ∀ t d, sup.sbf d ≤ service sigma t d)
    (arrs : List Arr) (hlen : arrs.length = cbs.length) (hwf : ∀ a ∈ arrs, a.WF ∧ a.Exact)
    (hrel : ∀ k, k < cbs.length → ∀ t d, relCount rels k t d ≤ (arrs.getD k default).N d)
    (B : ℕ)
    (hB : ∀ k, k < cbs.length → k ≠ i →
      ¬ ((cbs.getD k default).isTimer = true ∧ (cbs.getD k default).prio < (cbs.getD i default).prio) →
      (cbs.getD k default).cost ≤ B + 1)
    (limit R : ℕ)
    (hR : rosTimer sup (.rbf (arrs.getD i default) (.scalar (cbs.getD i default).cost))
      (.agg (((List.range cbs.length).filter fun k =>
          (cbs.getD k default).isTimer && decide ((cbs.getD k default).prio < (cbs.getD i default).prio)).map
        fun k => .rbf (arrs.getD k default) (.scalar (cbs.getD k default).cost))) B limit = .ok R)
    (n : ℕ) :
    ∀ o ∈ ExecX.run cbs ex (fun _ => none) ((List.range n).map sigma) rels, o.1 = i → o.2.2 ≤ o.2.1 + R := by
  have hkslt := EndToEndLemmas.mem_filter_range_lt cbs.length (fun k =>
    (cbs.getD k default).isTimer && decide ((cbs.getD k default).prio < (cbs.getD i default).prio))
  have hcpos : ∀ k, k < cbs.length → 1 ≤ (cbs.getD k default).cost :=
    fun k hk => by have := hex k hk 0; omega
  have hagg := EndToEndLemmas.agg_wf arrs cbs.length hlen hwf (fun k => (cbs.getD k default).cost)
    hcpos _ hkslt
  have hai := hwf _ (getD_mem arrs i (by omega))
  refine run_meets_of_sys_x cbs ex sigma rels H hidx hfin hex i R ?_ n
  refine timer_sound _ sigma i _ (run_timer_legal_x cbs ex sigma rels H i hti hidx hfin hex hdist)
    (fun h => Nat.lt_irrefl _ h.2) sup hs hsbf (arrs.getD i default) (cbs.getD i default).cost
    hai.1 hai.2 (hcpos i hi) _ (by simp only [RB.ArrWF]; exact hagg.1)
    (by simp only [RB.Exact]; exact hagg.2) B ?_ ?_ ?_ ?_ limit R hR
  · exact fun t d => Nat.le_trans (EndToEndXLemmas.countOf_toSysX_le cbs ex sigma rels H i t d) (hrel i hi t d)
  · intro k hkn hk
    have := toSysX_cost_le cbs ex sigma rels H hidx hex k hkn
    rw [hk] at this
    exact this
  · intro t d
    refine Nat.le_trans (EndToEndXLemmas.workOf_toSysX_le cbs ex sigma rels H hidx hex _ t d) ?_
    simp only [RB.need]
    have e : (fun k => decide ((cbs.getD k default).isTimer = true ∧
        (cbs.getD k default).prio < (cbs.getD i default).prio)) =
        (fun k => (cbs.getD k default).isTimer &&
          decide ((cbs.getD k default).prio < (cbs.getD i default).prio)) := by
      funext k; simp [Bool.decide_and]
    rw [e]
    exact EndToEndLemmas.need_le arrs rels _ t d _ (fun k hk => hrel k (hkslt k hk) t d)
  · intro k hk hnr
    have hlt := RefineXLemmas.task_lt (ex := ex) (sigma := sigma) (H := H) hidx hk
    exact Nat.le_trans (toSysX_cost_le cbs ex sigma rels H hidx hex k hk)
      (hB _ hlt (fun e => hnr (Or.inl e)) (fun e => hnr (Or.inr e)))

theorem pollingPoint_exec_sound_x (cbs : List Cb) (ex : ℕ → ℕ → ℕ) (sigma : ℕ → Bool) (rels : ℕ → List ℕ) (H i : ℕ)
    (hi : i < cbs.length)
    (hidx : ∀ t, ∀ i ∈ rels t, i < cbs.length) (hfin : ∀ t, H ≤ t → rels t = [])
    (hex : ∀ k, k < cbs.length → ∀ t, 1 ≤ ex k t ∧ ex k t ≤ (cbs.getD k default).cost)
    (sup : Supply) (hs : sup.WF) (hsbf : ∀ t d, sup.sbf d ≤ service sigma t d)
    (arrs : List Arr) (hlen : arrs.length = cbs.length) (hwf : ∀ a ∈ arrs, a.WF ∧ a.Exact)
    (hrel : ∀ k, k < cbs.length → ∀ t d, relCount rels k t d ≤ (arrs.getD k default).N d)
    (limit R : ℕ)
    (hR : rosPollingPoint sup (.rbf (arrs.getD i default) (.scalar (cbs.getD i default).cost))
      (.agg (((List.range cbs.length).filter fun k => decide (k ≠ i)).map
        fun k => .rbf (arrs.getD k default) (.scalar (cbs.getD k default).cost))) limit = .ok R)
    (n : ℕ) :
    ∀ o ∈ ExecX.run cbs ex (fun _ => none) ((List.range n).map sigma) rels, o.1 = i → o.2.2 ≤ o.2.1 + R := by
  have hkslt := EndToEndLemmas.mem_filter_range_lt cbs.length (fun k => decide (k ≠ i))
  have hcpos : ∀ k, k < cbs.length → 1 ≤ (cbs.getD k default).cost :=
    fun k hk => by have := hex k hk 0; omega
  have hagg := EndToEndLemmas.agg_wf arrs cbs.length hlen hwf (fun k => (cbs.getD k default).cost)
    hcpos _ hkslt
  have hai := hwf _ (getD_mem arrs i (by omega))
  refine run_meets_of_sys_x cbs ex sigma rels H hidx hfin hex i R ?_ n
  refine pollingPoint_sound _ sigma i
    (RrSoundLemmas.toTimer (run_polling_legal_x cbs ex sigma rels H hidx hfin hex) i)
    sup hs hsbf (arrs.getD i default) (cbs.getD i default).cost
    hai.1 hai.2 (hcpos i hi) _ (by simp only [RB.ArrWF]; exact hagg.1)
    (by simp only [RB.Exact]; exact hagg.2) ?_ ?_ ?_ limit R hR
  · exact fun t d => Nat.le_trans (EndToEndXLemmas.countOf_toSysX_le cbs ex sigma rels H i t d) (hrel i hi t d)
  · intro k hkn hk
    have := toSysX_cost_le cbs ex sigma rels H hidx hex k hkn
    rw [hk] at this
    exact this
  · intro t d
    refine Nat.le_trans (EndToEndXLemmas.workOf_toSysX_le cbs ex sigma rels H hidx hex _ t d) ?_
    simp only [RB.need]
    exact EndToEndLemmas.need_le arrs rels _ t d _ (fun k hk => hrel k (hkslt k hk) t d)

/-- An analysis that is sound at the schedule level is sound for the completions that `ExecX.run`
reports.  `hsound` is the schedule-level theorem (`rr_singleton_sound`, `bw_singleton_sound`) with
everything it asks of a job system left open; all of it holds for the job system of every run from
hypotheses on the inputs of the run alone: the workload `wl` has one entry per callback, polled
callbacks have distinct priorities, the releases are within the arrival curves. -/
theorem run_meets_of_polling_sound_x (cbs : List Cb) (ex : ℕ → ℕ → ℕ) (sigma : ℕ → Bool)
    (rels : ℕ → List ℕ) (H : ℕ)
    (hidx : ∀ t, ∀ i ∈ rels t, i < cbs.length) (hfin : ∀ t, H ≤ t → rels t = [])
    (hex : ∀ k, k < cbs.length → ∀ t, 1 ≤ ex k t ∧ ex k t ≤ (cbs.getD k default).cost)
    (wl : List Callback) (hlen : wl.length = cbs.length)
    (hprio : ∀ i j, i < cbs.length → j < cbs.length → (cbs.getD i default).isTimer = false →
      (cbs.getD j default).isTimer = false → (cbs.getD i default).prio = (cbs.getD j default).prio → i = j)
    (hrel : ∀ k, k < cbs.length → ∀ t d, relCount rels k t d ≤ (wl.getD k default).arr.N d)
    (hsound : PollingExecLegal (toSysX cbs ex sigma rels H) sigma (toInfoX cbs ex sigma rels) →
      (∀ k, k < (toSysX cbs ex sigma rels H).n → (toSysX cbs ex sigma rels H).task k < wl.length) →
      (∀ i j, i < wl.length → j < wl.length → (toInfoX cbs ex sigma rels).isTimer i = false →
        (toInfoX cbs ex sigma rels).isTimer j = false →
        (toInfoX cbs ex sigma rels).prio i = (toInfoX cbs ex sigma rels).prio j → i = j) →
      (∀ k t d, countOf (toSysX cbs ex sigma rels H) k t (t + d) ≤ (wl.getD k default).arr.N d) →
      (∀ k, k < (toSysX cbs ex sigma rels H).n → 1 ≤ (toSysX cbs ex sigma rels H).cost k ∧
        (toSysX cbs ex sigma rels H).cost k ≤
          (cbs.getD ((toSysX cbs ex sigma rels H).task k) default).cost) →
      ∀ j, j < (toSysX cbs ex sigma rels H).n → MeetsBound (toSysX cbs ex sigma rels H) j
        (wl.getD ((toSysX cbs ex sigma rels H).task j) default).rtb)
    (n i : ℕ) :
    ∀ o ∈ ExecX.run cbs ex (fun _ => none) ((List.range n).map sigma) rels, o.1 = i →
      o.2.2 ≤ o.2.1 + (wl.getD i default).rtb := by
  refine run_meets_of_sys_x cbs ex sigma rels H hidx hfin hex i _ (fun j hj hji => hji ▸
    hsound (run_polling_legal_x cbs ex sigma rels H hidx hfin hex)
      (fun k hk => by rw [hlen]; exact RefineXLemmas.task_lt (ex := ex) (sigma := sigma) (H := H) hidx hk)
      (fun a b ha hb => hprio a b (by omega) (by omega)) ?_
      (fun k hk => ⟨toSysX_cost_pos cbs ex sigma rels H hidx hex k hk,
        toSysX_cost_le cbs ex sigma rels H hidx hex k hk⟩) j hj) n
  intro k t d
  have h := EndToEndXLemmas.countOf_toSysX_le cbs ex sigma rels H k t d
  rcases Nat.lt_or_ge k cbs.length with hk | hk
  · exact Nat.le_trans h (hrel k hk t d)
  · rw [EndToEndLemmas.relCount_zero rels cbs.length hidx k hk t d] at h; omega

end RTA.ExecX
