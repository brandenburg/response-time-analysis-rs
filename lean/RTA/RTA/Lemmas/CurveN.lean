import RTA.Lemmas.Steps
/-! The delta-min curve: closed form of `number_arrivals`, monotonicity, and the
undercounting theorem against sequences that respect the delta-min vector (C10). -/

namespace RTA
open RTA.Spec

theorem getLastD_cons_cons (a b : Nat) (l : List Nat) :
    (a :: b :: l).getLastD 0 = (b :: l).getLastD 0 := by
  simp

theorem curveLookup_eq (d : List Nat) (hs : d.Pairwise (· ≤ ·)) (hne : d ≠ []) (x : Nat)
    (h : x ≤ d.getLastD 0) : curveLookup d x = some (1 + countLt d x) := by
  induction d with
  | nil => exact absurd rfl hne
  | cons a as ih =>
    unfold curveLookup
    by_cases hxa : x ≤ a
    · rw [if_pos hxa, countLt_eq_zero]
      intro v hv
      have := sorted_head_le hs v hv
      omega
    · rw [if_neg hxa]
      cases as with
      | nil => exact absurd h hxa
      | cons b bs =>
        rw [getLastD_cons_cons] at h
        rw [ih (List.pairwise_cons.1 hs).2 (by simp) h, countLt_cons a, if_pos (by omega)]
        simp; omega

theorem curveN_closed (d : List Nat) (hwf : curveWF d) (c tail : Nat)
    (ht1 : 1 ≤ tail) (ht : tail ≤ d.getLastD 0) :
    curveN d (c * d.getLastD 0 + tail) = c * d.length + (1 + countLt d tail) := by
  obtain ⟨hne, hs, hl⟩ := hwf
  unfold curveN
  generalize hL : d.getLastD 0 = L at *
  rw [if_neg (by omega)]
  have hq : (c * L + tail - 1) / L = c := by
    have e : c * L + tail - 1 = L * c + (tail - 1) := by rw [Nat.mul_comm]; omega
    rw [e, Nat.mul_add_div (by omega), Nat.div_eq_of_lt (by omega)]; rfl
  have hr : c * L + tail - L * c = tail := by rw [Nat.mul_comm]; omega
  simp only [hq, hr]
  split
  · rw [curveLookup_eq d hs hne tail (by omega)]
    rfl
  · rename_i hngt
    rw [countLt_eq_zero]
    cases d with
    | nil => exact absurd rfl hne
    | cons a as =>
      intro v hv
      have := sorted_head_le hs v hv
      simp only [List.headD_cons] at hngt
      omega

theorem curveN_zero (d : List Nat) : curveN d 0 = 0 := by
  simp [curveN]

theorem curveN_of_le_last (d : List Nat) (hwf : curveWF d) (x : Nat) (hx : x ≤ d.getLastD 0) :
    curveN d x = (if x = 0 then 0 else 1 + countLt d x) := by
  by_cases h0 : x = 0
  · subst h0; rw [curveN_zero]; rfl
  · have := curveN_closed d hwf 0 x (by omega) hx
    rw [Nat.zero_mul, Nat.zero_add] at this
    rw [this, if_neg h0]; omega

theorem curveN_decomp (d : List Nat) (hwf : curveWF d) (x : Nat) (hx : 1 ≤ x) :
    ∃ c t, 1 ≤ t ∧ t ≤ d.getLastD 0 ∧ x = c * d.getLastD 0 + t ∧
      curveN d x = c * d.length + (1 + countLt d t) := by
  have hpos : 0 < d.getLastD 0 := hwf.2.2
  have hdm := Nat.div_add_mod' (x - 1) (d.getLastD 0)
  have hlt := Nat.mod_lt (x - 1) hpos
  refine ⟨(x - 1) / d.getLastD 0, (x - 1) % d.getLastD 0 + 1, by omega, by omega, by omega, ?_⟩
  have h := curveN_closed d hwf ((x - 1) / d.getLastD 0) ((x - 1) % d.getLastD 0 + 1)
    (by omega) (by omega)
  have e : (x - 1) / d.getLastD 0 * d.getLastD 0 + ((x - 1) % d.getLastD 0 + 1) = x := by omega
  rw [e] at h
  exact h

theorem curveN_mono (d : List Nat) (hwf : curveWF d) : MonoN (curveN d) := by
  intro a b hab
  by_cases ha0 : a = 0
  · subst ha0; rw [curveN_zero]; exact Nat.zero_le _
  obtain ⟨ca, ta, hta1, hta, ha, hNa⟩ := curveN_decomp d hwf a (by omega)
  obtain ⟨cb, tb, htb1, htb, hb, hNb⟩ := curveN_decomp d hwf b (by omega)
  rw [hNa, hNb]
  have hca := countLt_lt_length d hwf.1 ta hta
  have hmono := fun h => countLt_mono d ta tb h
  generalize d.getLastD 0 = L at *
  generalize d.length = n at *
  generalize countLt d ta = ka at *
  generalize countLt d tb = kb at *
  subst ha hb
  rcases Nat.lt_trichotomy ca cb with h | h | h
  · obtain ⟨e, rfl⟩ : ∃ e, cb = ca + 1 + e := ⟨cb - ca - 1, by omega⟩
    rw [Nat.add_mul, Nat.add_mul, Nat.one_mul]
    omega
  · subst h
    have : ta ≤ tb := by omega
    have := hmono this
    omega
  · obtain ⟨e, rfl⟩ : ∃ e, ca = cb + 1 + e := ⟨ca - cb - 1, by omega⟩
    rw [Nat.add_mul, Nat.add_mul, Nat.one_mul] at hab
    omega

theorem curveN_pos (d : List Nat) (hwf : curveWF d) (x : Nat) (hx : 1 ≤ x) : 0 < curveN d x := by
  obtain ⟨c, t, ht1, ht, hxe, hN⟩ := curveN_decomp d hwf x hx
  rw [hN]
  omega

/-- lower bound on the span of `m + 1` consecutive events of a sequence respecting `d`:
whole blocks of `len` gaps span `last` each, the remainder is read off `d` -/
def spanLB (d : List Nat) (m : Nat) : Nat :=
  (m / d.length) * d.getLastD 0 + (if m % d.length = 0 then 0 else d.getD (m % d.length - 1) 0)

theorem respects_span_aux (d rels : List Nat) (h : Respects d rels) (q r : Nat)
    (hr : r < d.length) : ∀ i, i + (q * d.length + r) < rels.length →
      rels.getD i 0 + (q * d.getLastD 0 + (if r = 0 then 0 else d.getD (r - 1) 0)) ≤
        rels.getD (i + (q * d.length + r)) 0 := by
  induction q with
  | zero =>
    intro i hi
    simp only [Nat.zero_mul, Nat.zero_add] at hi ⊢
    split
    · rename_i h0; subst h0; simp
    · have := h.2 i (r - 1) (by omega) (by omega)
      have e : i + (r - 1) + 1 = i + r := by omega
      rw [e] at this; exact this
  | succ q ih =>
    intro i hi
    rw [Nat.add_mul, Nat.one_mul] at hi ⊢
    rw [Nat.add_mul, Nat.one_mul]
    have h1 := h.2 i (d.length - 1) (by omega) (by omega)
    rw [getD_last d] at h1
    have e : i + (d.length - 1) + 1 = i + d.length := by omega
    rw [e] at h1
    have h2 := ih (i + d.length) (by omega)
    have e2 : i + d.length + (q * d.length + r) = i + (q * d.length + d.length + r) := by omega
    rw [e2] at h2
    omega

theorem respects_span (d rels : List Nat) (hne : d ≠ []) (h : Respects d rels) (i m : Nat)
    (him : i + m < rels.length) : rels.getD i 0 + spanLB d m ≤ rels.getD (i + m) 0 := by
  have hlen : 0 < d.length := List.length_pos_iff.2 hne
  have := respects_span_aux d rels h (m / d.length) (m % d.length) (Nat.mod_lt _ hlen) i
    (by rw [Nat.div_add_mod']; exact him)
  rw [Nat.div_add_mod'] at this
  exact this

theorem curveN_spanLB (d : List Nat) (hwf : curveWF d) (x m : Nat) (hx : 1 ≤ x)
    (hm : curveN d x ≤ m) : x ≤ spanLB d m := by
  obtain ⟨c, t, ht1, ht, hxe, hN⟩ := curveN_decomp d hwf x hx
  have hlen : 0 < d.length := List.length_pos_iff.2 hwf.1
  rw [hN] at hm
  unfold spanLB
  have hmd := Nat.div_add_mod' m d.length
  have hr := Nat.mod_lt m hlen
  have hget := getD_ge_of_countLt d hwf.2.1 t (m % d.length - 1)
  generalize m / d.length = q at *
  generalize m % d.length = r at *
  generalize d.getLastD 0 = L at *
  generalize d.length = n at *
  subst hxe hmd
  rcases Nat.lt_trichotomy q c with h | h | h
  · obtain ⟨e, rfl⟩ : ∃ e, c = q + 1 + e := ⟨c - q - 1, by omega⟩
    rw [Nat.add_mul, Nat.add_mul, Nat.one_mul] at hm
    omega
  · subst h
    rw [if_neg (by omega)]
    have := hget (by omega) (by omega)
    omega
  · obtain ⟨e, rfl⟩ : ∃ e, q = c + 1 + e := ⟨q - c - 1, by omega⟩
    rw [Nat.add_mul, Nat.add_mul, Nat.one_mul]
    omega

theorem cnt_span (rels : List Nat) (hs : rels.Pairwise (· ≤ ·)) (t x m : Nat)
    (h : m + 1 ≤ cnt rels t x) :
    ∃ i, i + m < rels.length ∧ t ≤ rels.getD i 0 ∧ rels.getD (i + m) 0 < t + x := by
  have hc := countLt_add_cnt rels t x
  have hl := countLt_le_length rels (t + x)
  exact ⟨countLt rels t, by omega, getD_ge_of_countLt rels hs t _ (Nat.le_refl _) (by omega),
    getD_lt_of_countLt rels hs (t + x) _ (by omega)⟩

/-- C10 (`never_undercounts`) for `Curve`. -/
theorem curve_bounds (d : List Nat) (hwf : curveWF d) (rels : List Nat) (h : Respects d rels)
    (t x : Nat) : cnt rels t x ≤ curveN d x := by
  by_cases hx : x = 0
  · subst hx; rw [cnt_zero]; exact Nat.zero_le _
  · apply Nat.le_of_not_lt
    intro hlt
    obtain ⟨i, h1, h2, h3⟩ := cnt_span rels h.1 t x (curveN d x) hlt
    have h4 := respects_span d rels hwf.1 h i (curveN d x) h1
    have h5 := curveN_spanLB d hwf x (curveN d x) (by omega) (Nat.le_refl _)
    omega
end RTA
