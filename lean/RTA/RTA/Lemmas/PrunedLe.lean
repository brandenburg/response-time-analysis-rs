import RTA.Lemmas.MonoRos
/-! C07 / finding K2, the direction that always holds: the timer and polling-point analyses (and
with them the chain analysis, which is the polling-point one) examine only the step offsets of the
analysed demand; their result is never LARGER than the evaluation of the defining inequalities
over every offset up to the busy-window bound, and an error of the pruned analysis implies an
error of the all-offset evaluation. -/

namespace RTA
open RTA.Spec

namespace PrunedLeLemmas
open RosNaiveLemmas MonoRosLemmas

theorem onSteps_leD_all (s : Supply) (own : RB) (hwf : own.ArrWF) (hex : own.Exact)
    (bwRhs : Nat → Nat) (offRhs : Nat → Nat → Nat) (limit : Nat) :
    Res.leD (naiveRosBoundOn s bwRhs offRhs limit (rosOffsets own))
      (naiveRosBound s bwRhs offRhs limit) := by
  rw [naiveRosBound_eq_on]
  apply rosBoundOn_leD s s (fun _ => Nat.le_refl _) bwRhs bwRhs offRhs offRhs limit
  · intro x; exact Nat.le_refl _
  · intro A x; exact Nat.le_refl _
  · intro m m' hmm A hA
    have h := ((mem_rosOffsets own hwf hex m A).1 hA).1
    exact List.mem_range.2 (by omega)

end PrunedLeLemmas
open PrunedLeLemmas RosNaiveLemmas

theorem timer_le_all_offsets (s : Supply) (hs : s.WF) (a : Arr) (C : Nat) (interf : RB)
    (hwf : a.WF) (hex : a.Exact) (hC : 1 ≤ C) (hpos : 0 < a.N 1)
    (hwfi : interf.ArrWF) (hexi : interf.Exact) (B limit : Nat) (hl : 1 ≤ limit) :
    Res.leD (rosTimer s (.rbf a (.scalar C)) interf B limit)
      (naiveTimer s (.rbf a (.scalar C)) interf B limit) := by
  obtain ⟨h1, h2⟩ := scalar_rb_side a C hwf hex hC
  rw [timer_eq_naive_on_steps s hs a C interf hwf hex hC hpos hwfi hexi B limit hl]
  exact onSteps_leD_all s _ h1 h2 _ _ limit

theorem pollingPoint_le_all_offsets (s : Supply) (hs : s.WF) (a : Arr) (C : Nat) (interf : RB)
    (hwf : a.WF) (hex : a.Exact) (hC : 1 ≤ C) (hpos : 0 < a.N 1)
    (hwfi : interf.ArrWF) (hexi : interf.Exact) (limit : Nat) (hl : 1 ≤ limit) :
    Res.leD (rosPollingPoint s (.rbf a (.scalar C)) interf limit)
      (naivePollingPoint s (.rbf a (.scalar C)) interf limit) := by
  obtain ⟨h1, h2⟩ := scalar_rb_side a C hwf hex hC
  rw [pollingPoint_eq_naive_on_steps s hs a C interf hwf hex hC hpos hwfi hexi limit hl]
  exact onSteps_leD_all s _ h1 h2 _ _ limit

end RTA
