import RTA.Lemmas.Tight
/-! C18, the existential form: the job set, and FIFO.

Every task of a list `ts` of (arrival model, WCET) pairs gets a release list that is sorted,
admissible for the model and attains the arrival curve in every window starting at a common
instant `t₀` (`RealisableAt` says such lists exist); each release is a job at the WCET.  For the
non-preemptive analysis one more job, of the next task index, is released one slot before `t₀`.
`BlockSys` states what the proofs use of a system over this job set, whatever its schedule. -/

open Finset

namespace RTA.Sched
open RTA RTA.Spec

/-- `a` is realisable from the instant `t₀`: up to every horizon there is a sorted admissible
release sequence, nothing released before `t₀`, with exactly `number_arrivals(Δ)` releases in
every window `[t₀, t₀ + Δ)`, `Δ ≤ H` -/
def RealisableAt (a : Arr) (t₀ : ℕ) : Prop :=
  ∀ H, ∃ rels : List ℕ, rels.Pairwise (· ≤ ·) ∧ Admissible a rels ∧ RealisesFrom a rels t₀ H

namespace TightExistsLemmas
open TightLemmas FifoSoundLemmas

/-- the jobs of consecutive tasks `i0, i0 + 1, …`: block `(rels, C)` yields one job per
release, each of cost `C` -/
def jobsFrom : ℕ → List (List ℕ × ℕ) → List (ℕ × ℕ × ℕ)
  | _, [] => []
  | i0, b :: bs => b.1.map (fun r => (i0, r, b.2)) ++ jobsFrom (i0 + 1) bs

theorem filter_jobsFrom_lt (i : ℕ) : ∀ (bs : List (List ℕ × ℕ)) (i0 : ℕ), i < i0 →
    (jobsFrom i0 bs).filter (fun j => decide (j.1 = i)) = [] := by
  intro bs
  induction bs with
  | nil => intro i0 _; rfl
  | cons b bs ih =>
    intro i0 h
    rw [jobsFrom, List.filter_append, ih (i0 + 1) (by omega), List.append_nil,
      List.filter_eq_nil_iff]
    intro j hj
    obtain ⟨r, _, rfl⟩ := List.mem_map.1 hj
    simp only [decide_eq_true_eq]
    omega

theorem filter_jobsFrom (bs : List (List ℕ × ℕ)) : ∀ (i0 k : ℕ) (b : List ℕ × ℕ),
    bs[k]? = some b →
    (jobsFrom i0 bs).filter (fun j => decide (j.1 = i0 + k)) = b.1.map (fun r => (i0 + k, r, b.2)) := by
  induction bs with
  | nil => intro i0 k b h; simp at h
  | cons b' bs ih =>
    intro i0 k b h
    rw [jobsFrom, List.filter_append]
    cases k with
    | zero =>
      rw [List.getElem?_cons_zero, Option.some.injEq] at h
      subst h
      rw [filter_jobsFrom_lt (i0 + 0) bs (i0 + 1) (by omega), List.append_nil, Nat.add_zero,
        List.filter_eq_self]
      intro j hj
      obtain ⟨r, _, rfl⟩ := List.mem_map.1 hj
      simp
    | succ k =>
      rw [List.getElem?_cons_succ] at h
      have hnil : (b'.1.map (fun r => (i0, r, b'.2))).filter (fun j => decide (j.1 = i0 + (k + 1)))
          = [] := by
        rw [List.filter_eq_nil_iff]
        intro j hj
        obtain ⟨r, _, rfl⟩ := List.mem_map.1 hj
        simp only [decide_eq_true_eq]
        omega
      rw [hnil, List.nil_append, show i0 + (k + 1) = i0 + 1 + k by omega]
      exact ih (i0 + 1) k b h

theorem mem_jobsFrom (j : ℕ × ℕ × ℕ) : ∀ (bs : List (List ℕ × ℕ)) (i0 : ℕ), j ∈ jobsFrom i0 bs →
    ∃ k b, bs[k]? = some b ∧ j.1 = i0 + k ∧ j.2.1 ∈ b.1 ∧ j.2.2 = b.2 := by
  intro bs
  induction bs with
  | nil => intro i0 h; simp [jobsFrom] at h
  | cons b bs ih =>
    intro i0 h
    rw [jobsFrom, List.mem_append] at h
    rcases h with h | h
    · obtain ⟨r, hr, rfl⟩ := List.mem_map.1 h
      exact ⟨0, b, rfl, rfl, hr, rfl⟩
    · obtain ⟨k, b', hk, h1, h2, h3⟩ := ih (i0 + 1) h
      exact ⟨k + 1, b', hk, by omega, h2, h3⟩

theorem jobsFrom_mem : ∀ (bs : List (List ℕ × ℕ)) (i0 k : ℕ) (b : List ℕ × ℕ), bs[k]? = some b →
    ∀ r ∈ b.1, (i0 + k, r, b.2) ∈ jobsFrom i0 bs := by
  intro bs
  induction bs with
  | nil => intro i0 k b h; simp at h
  | cons b' bs ih =>
    intro i0 k b h r hr
    rw [jobsFrom, List.mem_append]
    cases k with
    | zero =>
      rw [List.getElem?_cons_zero, Option.some.injEq] at h
      subst h
      exact Or.inl (List.mem_map.2 ⟨r, hr, rfl⟩)
    | succ k =>
      rw [List.getElem?_cons_succ] at h
      rw [show i0 + (k + 1) = i0 + 1 + k by omega]
      exact Or.inr (ih (i0 + 1) k b h r hr)

theorem range_filter_map {α β : Type} (l : List α) (d : α) (p : α → Bool) (f : α → β) :
    ((List.range l.length).filter (fun k => p (l.getD k d))).map (fun k => f (l.getD k d))
      = (l.filter p).map f := by
  have h : (List.range l.length).map (fun k => l.getD k d) = l := by
    apply List.ext_getElem
    · simp
    · intro n h1 h2
      simp only [List.getElem_map, List.getElem_range]
      exact getD_eq_getElem' l n d h2
  conv_rhs => rw [← h]
  rw [List.filter_map, List.map_map]
  rfl

/-- the job set of a list of blocks: the jobs of block `k` form task `k` -/
def jobSetB (bs : List (List ℕ × ℕ)) : JobSet :=
  ⟨(jobsFrom 0 bs).length, fun k => ((jobsFrom 0 bs).getD k (0, 0, 0)).1,
    fun k => ((jobsFrom 0 bs).getD k (0, 0, 0)).2.1, fun k => ((jobsFrom 0 bs).getD k (0, 0, 0)).2.2⟩

theorem job_infoB (bs : List (List ℕ × ℕ)) (k : ℕ) (hk : k < (jobSetB bs).n) :
    ∃ b, bs[(jobSetB bs).task k]? = some b ∧ (jobSetB bs).arr k ∈ b.1 ∧ (jobSetB bs).cost k = b.2 := by
  have hk' : k < (jobsFrom 0 bs).length := hk
  have hmem : (jobsFrom 0 bs).getD k (0, 0, 0) ∈ jobsFrom 0 bs := by
    rw [getD_eq_getElem' _ _ _ hk']; exact List.getElem_mem hk'
  obtain ⟨i, b, hb, e1, e2, e3⟩ := mem_jobsFrom _ _ _ hmem
  rw [Nat.zero_add] at e1
  exact ⟨b, by rw [← e1] at hb; exact hb, e2, e3⟩

theorem job_existsB (bs : List (List ℕ × ℕ)) (i : ℕ) (b : List ℕ × ℕ) (hb : bs[i]? = some b) (r : ℕ)
    (hr : r ∈ b.1) : ∃ k, k < (jobSetB bs).n ∧ (jobSetB bs).task k = i := by
  have h := jobsFrom_mem bs 0 i b hb r hr
  obtain ⟨k, hk, e⟩ := List.getElem_of_mem h
  refine ⟨k, hk, ?_⟩
  show ((jobsFrom 0 bs).getD k (0, 0, 0)).1 = i
  rw [getD_eq_getElem' _ _ _ hk, e, Nat.zero_add]

theorem relsB (bs : List (List ℕ × ℕ)) (np : ℕ → ℕ → Prop) (sched : ℕ → Option ℕ) (i : ℕ)
    (b : List ℕ × ℕ) (hb : bs[i]? = some b) : relsOf ((jobSetB bs).sys np sched) i = b.1 := by
  have e : relsOf ((jobSetB bs).sys np sched) i
      = ((jobsFrom 0 bs).filter (fun j => decide (j.1 = i))).map (fun j => j.2.1) :=
    range_filter_map (jobsFrom 0 bs) (0, 0, 0) (fun j => decide (j.1 = i)) (fun j => j.2.1)
  have := filter_jobsFrom bs 0 i b hb
  rw [Nat.zero_add] at this
  rw [e, this, List.map_map]
  exact List.map_id' _

def RelSpec (a : Arr) (rels : List ℕ) (t₀ L : ℕ) : Prop :=
  rels.Pairwise (· ≤ ·) ∧ Admissible a rels ∧ RealisesFrom a rels t₀ L

theorem exists_rf (ts : List (Arr × ℕ)) (t₀ L : ℕ) (hreal : ∀ p ∈ ts, RealisableAt p.1 t₀) :
    ∃ rf : Arr → List ℕ, ∀ p ∈ ts, RelSpec p.1 (rf p.1) t₀ L := by
  classical
  refine ⟨fun a => if h : RealisableAt a t₀ then Classical.choose (h L) else [], ?_⟩
  intro p hp
  have h := hreal p hp
  simp only [dif_pos h]
  exact Classical.choose_spec (h L)

/-- task `p` releases at `rf p.1`, every job of cost `p.2`; if `B > 0`, one more job of cost
`B + 1` released at `t₀ - 1` -/
def blocks (ts : List (Arr × ℕ)) (rf : Arr → List ℕ) (t₀ B : ℕ) : List (List ℕ × ℕ) :=
  (ts.map fun p => (rf p.1, p.2)) ++ (if B = 0 then [] else [([t₀ - 1], B + 1)])

theorem blocks_lt (ts : List (Arr × ℕ)) (rf : Arr → List ℕ) (t₀ B k : ℕ) (hk : k < ts.length) :
    (blocks ts rf t₀ B)[k]? = some (rf (ts.getD k default).1, (ts.getD k default).2) := by
  unfold blocks
  rw [List.getElem?_append_left (by rw [List.length_map]; exact hk), List.getElem?_map,
    List.getElem?_eq_getElem hk, getD_eq_getElem' ts k default hk]
  rfl

theorem blocks_ge (ts : List (Arr × ℕ)) (rf : Arr → List ℕ) (t₀ B k : ℕ) (b : List ℕ × ℕ)
    (hk : ts.length ≤ k) (h : (blocks ts rf t₀ B)[k]? = some b) :
    B ≠ 0 ∧ k = ts.length ∧ b = ([t₀ - 1], B + 1) := by
  unfold blocks at h
  rw [List.getElem?_append_right (by rw [List.length_map]; exact hk), List.length_map] at h
  by_cases hB : B = 0
  · rw [if_pos hB] at h; cases h
  · rw [if_neg hB] at h
    rcases Nat.eq_zero_or_pos (k - ts.length) with h0 | h0
    · rw [h0, List.getElem?_cons_zero, Option.some.injEq] at h
      exact ⟨hB, by omega, h.symm⟩
    · rw [List.getElem?_eq_none (by show 1 ≤ k - ts.length; omega)] at h; cases h

theorem blocks_len (ts : List (Arr × ℕ)) (rf : Arr → List ℕ) (t₀ B : ℕ) (hB : B ≠ 0) :
    (blocks ts rf t₀ B)[ts.length]? = some ([t₀ - 1], B + 1) := by
  unfold blocks
  rw [List.getElem?_append_right (by rw [List.length_map]), List.length_map, Nat.sub_self, if_neg hB]
  rfl

/-- `s` consists of the jobs of the tasks of `ts` — the releases of task `k` meet `RelSpec`,
every job at the task's WCET — and, if `B > 0`, of one more job of task index `ts.length`,
released at `t₀ - 1` with cost `B + 1` -/
structure BlockSys (s : Sys) (ts : List (Arr × ℕ)) (t₀ L B : ℕ) : Prop where
  rels : ∀ k, k < ts.length → RelSpec (ts.getD k default).1 (relsOf s k) t₀ L
  jobs : ∀ j, j < s.n → (s.task j < ts.length ∧ s.cost j = (ts.getD (s.task j) default).2) ∨
    (s.task j = ts.length ∧ s.arr j = t₀ - 1 ∧ s.cost j = B + 1 ∧ B ≠ 0)
  blocker : B ≠ 0 → ∃ b, b < s.n ∧ s.task b = ts.length

theorem exists_blockSys (ts : List (Arr × ℕ)) (t₀ L B : ℕ) (hreal : ∀ p ∈ ts, RealisableAt p.1 t₀) :
    ∃ js : JobSet, ∀ np sched, BlockSys (js.sys np sched) ts t₀ L B := by
  obtain ⟨rf, hrf⟩ := exists_rf ts t₀ L hreal
  refine ⟨jobSetB (blocks ts rf t₀ B), fun np sched => ⟨?_, ?_, ?_⟩⟩
  · intro k hk
    rw [relsB _ np sched k _ (blocks_lt ts rf t₀ B k hk)]
    exact hrf _ (getD_mem ts k hk)
  · intro j hj
    obtain ⟨b, hb, ha, hc⟩ := job_infoB (blocks ts rf t₀ B) j hj
    rcases Nat.lt_or_ge ((jobSetB (blocks ts rf t₀ B)).task j) ts.length with hlt | hge
    · rw [blocks_lt ts rf t₀ B _ hlt, Option.some.injEq] at hb
      subst hb
      exact Or.inl ⟨hlt, hc⟩
    · obtain ⟨hB, e, rfl⟩ := blocks_ge ts rf t₀ B _ b hge hb
      exact Or.inr ⟨e, List.mem_singleton.1 ha, hc, hB⟩
  · intro hB
    exact job_existsB _ _ _ (blocks_len ts rf t₀ B hB) (t₀ - 1) List.mem_cons_self

theorem mem_relsOf (s : Sys) (j : ℕ) (hj : j < s.n) : s.arr j ∈ relsOf s (s.task j) := by
  unfold relsOf
  exact List.mem_map.2 ⟨j, List.mem_filter.2 ⟨List.mem_range.2 hj, by simp⟩, rfl⟩

theorem sum_le_mul (C : ℕ) : ∀ l : List ℕ, (∀ x ∈ l, x ≤ C) → l.sum ≤ C * l.length
  | [], _ => by simp
  | x :: xs, h => by
    have h1 := h x (by simp)
    have h2 := sum_le_mul C xs (fun y hy => h y (by simp [hy]))
    simp only [List.sum_cons, List.length_cons, Nat.mul_add, Nat.mul_one]
    omega

theorem runSum_le (C : ℕ) (l : List ℕ) (h : ∀ x ∈ l, x ≤ C) (st m : ℕ) :
    runSum l st m ≤ C * m := by
  unfold runSum
  have h1 := sum_le_mul C ((l.drop st).take m)
    (fun x hx => h x (List.mem_of_mem_drop (List.mem_of_mem_take hx)))
  have h2 : ((l.drop st).take m).length ≤ m := by
    rw [List.length_take]; exact Nat.min_le_left _ _
  exact le_trans h1 (Nat.mul_le_mul_left C h2)

namespace BlockSys

variable {s : Sys} {ts : List (Arr × ℕ)} {t₀ L B : ℕ} (h : BlockSys s ts t₀ L B)
include h

theorem cost_eq {j k : ℕ} (hj : j < s.n) (hjk : s.task j = k) (hk : k < ts.length) :
    s.cost j = (ts.getD k default).2 := by
  rcases h.jobs j hj with ⟨_, h2⟩ | ⟨h1, _⟩
  · rw [h2, hjk]
  · omega

theorem low {j : ℕ} (hj : j < s.n) (hge : ts.length ≤ s.task j) :
    s.task j = ts.length ∧ s.arr j = t₀ - 1 ∧ s.cost j = B + 1 ∧ B ≠ 0 := by
  rcases h.jobs j hj with ⟨h1, _⟩ | h1
  · omega
  · exact h1

theorem arr_ge {j : ℕ} (hj : j < s.n) (hlt : s.task j < ts.length) : t₀ ≤ s.arr j :=
  (h.rels _ hlt).2.2.1 _ (mem_relsOf s j hj)

theorem cost_pos (hwf : ∀ p ∈ ts, p.1.WF ∧ p.1.Exact ∧ 1 ≤ p.2) {j : ℕ} (hj : j < s.n) :
    1 ≤ s.cost j := by
  rcases h.jobs j hj with ⟨h1, h2⟩ | ⟨_, _, h2, _⟩
  · rw [h2]; exact (hwf _ (getD_mem ts _ h1)).2.2
  · omega

theorem taskCompliant {k : ℕ} (hk : k < ts.length) :
    TaskCompliant s k (ts.getD k default).1 (.scalar (ts.getD k default).2) := by
  obtain ⟨hs, ha, _⟩ := h.rels k hk
  refine ⟨hs, ha, fun st m => runSum_le _ _ ?_ st m⟩
  intro x hx
  unfold costsOf at hx
  obtain ⟨j, hj, rfl⟩ := List.mem_map.1 hx
  rw [List.mem_filter, List.mem_range] at hj
  exact le_of_eq (h.cost_eq hj.1 (by simpa using hj.2) hk)

theorem work_le (hwf : ∀ p ∈ ts, p.1.WF ∧ p.1.Exact ∧ 1 ≤ p.2) {k : ℕ} (hk : k < ts.length)
    (t d : ℕ) : workOf s (fun x => x = k) t (t + d)
      ≤ (ts.getD k default).2 * (ts.getD k default).1.N d := by
  have := task_work_le s k (ts.getD k default).1 (Cost.scalar (ts.getD k default).2)
    (hwf _ (getD_mem ts k hk)).1 trivial (h.taskCompliant hk) t d
  simpa only [Cost.ofJobs] using this

theorem work_eq {k : ℕ} (hk : k < ts.length) {Δ : ℕ} (hΔ : Δ ≤ L) :
    workOf s (fun x => x = k) t₀ (t₀ + Δ) = (ts.getD k default).2 * (ts.getD k default).1.N Δ := by
  rw [workOf_const s k _ t₀ Δ (fun j hj hjk => h.cost_eq hj hjk hk), (h.rels k hk).2.2.2 Δ hΔ]

omit h in
theorem compliant (h : BlockSys s ts t₀ L 0) :
    Compliant s (ts.map fun p => (p.1, Cost.scalar p.2)) := by
  constructor
  · intro j hj
    rw [List.length_map]
    rcases h.jobs j hj with ⟨h1, _⟩ | ⟨_, _, _, h4⟩
    · exact h1
    · exact absurd rfl h4
  · intro k hk
    have hk' : k < ts.length := by rw [List.length_map] at hk; exact hk
    have := h.taskCompliant hk'
    rw [getD_eq_getElem' ts k default hk'] at this
    simpa only [List.getElem_map] using this

end BlockSys

end TightExistsLemmas
open TightExistsLemmas TightLemmas FifoSoundLemmas

/-- FIFO: realisable task sets attain the bound -/
theorem fifo_tight_realisable (ts : List (Arr × ℕ))
    (hwf : ∀ p ∈ ts, p.1.WF ∧ p.1.Exact ∧ 1 ≤ p.2) (t₀ : ℕ)
    (hreal : ∀ p ∈ ts, RealisableAt p.1 t₀) (limit R : ℕ)
    (hR : fifoRta (taskSetRB (ts.map fun p => (p.1, Cost.scalar p.2))) limit = .ok R) (hRpos : 0 < R) :
    ∃ s : Sys, FifoLegal s ∧ Compliant s (ts.map fun p => (p.1, Cost.scalar p.2)) ∧
      ∃ j, j < s.n ∧ MeetsBound s j R ∧ ∀ R', R' < R → ¬ MeetsBound s j R' := by
  obtain ⟨L, hL, _⟩ := fifo_window ts hwf limit R hR
  obtain ⟨js, hjs⟩ := exists_blockSys ts t₀ L 0 hreal
  obtain ⟨sched, hl⟩ := exists_fifo_schedule js
  have hb := hjs (fun _ _ => False) sched
  have hc := hb.compliant
  refine ⟨_, hl, hc, attained_core _ hl ts hwf hc ?_ limit R L t₀ hR hL ?_ hRpos⟩
  · intro k hk
    exact hb.cost_eq hk rfl (by have := hc.task_lt k hk; rwa [List.length_map] at this)
  · intro i hi Δ hΔ
    exact (hb.rels i hi).2.2.2 Δ hΔ

end RTA.Sched
