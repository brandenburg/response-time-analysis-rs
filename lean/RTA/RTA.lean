import RTA.Model.Basic
import RTA.Model.Supply
import RTA.Model.FixedPoint
import RTA.Model.Curve
import RTA.Model.Arrival
import RTA.Model.XCurve
import RTA.Model.Derive
import RTA.Model.Cost
import RTA.Model.XCost
import RTA.Model.Demand
import RTA.Model.Analyses
import RTA.Model.Ros
import RTA.Spec.SupplyProc
import RTA.Spec.Events
import RTA.Lemmas.FixedPoint
import RTA.Lemmas.Supply
import RTA.Lemmas.ListBasics
import RTA.Lemmas.Steps
import RTA.Lemmas.Sporadic
import RTA.Lemmas.CurveN
import RTA.Lemmas.CurveSteps
import RTA.Lemmas.Extrapolate
import RTA.Lemmas.Prefix
import RTA.Lemmas.ArrAll
import RTA.Lemmas.Cost
import RTA.Lemmas.Demand
import RTA.Props.C08
import RTA.Props.C09
import RTA.Lemmas.RBSteps
import RTA.Props.C10
import RTA.Props.C11
import RTA.Props.C13
import RTA.Props.C14
import RTA.Props.C16
import RTA.Lemmas.Derive
import RTA.Lemmas.XCurveLTS
import RTA.Props.C12
import RTA.Lemmas.CostTrace
import RTA.Props.C06
import RTA.Props.C03
import RTA.Props.C01
import RTA.Props.C02
import RTA.Props.C17
import RTA.Props.C19
import RTA.Props.C20
import RTA.Props.C07
import RTA.Props.C15
import RTA.Props.C18
import RTA.Props.C04
import RTA.Props.C05
